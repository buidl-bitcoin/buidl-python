/-
  Buidl.Proofs.Mnemonic — for C14: `str.split` / `" ".join`, the word-table lookup, the 11-bit digit arithmetic of
  bytes_to_mnemonic / mnemonic_to_bytes, and what the kernel-checked `checkWL` of Proofs/WordTable says of a table.
  `lookupAll` and the model's `mapM?` are core's `List.mapM`, which Proofs/ListM reduces to `List.map`.
-/
import Buidl.Proofs.WordTable
import Buidl.Proofs.PBKDF2
import Buidl.Proofs.Bytes
import Buidl.Proofs.Digits
import Buidl.Proofs.ListM
import Mathlib.Tactic.Ring
import Mathlib.Tactic.NormNum
namespace Buidl.Mnemonic
open Buidl

/-! ## split / join -/

theorem splitAux_word (w : PyStr) (hw : ∀ c ∈ w, isSpace c = false) (rest cur : PyStr) :
    splitAux (w ++ rest) cur = splitAux rest (w.reverse ++ cur) := by
  induction w generalizing cur with
  | nil => simp
  | cons c w ih =>
    have hc : isSpace c = false := hw c (by simp)
    simp only [List.cons_append, splitAux, hc, Bool.false_eq_true, if_false]
    rw [ih (fun d hd => hw d (by simp [hd]))]
    simp

/-- a word that survives `split()` unchanged -/
def IsWord (w : PyStr) : Prop := w ≠ [] ∧ ∀ c ∈ w, isSpace c = false

theorem pySplit_pyJoin (ws : List PyStr) (h : ∀ w ∈ ws, IsWord w) : pySplit (pyJoin ws) = ws := by
  unfold pySplit
  induction ws with
  | nil => simp [pyJoin, splitAux]
  | cons w r ih =>
    obtain ⟨hne, hsp⟩ := h w (by simp)
    have hrev : w.reverse.isEmpty = false := by
      cases w with
      | nil => exact absurd rfl hne
      | cons a t => simp
    cases r with
    | nil =>
      have := splitAux_word w hsp [] []
      simp only [List.append_nil] at this
      simp [pyJoin, this, splitAux, hrev]
    | cons w' r' =>
      have := splitAux_word w hsp (32 :: pyJoin (w' :: r')) []
      simp only [List.append_nil] at this
      have h32 : isSpace 32 = true := by decide
      have hj : pyJoin (w :: w' :: r') = w ++ 32 :: pyJoin (w' :: r') := rfl
      rw [hj, this, splitAux, if_pos h32, hrev]
      simp only [Bool.false_eq_true, if_false, List.reverse_reverse]
      rw [ih (fun x hx => h x (by simp [hx]))]

theorem splitAux_isWord : ∀ (s cur : PyStr), (∀ c ∈ cur, isSpace c = false) →
    ∀ w ∈ splitAux s cur, IsWord w := by
  have hrev : ∀ cur : PyStr, (∀ c ∈ cur, isSpace c = false) → ¬ cur.isEmpty = true → IsWord cur.reverse :=
    fun cur hc hne => ⟨fun h => hne (by simpa using h), fun c hcm => hc c (List.mem_reverse.mp hcm)⟩
  intro s
  induction s with
  | nil =>
    intro cur hc w hw
    rw [splitAux] at hw
    split at hw
    · cases hw
    · rename_i hne
      rw [List.mem_singleton.mp hw]
      exact hrev cur hc hne
  | cons c r ih =>
    intro cur hc w hw
    rw [splitAux] at hw
    by_cases hsp : isSpace c = true
    · rw [if_pos hsp] at hw
      split at hw
      · exact ih [] (fun _ h => nomatch h) w hw
      · rename_i hne
        rcases List.mem_cons.mp hw with rfl | hw
        · exact hrev cur hc hne
        · exact ih [] (fun _ h => nomatch h) w hw
    · rw [if_neg hsp] at hw
      refine ih (c :: cur) (fun d hd => ?_) w hw
      rcases List.mem_cons.mp hd with rfl | hd
      · simpa using hsp
      · exact hc d hd
/-! ## WordList.lookup -/

theorem lookupAux_sound (key : PyStr) (ws : List PyStr) :
    ∀ (s : Nat) (acc : Option Nat) (i : Nat), lookupAux key ws s acc = some i →
      acc = some i ∨ ∃ j, j < ws.length ∧ i = s + j ∧ matchesKey (ws.getD j []) key = true := by
  induction ws with
  | nil => intro s acc i h; exact Or.inl h
  | cons w r ih =>
    intro s acc i h
    rw [lookupAux] at h
    rcases ih _ _ _ h with h1 | ⟨j, hj, hi, hm⟩
    · by_cases hm : matchesKey w key = true
      · rw [if_pos hm] at h1
        exact Or.inr ⟨0, Nat.zero_lt_succ _, (Option.some.inj h1).symm, hm⟩
      · rw [if_neg hm] at h1
        exact Or.inl h1
    · exact Or.inr ⟨j + 1, Nat.succ_lt_succ hj, by omega, hm⟩

theorem lookupAux_eq_none_iff (key : PyStr) (ws : List PyStr) : ∀ (s : Nat) (acc : Option Nat),
    lookupAux key ws s acc = none ↔
      acc = none ∧ ∀ j, j < ws.length → matchesKey (ws.getD j []) key = false := by
  induction ws with
  | nil => intro s acc; simp [lookupAux]
  | cons w r ih =>
    intro s acc
    rw [lookupAux, ih, List.length_cons, Nat.forall_lt_succ_left]
    cases hm : matchesKey w key <;> simp [hm]

def KeysUnique (ws : List PyStr) : Prop :=
  ∀ i j key, i < ws.length → j < ws.length →
    matchesKey (ws.getD i []) key = true → matchesKey (ws.getD j []) key = true → i = j

theorem lookup_some (wl : WordList) (i : Nat) (key : PyStr) (h : wl.lookup key = some i) :
    i < wl.words.length ∧ matchesKey (wl.words.getD i []) key = true := by
  rcases lookupAux_sound key wl.words 0 none i h with h1 | ⟨j, hj, hi, hm⟩
  · cases h1
  · have : i = j := by omega
    subst this; exact ⟨hj, hm⟩

theorem lookup_of_match (wl : WordList) (hu : KeysUnique wl.words) (i : Nat) (key : PyStr)
    (hi : i < wl.words.length) (hm : matchesKey (wl.words.getD i []) key = true) :
    wl.lookup key = some i := by
  cases hx : wl.lookup key with
  | none => rw [((lookupAux_eq_none_iff key wl.words 0 none).mp hx).2 i hi] at hm; cases hm
  | some x =>
    obtain ⟨hxl, hxm⟩ := lookup_some wl x key hx
    rw [hu x i key hxl hi hxm hm]

theorem lookup_iff (wl : WordList) (hu : KeysUnique wl.words) (i : Nat) (key : PyStr) :
    wl.lookup key = some i ↔ i < wl.words.length ∧ matchesKey (wl.words.getD i []) key = true :=
  ⟨lookup_some wl i key, fun ⟨h1, h2⟩ => lookup_of_match wl hu i key h1 h2⟩

theorem matchesKey_self (w : PyStr) : matchesKey w w = true := by simp [matchesKey]

theorem matchesKey_eq (w key : PyStr) :
    matchesKey w key = true ↔ w = key ∨ (w.length > 4 ∧ w.take 4 = key) := by
  have hcmp : cmpOp Gen.wlPrefixOp w.length Gen.wlPrefixOver = decide (w.length > 4) := by
    simp [cmpOp, Gen.wlPrefixOp]
  unfold matchesKey
  rw [hcmp]
  simp

theorem matchesKey_iff (w key : PyStr) : matchesKey w key = true ↔ key ∈ keysOf w := by
  unfold matchesKey keysOf
  cases cmpOp Gen.wlPrefixOp w.length Gen.wlPrefixOver <;>
    simp [@eq_comm _ key, or_comm]

theorem getD_mem (ws : List PyStr) (d : Nat) (hd : d < ws.length) : ws.getD d [] ∈ ws :=
  List.getElem_eq_getD (h := hd) [] ▸ List.getElem_mem hd

theorem word_eq_getD (wl : WordList) (i : Nat) (hi : i < wl.words.length) :
    wl.word i = some (wl.words.getD i []) := by
  rw [WordList.word, ← List.getElem_eq_getD (h := hi) []]; exact List.getElem?_eq_getElem hi

/-! ## `mapM?` and `lookupAll` -/

theorem mapM?_eq_mapM {α β} (f : α → Option β) (l : List α) : mapM? f l = l.mapM f := by
  induction l with
  | nil => rfl
  | cons a l ih => rw [mapM?, ih, List.mapM_option_cons]; cases f a <;> cases List.mapM f l <;> rfl

theorem mapM?_length {α β} (f : α → Option β) (l : List α) (l' : List β) (h : mapM? f l = some l') :
    l'.length = l.length :=
  List.mapM_some_length (mapM?_eq_mapM f l ▸ h)

theorem mapM?_eq_some_iff_map {α β} {f : α → Option β} {l : List α} {r : List β} :
    mapM? f l = some r ↔ l.map f = r.map some := by
  rw [mapM?_eq_mapM]; exact List.mapM_eq_some_iff_map

theorem mapM?_nodup {α β} {f : α → Option β} {l : List α} {r : List β} (h : mapM? f l = some r)
    (hnd : r.Nodup) : l.Nodup :=
  List.Pairwise.of_map (S := (· ≠ ·)) f (fun _ _ hab e => hab (congrArg f e))
    (mapM?_eq_some_iff_map.mp h ▸ List.Pairwise.map (S := (· ≠ ·)) some (fun _ _ hab e => hab (Option.some.inj e)) hnd)

/-- a partial inverse `g` of `f` on `l` reads any selection `sub` of the results back, as a selection of `l` that
    `f` maps to `sub` again (so it is as long as `sub`, and repeats nothing if `sub` does not) -/
theorem mapM?_inverse_subset {α β} {f : α → Option β} {g : β → Option α} {l : List α} {r : List β}
    (h : mapM? f l = some r) (hfg : ∀ a ∈ l, ∀ b, f a = some b → g b = some a) :
    ∀ sub : List β, (∀ b ∈ sub, b ∈ r) → ∃ s, mapM? g sub = some s ∧ (∀ a ∈ s, a ∈ l) ∧ mapM? f s = some sub
  | [], _ => ⟨[], rfl, fun _ h => (nomatch h), rfl⟩
  | b :: sub, hsub => by
    obtain ⟨a, ha, hab⟩ := List.mapM_some_mem_right (mapM?_eq_mapM f l ▸ h) (hsub b List.mem_cons_self)
    obtain ⟨s, h1, h2, h3⟩ := mapM?_inverse_subset h hfg sub fun b hb => hsub b (List.mem_cons_of_mem _ hb)
    refine ⟨a :: s, ?_, List.forall_mem_cons.mpr ⟨ha, h2⟩, ?_⟩
    · rw [mapM?, hfg a ha b hab, h1]
    · rw [mapM?, hab, h3]

theorem lookupAll_eq (wl : WordList) (ws : List PyStr) : lookupAll wl ws = ws.mapM wl.lookup := by
  induction ws with
  | nil => rfl
  | cons w r ih =>
    rw [lookupAll, ih, List.mapM_option_cons]; cases wl.lookup w <;> cases List.mapM wl.lookup r <;> rfl

theorem lookupAll_length (wl : WordList) (ws : List PyStr) (idx : List Nat) (h : lookupAll wl ws = some idx) :
    idx.length = ws.length :=
  List.mapM_some_length (lookupAll_eq wl ws ▸ h)

theorem lookupAll_lt (wl : WordList) (ws : List PyStr) (idx : List Nat) (h : lookupAll wl ws = some idx) :
    ∀ d ∈ idx, d < wl.words.length := by
  intro d hd
  obtain ⟨w, _, hw⟩ := List.mapM_some_mem_right (lookupAll_eq wl ws ▸ h) hd
  exact (lookup_some wl d w hw).1

/-! ## 11-bit digits: the words are `Digits.digitsBE 2048`, read back by `ofDigits` -/

def ofDigits (acc : Nat) (ds : List Nat) : Nat := ds.foldl (fun a d => a * 2048 + d) acc

theorem ofDigits_eq (acc : Nat) (ds : List Nat) : ofDigits acc ds = Digits.ofDigitsBE 2048 acc ds := rfl

theorem bitsToWords_eq (wl : WordList) (hl : wl.words.length = 2048) :
    ∀ (n N : Nat) (acc : List PyStr),
      bitsToWords wl n N acc = some ((Digits.digitsBE 2048 n N).map (fun d => wl.words.getD d []) ++ acc) := by
  intro n
  induction n with
  | zero => intro N acc; simp [bitsToWords, Digits.digitsBE]
  | succ n ih =>
    intro N acc
    have hlt : N % 2048 < wl.words.length := by rw [hl]; exact Nat.mod_lt _ (by decide)
    have hw : wl.word (N &&& ((1 <<< Gen.b2mWordBits2) - 1)) = some (wl.words.getD (N % 2048) []) := by
      rw [and_mask]; exact word_eq_getD wl _ hlt
    rw [bitsToWords, hw]
    simp only
    rw [ih, Nat.shiftRight_eq_div_pow]
    have e : (2 : Nat) ^ Gen.b2mWordBits3 = 2048 := by decide
    simp [Digits.digitsBE, e]

theorem wordsToBits_eq (wl : WordList) (ws : List PyStr) :
    ∀ acc, wordsToBits wl ws acc = (lookupAll wl ws).map (ofDigits acc) := by
  induction ws with
  | nil => intro acc; simp [wordsToBits, lookupAll, ofDigits]
  | cons w r ih =>
    intro acc
    rw [wordsToBits, lookupAll]
    cases hw : wl.lookup w with
    | none => simp
    | some i =>
      simp only
      rw [ih]
      cases lookupAll wl r with
      | none => simp
      | some is =>
        have e : (2 : Nat) ^ Gen.m2bWordBits = 2048 := by decide
        simp [ofDigits, Nat.shiftLeft_eq, e]

theorem lookupAll_map_words (wl : WordList) (hu : KeysUnique wl.words) (ds : List Nat)
    (hd : ∀ d ∈ ds, d < wl.words.length) :
    lookupAll wl (ds.map fun d => wl.words.getD d []) = some ds := by
  rw [lookupAll_eq, List.mapM_eq_some_iff_map, List.map_map]
  exact List.map_congr_left fun d h => lookup_of_match wl hu d _ (hd d h) (matchesKey_self _)

/-! ## entropy → words → entropy -/

/-- arithmetic side conditions of one BIP39 size: `L` entropy bytes, `cs` checksum bits, `nw` words;
    all read off the extracted constants -/
structure SizeOK (L cs nw : Nat) : Prop where
  hbits : Gen.b2mNumBits.contains (8 * L) = true
  hcs : 8 * L / Gen.b2mCsDiv = cs
  hcs8 : cs ≤ 8
  hnw : (8 * L + cs) / Gen.b2mWordBits = nw
  hsum : 8 * L + cs = 11 * nw
  hcnt : Gen.m2bWordCounts.contains nw = true
  hcs' : nw / Gen.m2bCsDiv = cs
  hnb : (nw * Gen.m2bWordBits2 - cs) / Gen.m2bByteBits = L

theorem sizeOK_of_bytes (L : Nat) (h : L = 16 ∨ L = 20 ∨ L = 24 ∨ L = 28 ∨ L = 32) :
    SizeOK L (L / 4) ((8 * L + L / 4) / 11) := by
  rcases h with rfl | rfl | rfl | rfl | rfl <;> constructor <;> decide

theorem sizeOK_of_words (n : Nat) (h : n = 12 ∨ n = 15 ∨ n = 18 ∨ n = 21 ∨ n = 24) :
    SizeOK ((11 * n - n / 3) / 8) (n / 3) n := by
  rcases h with rfl | rfl | rfl | rfl | rfl <;> constructor <;> decide

theorem checksum_lt (h0 : UInt8) (cs : Nat) (hcs : cs ≤ 8) : h0.toNat / 2 ^ (8 - cs) < 2 ^ cs := by
  apply Nat.div_lt_of_lt_mul
  have : 2 ^ (8 - cs) * 2 ^ cs = 256 := by rw [← Nat.pow_add, Nat.sub_add_cancel hcs]
  rw [this]; exact h0.toNat_lt

/-- the number whose 11-bit groups are the words: entropy ‖ first `cs` bits of the digest's first byte -/
def allBitsOf (e : Bytes) (h0 : UInt8) (cs : Nat) : Nat := beToNat e * 2 ^ cs + h0.toNat / 2 ^ (8 - cs)

theorem allBitsOf_eq_iff (e : Bytes) (h0 : UInt8) {cs : Nat} (hcs : cs ≤ 8) (N : Nat) :
    N = allBitsOf e h0 cs ↔ N / 2 ^ cs = beToNat e ∧ N % 2 ^ cs = h0.toNat / 2 ^ (8 - cs) := by
  rw [Nat.div_mod_unique (Nat.pow_pos (by decide)), allBitsOf, Nat.add_comm, Nat.mul_comm, eq_comm]
  exact (and_iff_left (checksum_lt h0 cs hcs)).symm

theorem bytesToWords_eq (sha256 : Bytes → Bytes) (wl : WordList) (hl : wl.words.length = 2048)
    (e : Bytes) (cs nw : Nat) (ok : SizeOK e.length cs nw) (h0 : UInt8) (t : Bytes)
    (hs : sha256 e = h0 :: t) :
    bytesToWords sha256 wl e (8 * e.length)
      = some ((Digits.digitsBE 2048 nw (allBitsOf e h0 cs)).map fun d => wl.words.getD d []) := by
  have hc8 : ¬ cs > Gen.b2mCsFrom := by have := ok.hcs8; show ¬ cs > 8; omega
  unfold bytesToWords
  simp only [ok.hbits, Bool.not_true, Bool.false_eq_true, if_false, hs, ok.hcs, hc8, ok.hnw]
  rw [bitsToWords_eq wl hl]
  simp only [List.append_nil, allBitsOf]
  rw [Nat.shiftRight_eq_div_pow, ← Nat.shiftLeft_add_eq_or_of_lt (checksum_lt h0 cs ok.hcs8),
    Nat.shiftLeft_eq]

theorem SizeOK.lt_iff {L cs nw : Nat} (ok : SizeOK L cs nw) (N : Nat) : N < 2048 ^ nw ↔ N / 2 ^ cs < 256 ^ L := by
  have h1 : (2048 : Nat) = 2 ^ 11 := rfl
  have h2 : (256 : Nat) = 2 ^ 8 := rfl
  rw [Nat.div_lt_iff_lt_mul (Nat.pow_pos (by decide)), h1, h2, ← Nat.pow_mul, ← Nat.pow_mul, ← Nat.pow_add, ok.hsum]

theorem wordsToBytes_of_indices (sha256 : Bytes → Bytes) (wl : WordList) (ws : List PyStr) (L cs : Nat)
    (ok : SizeOK L cs ws.length) :
    wordsToBytes sha256 wl ws =
      (lookupAll wl ws).bind fun idx => (natToBE (ofDigits 0 idx / 2 ^ cs) L).bind fun s =>
        (sha256 s).head?.bind fun h0 =>
          if ofDigits 0 idx % 2 ^ cs = h0.toNat / 2 ^ (8 - cs) then some s else none := by
  have hc8 : ¬ cs > Gen.m2bCsFrom := by have := ok.hcs8; show ¬ cs > 8; omega
  unfold wordsToBytes
  simp only [ok.hcnt, Bool.not_true, Bool.false_eq_true, if_false, wordsToBits_eq, ok.hcs', ok.hnb, and_mask,
    Nat.shiftRight_eq_div_pow, hc8]
  cases lookupAll wl ws with
  | none => rfl
  | some idx =>
    simp only [Option.map_some, Option.bind_some]
    cases natToBE (ofDigits 0 idx / 2 ^ cs) L with
    | none => rfl
    | some s => cases hs : sha256 s <;> simp [hs, Gen.m2bCsFrom]

/-! ## table facts -/

theorem increasingFrom_pairwise : ∀ (l : List Nat) (p : Nat), increasingFrom p l = true →
    (∀ x ∈ l, p < x) ∧ l.Pairwise (· < ·) := by
  intro l
  induction l with
  | nil => intro p _; simp
  | cons a r ih =>
    intro p h
    simp only [increasingFrom, Bool.and_eq_true, decide_eq_true_eq] at h
    obtain ⟨h1, h2⟩ := ih a h.2
    refine ⟨?_, List.pairwise_cons.mpr ⟨h1, h2⟩⟩
    intro x hx
    simp only [List.mem_cons] at hx
    rcases hx with hx | hx
    · subst hx; exact h.1
    · exact Nat.lt_trans h.1 (h1 x hx)

theorem increasing_pairwise (l : List Nat) (h : increasing l = true) : l.Pairwise (· < ·) := by
  cases l with
  | nil => simp
  | cons a r =>
    obtain ⟨h1, h2⟩ := increasingFrom_pairwise r a h
    exact List.pairwise_cons.mpr ⟨h1, h2⟩

/-- a table passing `tableOK`: no key is stored by two words, and the words increase strictly under `encKey` -/
theorem keysUnique_of_tableOK (ws : List PyStr) (h : tableOK ws = true) :
    KeysUnique ws ∧ ws.Pairwise (fun a b => encKey a < encKey b) := by
  simp only [tableOK, Bool.and_eq_true] at h
  have hp := increasing_pairwise _ h.1
  rw [List.pairwise_map, List.pairwise_flatMap] at hp
  have hself : ∀ w : PyStr, w ∈ keysOf w := fun w => by unfold keysOf; split <;> simp
  refine ⟨?_, hp.2.imp (fun hab => hab _ (hself _) _ (hself _))⟩
  have hpw := List.pairwise_iff_getElem.mp hp.2
  have key : ∀ i j k, i < j → (hj : j < ws.length) →
      matchesKey (ws.getD i []) k = true → matchesKey (ws.getD j []) k = true → False := by
    intro i j k hij hj hmi hmj
    have hi : i < ws.length := by omega
    rw [← List.getElem_eq_getD (h := hi) [], matchesKey_iff] at hmi
    rw [← List.getElem_eq_getD (h := hj) [], matchesKey_iff] at hmj
    exact Nat.lt_irrefl _ (hpw i j hi hj hij k hmi k hmj)
  intro i j k hi hj hmi hmj
  rcases Nat.lt_trichotomy i j with hlt | heq | hgt
  · exact absurd (key i j k hlt hj hmi hmj) id
  · exact heq
  · exact absurd (key j i k hgt hi hmj hmi) id

theorem asciiLower_of_lower (w : PyStr) (h : ∀ c ∈ w, 97 ≤ c ∧ c ≤ 122) : asciiLower w = w := by
  unfold asciiLower
  conv => rhs; rw [← List.map_id w]
  apply List.map_congr_left
  intro c hc
  have := h c hc
  have h' : ¬ (65 ≤ c ∧ c ≤ 90) := by omega
  simp [h']

theorem lowerWord_isWord (w : PyStr) (h : lowerWord w = true) :
    IsWord w ∧ asciiLower w = w ∧ ∀ c ∈ w, 97 ≤ c ∧ c ≤ 122 := by
  simp only [lowerWord, Bool.and_eq_true, Bool.not_eq_true', List.all_eq_true, decide_eq_true_eq] at h
  obtain ⟨hne, hall⟩ := h
  refine ⟨⟨?_, ?_⟩, asciiLower_of_lower w hall, hall⟩
  · intro hw; subst hw; simp at hne
  · intro c hc
    obtain ⟨h1, h2⟩ := hall c hc
    simp only [isSpace, Bool.or_eq_false_iff, Bool.and_eq_false_iff, decide_eq_false_iff_not, beq_eq_false_iff_ne]
    omega

structure TableOK (n : Nat) (wl : WordList) : Prop where
  hlen : wl.words.length = n
  huniq : KeysUnique wl.words
  hlower : ∀ w ∈ wl.words, IsWord w ∧ asciiLower w = w ∧ ∀ c ∈ w, 97 ≤ c ∧ c ≤ 122
  hsorted : wl.words.Pairwise (fun a b => encKey a < encKey b)

theorem checkWL_some {n : Nat} {o : Option WordList} (h : checkWL n o = true) : ∃ wl, o = some wl := by
  cases o with
  | none => cases h
  | some wl => exact ⟨wl, rfl⟩

theorem tableOK_of_check {n : Nat} {o : Option WordList} (h : checkWL n o = true) {wl : WordList}
    (hwl : o = some wl) : TableOK n wl := by
  subst hwl
  simp only [checkWL, Bool.and_eq_true, beq_iff_eq] at h
  obtain ⟨huniq, hsorted⟩ := keysUnique_of_tableOK _ h.2
  have hlow := h.2
  simp only [tableOK, Bool.and_eq_true, List.all_eq_true] at hlow
  exact ⟨h.1, huniq, fun w hw => lowerWord_isWord w (hlow.2 w hw), hsorted⟩

/-! ## acceptance -/

theorem wordsToBytes_wrong_length (sha256 : Bytes → Bytes) (wl : WordList) (ws : List PyStr)
    (h : ¬ (ws.length = 12 ∨ ws.length = 15 ∨ ws.length = 18 ∨ ws.length = 21 ∨ ws.length = 24)) :
    wordsToBytes sha256 wl ws = none := by
  have : Gen.m2bWordCounts.contains ws.length = false := by
    simp only [Gen.m2bWordCounts, List.contains_eq_mem, List.mem_cons, List.not_mem_nil, or_false,
      decide_eq_false_iff_not]
    exact h
  unfold wordsToBytes
  rw [this]; rfl

theorem wordsToBytes_some_length {sha256 : Bytes → Bytes} {wl : WordList} {ws : List PyStr} {e : Bytes}
    (h : wordsToBytes sha256 wl ws = some e) :
    ws.length = 12 ∨ ws.length = 15 ∨ ws.length = 18 ∨ ws.length = 21 ∨ ws.length = 24 :=
  Decidable.byContradiction fun hc => by
    rw [wordsToBytes_wrong_length sha256 wl ws hc] at h
    cases h

theorem wordsToBytes_eq_some_iff (sha256 : Bytes → Bytes) (wl : WordList) (ws : List PyStr) (e : Bytes) :
    wordsToBytes sha256 wl ws = some e ↔
      ∃ cs idx h0 t, SizeOK e.length cs ws.length ∧ lookupAll wl ws = some idx ∧ sha256 e = h0 :: t ∧
        ofDigits 0 idx = allBitsOf e h0 cs := by
  constructor
  · intro h
    have ok := sizeOK_of_words ws.length (wordsToBytes_some_length h)
    rw [wordsToBytes_of_indices sha256 wl ws _ _ ok] at h
    simp only [Option.bind_eq_some_iff, natToBE_eq_some_iff, List.head?_eq_some_iff, Option.ite_none_right_eq_some,
      Option.some.injEq] at h
    obtain ⟨idx, hidx, s, ⟨hlt, rfl⟩, h0, ⟨t, hs⟩, hc, rfl⟩ := h
    exact ⟨_, idx, h0, t, by rw [natToBE'_length]; exact ok, hidx, hs,
      (allBitsOf_eq_iff _ h0 ok.hcs8 _).mpr ⟨(beToNat_natToBE' hlt).symm, hc⟩⟩
  · rintro ⟨cs, idx, h0, t, ok, hidx, hs, hN⟩
    obtain ⟨hd, hm⟩ := (allBitsOf_eq_iff e h0 ok.hcs8 _).mp hN
    rw [wordsToBytes_of_indices sha256 wl ws _ _ ok, hidx, Option.bind_some, hd, natToBE_beToNat, Option.bind_some,
      hs, List.head?_cons, Option.bind_some, if_pos hm]

/-! ## from_mnemonic: normalisation and the seed -/

theorem normalize_eq (wl : WordList) {n : Nat} (tok : TableOK n wl) (w : PyStr) (i : Nat)
    (h : wl.lookup w = some i) : wl.normalize w = some (wl.words.getD i []) := by
  obtain ⟨hi, hm⟩ := lookup_some wl i w h
  have hlw := (tok.hlower _ (getD_mem _ _ hi)).2.2
  -- a stored key is a word of the table or the first four letters of one: lower-casing leaves it as it is
  have hw : ∀ c ∈ w, 97 ≤ c ∧ c ≤ 122 := by
    rcases (matchesKey_eq _ _).mp hm with h1 | ⟨_, h2⟩
    · rw [← h1]; exact hlw
    · intro c hc
      rw [← h2] at hc
      exact hlw c (List.mem_of_mem_take hc)
  unfold WordList.normalize
  rw [asciiLower_of_lower w hw, h]
  exact word_eq_getD wl i hi

theorem mapM_normalize (wl : WordList) {n : Nat} (tok : TableOK n wl) (ws : List PyStr) (idx : List Nat)
    (h : lookupAll wl ws = some idx) : mapM? wl.normalize ws = some (idx.map fun i => wl.words.getD i []) := by
  rw [lookupAll_eq] at h
  -- on looked-up words `normalize` is `lookup` followed by the word of the index
  rw [mapM?_eq_mapM, List.mapM_congr' (g := fun w => (wl.lookup w).map fun i => wl.words.getD i []) fun w hw => ?_,
    List.mapM_option_map, h]
  · rfl
  · obtain ⟨i, _, hi⟩ := List.mapM_some_mem_left h hw
    rw [hi, normalize_eq wl tok w i hi]
    rfl

theorem utf8Encode_ascii : ∀ (s : PyStr), (∀ c ∈ s, c < 128) → utf8Encode s = some (s.map UInt8.ofNat) := by
  intro s
  induction s with
  | nil => intro _; rfl
  | cons c r ih =>
    intro h
    have hc : c < 0x80 := h c (by simp)
    rw [utf8Encode, ih (fun x hx => h x (by simp [hx]))]
    simp [hc]

theorem pyJoin_all (P : Nat → Prop) (h32 : P 32) : ∀ (ws : List PyStr), (∀ w ∈ ws, ∀ c ∈ w, P c) →
    ∀ c ∈ pyJoin ws, P c := by
  intro ws
  induction ws with
  | nil => intro _ c hc; cases hc
  | cons w r ih =>
    intro h c hc
    cases r with
    | nil => exact h w List.mem_cons_self c hc
    | cons w' r' =>
      rcases List.mem_append.mp (show c ∈ w ++ 32 :: pyJoin (w' :: r') from hc) with hc | hc
      · exact h w List.mem_cons_self c hc
      · rcases List.mem_cons.mp hc with rfl | hc
        · exact h32
        · exact ih (fun x hx => h x (List.mem_cons_of_mem _ hx)) c hc

/-- `" ".join([BIP39.normalize(word) for word in mnemonic.split()])` of `from_mnemonic`, encoded, in terms of the
    indices of the words -/
def normalisedBytes (wl : WordList) (idx : List Nat) : Bytes :=
  (pyJoin (idx.map fun i => wl.words.getD i [])).map UInt8.ofNat

end Buidl.Mnemonic
