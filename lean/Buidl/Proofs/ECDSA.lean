/-
  Helper lemmas for C01 (ECDSA): Buidl.Model.ECDSA against Buidl.Spec.RFC6979, the DER codec, the range
  check and low S: what needs neither the group law nor primality (for those: Proofs/ECDSAGroup).
-/
import Buidl.Model.ECDSA
import Buidl.Spec.RFC6979
import Buidl.Proofs.SecpConst
namespace Buidl.ECDSA
open Buidl Buidl.EC

/-! ### the extracted comparisons, as evaluated -/

theorem detkReduce_eq (z : Nat) : detkReduce z = decide (z ≥ N) := by
  simp [detkReduce, cmpAt, Gen.detkCmp, cmpOp]

theorem detkCandOK_eq (c : Nat) : detkCandOK c = decide (1 ≤ c ∧ c < N) := by
  simp [detkCandOK, cmpAt, Gen.detkCmp, cmpOp]

/-- the low-S threshold is the integer `N / 2` (F01b repaired: not the float 2^255) -/
theorem lowSRhs_eq : Gen.lowSRhs = N / 2 := by decide

theorem highS_eq (s : Nat) : highS s = decide (s > N / 2) := by
  simp [highS, cmpOp, Gen.lowSOp, lowSRhs_eq]

theorem rangeOK_eq (r s : Nat) : rangeOK r s = decide (1 ≤ r ∧ r < N ∧ 1 ≤ s ∧ s < N) := by
  simp [rangeOK, cmpAt, Gen.verifyRange, cmpOp, Bool.and_assoc]

/-! numeric facts about the group order, in the form `omega` can use (with `N` as an atom) -/
theorem N_odd : N % 2 = 1 := by decide
theorem N_lt : N < 2 ^ 256 := by decide
theorem two_N_gt : 2 ^ 256 < 2 * N := by decide
theorem N_gt_one : 1 < N := by decide

theorem validSecret_eq (d : Nat) : validSecret d = decide (1 ≤ d ∧ d < N) := by
  have := N_pos
  rw [validSecret, Bool.eq_iff_iff]
  simp only [Bool.and_eq_true, Bool.not_eq_true', decide_eq_false_iff_not, decide_eq_true_eq]
  omega

/-! ### RFC 6979 -/

open Spec.RFC6979 in
theorem genT_256 (hmac : Bytes → Bytes → Bytes) (hlen : ∀ k m, (hmac k m).length = 32) (K V : Bytes) :
    genT hmac 256 K 256 V [] = (hmac K V, hmac K V) := by
  show genT hmac 256 K (254 + 1 + 1) V [] = _
  simp [genT, hlen]

open Spec.RFC6979 in
theorem detkLoop_eq_stepH (hmac : Bytes → Bytes → Bytes) (hlen : ∀ k m, (hmac k m).length = 32) :
    ∀ (fuel : Nat) (K V : Bytes), detkLoop hmac fuel K V =
      match stepH hmac N 256 fuel K V with
      | some k => .ok k
      | none => .error .outOfFuel := by
  intro fuel
  induction fuel with
  | zero => intro K V; rfl
  | succ n ih =>
    intro K V
    have hb : bits2int 256 (hmac K V) = beToNat (hmac K V) := by simp [bits2int, hlen]
    simp only [detkLoop, stepH, genT_256 hmac hlen, detkCandOK_eq, hb]
    by_cases h : 1 ≤ beToNat (hmac K V) ∧ beToNat (hmac K V) < N
    · simp [h]
    · simp only [h, decide_false, Bool.false_eq_true, if_false]
      rw [ih]

/-- one subtraction reduces modulo `N`, since `z < 2^256 < 2·N` -/
theorem reduce_eq_mod {z : Nat} (hz : z < 2 ^ 256) : (if z ≥ N then z - N else z) = z % N := by
  have := two_N_gt
  split
  · next h => rw [Nat.mod_eq_sub_mod h, Nat.mod_eq_of_lt (by omega)]
  · exact (Nat.mod_eq_of_lt (by omega)).symm

theorem detkLoop_mono (hmac : Bytes → Bytes → Bytes) : ∀ (fuel : Nat) (K V : Bytes) (k : Nat),
    detkLoop hmac fuel K V = .ok k → ∀ extra, detkLoop hmac (fuel + extra) K V = .ok k := by
  intro fuel
  induction fuel with
  | zero => intro K V k h; cases h
  | succ n ih =>
    intro K V k h extra
    rw [show n + 1 + extra = (n + extra) + 1 by omega]
    simp only [detkLoop] at h ⊢
    split
    · next hc => simpa [hc] using h
    · next hc =>
      simp only [hc] at h
      exact ih _ _ _ h extra

theorem detkLoop_range (hmac : Bytes → Bytes → Bytes) : ∀ (fuel : Nat) (K V : Bytes) (k : Nat),
    detkLoop hmac fuel K V = .ok k → 1 ≤ k ∧ k < N := by
  intro fuel
  induction fuel with
  | zero => intro K V k h; cases h
  | succ n ih =>
    intro K V k h
    simp only [detkLoop] at h
    split at h
    · next hc =>
      injection h with h; subst h
      simpa [detkCandOK_eq] using hc
    · exact ih _ _ _ h

theorem deterministicK_range (hmac : Bytes → Bytes → Bytes) (fuel d z k : Nat)
    (h : deterministicK hmac fuel d z = .ok k) : 1 ≤ k ∧ k < N := by
  simp only [deterministicK] at h
  split at h
  · exact detkLoop_range hmac _ _ _ _ h
  · cases h

/-! ### DER -/

/-- the comparisons of Signature.der as evaluated, for the INTEGER `r` (`i = 0`) and `s` (`i = 3`):
    top bit of the first octet, then the two tests of the stripping loop -/
theorem derCmp_eq (i : Nat) (hi : i = 0 ∨ i = 3) (n : Nat) :
    cmpAt Gen.derCmp i n = decide (n ≥ 128) ∧ cmpAt Gen.derCmp (i + 1) n = (n == 0) ∧
      cmpAt Gen.derCmp (i + 1 + 1) n = decide (n ≥ 128) := by
  rcases hi with rfl | rfl <;> exact ⟨cmpOp_GtE n 128, cmpOp_Eq n 0, cmpOp_GtE n 128⟩

/-- DER content octets of a positive INTEGER `n`: big-endian, first octet below 0x80 (positive),
    and no superfluous leading zero octet (a leading 00 is followed by an octet ≥ 0x80) -/
def MinimalInt (R : Bytes) (n : Nat) : Prop :=
  beToNat R = n ∧ ∃ b0 t, R = b0 :: t ∧ b0.toNat < 128 ∧
    (b0.toNat = 0 → ∃ b1 t', t = b1 :: t' ∧ 128 ≤ b1.toNat)

theorem MinimalInt.ne_nil {R : Bytes} {n : Nat} (h : MinimalInt R n) : R ≠ [] := by
  obtain ⟨_, b0, t, rfl, _⟩ := h
  simp

theorem derStrip_spec (i : Nat) (hi : i = 0 ∨ i = 3) : ∀ l : Bytes, beToNat l ≠ 0 →
    (∀ b t, l = b :: t → b.toNat < 128) →
    ∃ R, derStrip (i + 1) l = some R ∧ MinimalInt R (beToNat l) ∧ R.length ≤ l.length := by
  intro l
  induction l with
  | nil => intro h; exact absurd rfl h
  | cons b0 rest ih =>
    intro hne hhead
    have hb0 := hhead b0 rest rfl
    cases rest with
    | nil =>
      by_cases h0 : b0.toNat = 0
      · exact absurd (by simp [beToNat, beToNatAux, h0]) hne
      · exact ⟨_, by simp [derStrip, (derCmp_eq i hi _).2.1, h0], ⟨rfl, b0, [], rfl, hb0, fun h => absurd h h0⟩, Nat.le_refl _⟩
    | cons b1 t =>
      rw [derStrip, (derCmp_eq i hi _).2.1, (derCmp_eq i hi _).2.2]
      by_cases h0 : b0.toNat = 0
      · by_cases h1 : b1.toNat ≥ 128
        · exact ⟨_, by simp [h0, h1], ⟨rfl, b0, b1 :: t, rfl, hb0, fun _ => ⟨b1, t, rfl, h1⟩⟩, Nat.le_refl _⟩
        · have e := beToNat_cons_zero b0 (b1 :: t) h0
          obtain ⟨R, hR, hmin, hlen⟩ := ih (by rw [← e]; exact hne) (by intro b t' hbt; cases hbt; omega)
          exact ⟨R, by simp [h0, h1, hR], by rw [e]; exact hmin, Nat.le_succ_of_le hlen⟩
      · exact ⟨_, by simp [h0], ⟨rfl, b0, _, rfl, hb0, fun h => absurd h h0⟩, Nat.le_refl _⟩

theorem derInt_spec (i : Nat) (hi : i = 0 ∨ i = 3) (n : Nat) (h1 : 1 ≤ n) (h2 : n < 2 ^ 256) :
    ∃ R, derInt i n = some ([2, UInt8.ofNat R.length] ++ R) ∧ MinimalInt R n ∧ R.length ≤ 33 := by
  have h2' : n < 256 ^ 32 := by rwa [show (256 : Nat) ^ 32 = 2 ^ 256 by decide]
  have hlen := natToBE'_length 32 n
  have hval := beToNat_natToBE' h2'
  cases hbin : natToBE' 32 n with
  | nil => rw [hbin] at hlen; cases hlen
  | cons b0 t =>
    rw [hbin] at hlen hval
    -- the list handed to the stripping loop still has the value `n`, now with its top bit clear
    obtain ⟨bin, hb, hv, hh, hl⟩ : ∃ bin, (if decide (b0.toNat ≥ 128) = true then 0 :: b0 :: t else b0 :: t) = bin ∧
        beToNat bin = n ∧ (∀ b t', bin = b :: t' → b.toNat < 128) ∧ bin.length ≤ 33 := by
      by_cases hb : b0.toNat ≥ 128
      · exact ⟨_, if_pos (decide_eq_true hb), by rw [beToNat_cons_zero _ _ rfl, hval],
          by intro b t' h; cases h; decide, by rw [List.length_cons, hlen]; decide⟩
      · exact ⟨_, if_neg (by simpa using hb), hval, by intro b t' h; cases h; omega, by omega⟩
    obtain ⟨R, hR, hmin, hl'⟩ := derStrip_spec i hi bin (by omega) hh
    rw [hv] at hmin
    refine ⟨R, ?_, hmin, by omega⟩
    rw [derInt, natToBE_some h2']
    simp only [hbin, (derCmp_eq i hi _).1, hb, hR]
    rw [if_pos (by omega)]

theorem u8_toNat_ofNat_lt {k : Nat} (h : k < 256) : (UInt8.ofNat k).toNat = k := Buidl.u8_toNat_ofNat_lt h

theorem parseDerCmp_eq (n : Nat) : cmpAt Gen.parseDerCmp 0 n = (n != 48) ∧ cmpAt Gen.parseDerCmp 1 n = (n != 2) ∧
    cmpAt Gen.parseDerCmp 2 n = (n != 2) :=
  ⟨cmpOp_NotEq n 48, cmpOp_NotEq n 2, cmpOp_NotEq n 2⟩

theorem readInt_append (R T : Bytes) (hR : R ≠ []) : readInt R.length (R ++ T) = some (beToNat R, T) := by
  simp only [readInt, sread_append _ R T rfl, List.isEmpty_iff, hR, if_false]

/-- Signature.parse on the DER layout `30 L 02 |R| R 02 |S| S` -/
theorem parseDer_layout (R S : Bytes) (hR : R ≠ []) (hS : S ≠ []) (hlr : R.length ≤ 33) (hls : S.length ≤ 33) :
    parseDer ([0x30, UInt8.ofNat (2 + R.length + (2 + S.length))] ++
      (([2, UInt8.ofNat R.length] ++ R) ++ ([2, UInt8.ofNat S.length] ++ S))) = some (beToNat R, beToNat S) := by
  have hS' := readInt_append S [] hS
  rw [List.append_nil] at hS'
  have l1 := u8_toNat_ofNat_lt (show 2 + R.length + (2 + S.length) < 256 by omega)
  have l2 := u8_toNat_ofNat_lt (show R.length < 256 by omega)
  have l3 := u8_toNat_ofNat_lt (show S.length < 256 by omega)
  simp only [List.cons_append, List.nil_append, parseDer, read1, Option.bind_eq_bind, Option.bind_some,
    l1, l2, l3, readInt_append R _ hR, hS', parseDerCmp_eq, List.length_cons, List.length_append]
  -- the parser's tests in order: tag 0x30, total length, the two INTEGER markers, total length again
  rw [if_neg (by decide), if_neg (by omega), if_neg (by decide), if_neg (by decide), if_neg (by omega)]
  rfl

theorem der_spec (r s : Nat) (hr1 : 1 ≤ r) (hr2 : r < 2 ^ 256) (hs1 : 1 ≤ s) (hs2 : s < 2 ^ 256) :
    ∃ R S, MinimalInt R r ∧ MinimalInt S s ∧ R.length ≤ 33 ∧ S.length ≤ 33 ∧
      der r s = some ([0x30, UInt8.ofNat (2 + R.length + (2 + S.length))] ++
        (([2, UInt8.ofNat R.length] ++ R) ++ ([2, UInt8.ofNat S.length] ++ S))) := by
  obtain ⟨R, hR, mR, lR⟩ := derInt_spec 0 (Or.inl rfl) r hr1 hr2
  obtain ⟨S, hS, mS, lS⟩ := derInt_spec 3 (Or.inr rfl) s hs1 hs2
  refine ⟨R, S, mR, mS, lR, lS, ?_⟩
  have hl : ([2, UInt8.ofNat R.length] ++ R ++ ([2, UInt8.ofNat S.length] ++ S)).length
      = 2 + R.length + (2 + S.length) := by
    simp only [List.length_append, List.length_cons, List.length_nil]
  rw [der, hR, hS]
  simp only [hl]
  rw [if_pos (by omega)]

/-! ### S256Point.verify and the body of PrivateKey.sign, as equations -/

-- keep `rfl` from unrolling the modular inverse and the scalar multiplications
attribute [local irreducible] powmod pmul

theorem verify_eq (Q : Pt) (z r s : Nat) : verify Q z r s =
    if 1 ≤ r ∧ r < N ∧ 1 ≤ s ∧ s < N then
      match sadd (smul ((z * powmod s (N - 2) N % N : Nat) : Int) G)
          (smul ((r * powmod s (N - 2) N % N : Nat) : Int) Q) with
      | .inf => none
      | .aff x _ => some (x == r)
    else some false := by
  unfold verify
  rw [rangeOK_eq]
  by_cases h : 1 ≤ r ∧ r < N ∧ 1 ≤ s ∧ s < N
  · rw [if_pos h, decide_eq_true h]
    rfl
  · rw [if_neg h, decide_eq_false h]
    rfl

theorem verify_out_of_range (Q : Pt) (z r s : Nat) (h : r = 0 ∨ s = 0 ∨ r ≥ N ∨ s ≥ N) :
    verify Q z r s = some false := by
  rw [verify_eq, if_neg (by omega)]

theorem verify_true_range (Q : Pt) (z r s : Nat) (h : verify Q z r s = some true) :
    1 ≤ r ∧ r < N ∧ 1 ≤ s ∧ s < N := by
  by_cases hn : 1 ≤ r ∧ r < N ∧ 1 ≤ s ∧ s < N
  · exact hn
  · rw [verify_eq, if_neg hn] at h
    cases h

theorem signWith_eq_some_iff {k d z r s : Nat} : signWith k d z = some (r, s) ↔
    ∃ y t, smul (k : Int) G = .aff r y ∧ t = (z + r * d) * powmod k (N - 2) N % N ∧
      s = if t > N / 2 then N - t else t := by
  unfold signWith
  cases smul (k : Int) G with
  | inf => exact ⟨fun h => (nomatch h), fun ⟨_, _, h, _⟩ => (nomatch h)⟩
  | aff x y =>
    simp only [highS_eq, decide_eq_true_eq, Option.some.injEq, Prod.mk.injEq, Pt.aff.injEq]
    exact ⟨fun ⟨h1, h2⟩ => ⟨y, _, ⟨h1, rfl⟩, h1 ▸ rfl, h2.symm⟩,
      fun ⟨_, _, ⟨h1, _⟩, ht, h2⟩ => ⟨h1, by rw [h2, ht, h1]⟩⟩

theorem signWith_lowS (k d z r s : Nat) (h : signWith k d z = some (r, s)) : s ≤ (N - 1) / 2 := by
  obtain ⟨_, t, -, ht, hs⟩ := signWith_eq_some_iff.mp h
  have hlt : t < N := ht ▸ Nat.mod_lt _ N_pos
  simp only [N, Gen.secpN] at *
  split at hs <;> omega

end Buidl.ECDSA
