/-
  The vendored buidl/pbkdf2.py (`Buidl.Mnemonic.PBKDF2`: block counter, buffer kept across reads, `__f`) reads the
  RFC 2898 block stream `Buidl.Spec.blocks` (`Buidl.Spec.pbkdf2` is its first `dkLen` bytes) for every PRF of fixed
  output length: one read in any state of the object (`read_at`; `stAt l t` is the object after `l` blocks and `t` bytes)
  and several reads from one object (`reads_at`).
-/
import Buidl.Model.Mnemonic
import Buidl.Spec.PBKDF2
namespace Buidl.Mnemonic
open Buidl

theorem binxor_eq (a b : Bytes) : binxor a b = Spec.xorBytes a b := rfl

theorem fLoop_eq (prf : Bytes → Bytes → Bytes) (P S : Bytes) (i : Nat) :
    ∀ (n j : Nat) (r : Bytes),
      fLoop prf P n (Spec.U prf P S i j) r
        = ((List.range n).map fun t => Spec.U prf P S i (j + t + 1)).foldl Spec.xorBytes r := by
  intro n
  induction n with
  | zero => intro j r; simp [fLoop]
  | succ n ih =>
    intro j r
    simp only [fLoop]
    have h1 : prf P (Spec.U prf P S i j) = Spec.U prf P S i (j + 1) := rfl
    rw [h1, ih (j + 1), List.range_succ_eq_map, List.map_cons, List.foldl_cons, List.map_map]
    simp only [binxor_eq, Nat.add_zero]
    congr 1
    apply List.map_congr_left
    intro t _
    simp only [Function.comp]
    congr 1; omega

theorem f_eq (prf : Bytes → Bytes → Bytes) (st : PBKDF2) (i : Nat) :
    st.f prf i = Spec.F prf st.passphrase st.salt st.iterations i := by
  unfold PBKDF2.f Spec.F
  have h0 : prf st.passphrase (st.salt ++ natToBE' 4 i) = Spec.U prf st.passphrase st.salt i 0 := rfl
  simp only [h0]
  rw [fLoop_eq]
  simp

theorem F_length (prf : Bytes → Bytes → Bytes) (hLen : Nat) (hh : ∀ k m, (prf k m).length = hLen)
    (P S : Bytes) (c i : Nat) : (Spec.F prf P S c i).length = hLen := by
  unfold Spec.F
  have hU : ∀ j, (Spec.U prf P S i j).length = hLen := by
    intro j; cases j <;> simp [Spec.U, hh]
  suffices ∀ (l : List Nat) (r : Bytes), r.length = hLen →
      ((l.map fun j => Spec.U prf P S i (j + 1)).foldl Spec.xorBytes r).length = hLen from
    this _ _ (hU 0)
  intro l
  induction l with
  | nil => intro r hr; simpa using hr
  | cons a l ih =>
    intro r hr
    simp only [List.map_cons, List.foldl_cons]
    apply ih
    simp [Spec.xorBytes, hr, hU]

theorem blocks_length (prf : Bytes → Bytes → Bytes) (hLen : Nat) (hh : ∀ k m, (prf k m).length = hLen)
    (P S : Bytes) (c i m : Nat) : (Spec.blocks prf P S c i m).length = m * hLen := by
  unfold Spec.blocks
  induction m with
  | zero => simp
  | succ m ih =>
    rw [List.range_succ, List.flatMap_append, List.length_append, ih]
    simp [F_length prf hLen hh, Nat.succ_mul]

theorem blocks_succ (prf : Bytes → Bytes → Bytes) (P S : Bytes) (c i m : Nat) :
    Spec.blocks prf P S c i (m + 1) = Spec.blocks prf P S c i m ++ Spec.F prf P S c (i + m + 1) := by
  unfold Spec.blocks
  rw [List.range_succ, List.flatMap_append]
  simp

theorem blocks_add (prf : Bytes → Bytes → Bytes) (P S : Bytes) (c i a b : Nat) :
    Spec.blocks prf P S c i (a + b) = Spec.blocks prf P S c i a ++ Spec.blocks prf P S c (i + a) b := by
  induction b with
  | zero => simp [Spec.blocks]
  | succ b ih =>
    rw [← Nat.add_assoc, blocks_succ, ih, blocks_succ, List.append_assoc, Nat.add_assoc i a b]

theorem blocks_take_eq (prf : Bytes → Bytes → Bytes) (hLen : Nat) (hh : ∀ k m, (prf k m).length = hLen)
    (P S : Bytes) (c a b T : Nat) (ha : T ≤ a * hLen) (hb : T ≤ b * hLen) :
    (Spec.blocks prf P S c 0 a).take T = (Spec.blocks prf P S c 0 b).take T := by
  have key : ∀ a b, a ≤ b → T ≤ a * hLen →
      (Spec.blocks prf P S c 0 a).take T = (Spec.blocks prf P S c 0 b).take T := by
    intro a b hab ha
    obtain ⟨k, rfl⟩ := Nat.exists_eq_add_of_le hab
    rw [blocks_add, List.take_append_of_le_length]
    rw [blocks_length prf hLen hh]; exact ha
  rcases Nat.le_total a b with h | h
  · exact key a b h ha
  · exact (key b a h hb).symm

def chunks : List Nat → Bytes → List Bytes
  | [], _ => []
  | n :: ns, s => s.take n :: chunks ns (s.drop n)

theorem chunks_take : ∀ (ns : List Nat) (s : Bytes), chunks ns (s.take ns.sum) = chunks ns s := by
  intro ns
  induction ns with
  | nil => intro s; rfl
  | cons n r ih =>
    intro s
    simp only [chunks, List.sum_cons, List.take_take, List.drop_take]
    rw [Nat.min_eq_left (by omega), show n + r.sum - n = r.sum by omega, ih]

section
variable (prf : Bytes → Bytes → Bytes) (hLen : Nat) (hh : ∀ k m, (prf k m).length = hLen) (P S : Bytes) (c : Nat)

/-- the object that has computed `l` blocks and handed out `t` bytes: the buffer is the unread tail -/
def stAt (l t : Nat) : PBKDF2 :=
  { passphrase := P, salt := S, iterations := c, blockNum := l, buf := (Spec.blocks prf P S c 0 l).drop t }

theorem new_at (hc : 1 ≤ c) : PBKDF2.new P S c = some (stAt prf P S c 0 0) := by
  rw [PBKDF2.new, if_neg (by omega)]
  rfl

include hh in
/-- from `l` blocks with `t` bytes handed out, the loop raises exactly when `t + n` exceeds `0xffffffff` blocks, and otherwise
    computes blocks up to some `l'` that covers `t + n` (the cases are the three branches of the loop) -/
theorem readLoop_at (st : PBKDF2) (hp : st.passphrase = P) (hs : st.salt = S) (hc : st.iterations = c) (t n : Nat) :
    ∀ (l size : Nat) (acc : Bytes), size + t = l * hLen → l ≤ Gen.counterMax →
      acc = (Spec.blocks prf P S c 0 l).drop t →
      ∃ l', (t + n ≤ Gen.counterMax * hLen → l' ≤ Gen.counterMax ∧ t + n ≤ l' * hLen) ∧
        readLoop prf st n l size acc =
          if t + n ≤ Gen.counterMax * hLen then some (l', (Spec.blocks prf P S c 0 l').drop t) else none := by
  intro l size acc
  induction l, size, acc using readLoop.induct prf st n with
  | case1 l size acc hlt i' hov =>
    intro hsz hl _
    have : l = Gen.counterMax := by omega
    subst this
    exact ⟨0, fun h => by omega, by rw [readLoop, if_pos hlt, dif_pos hov, if_neg (by omega)]⟩
  | case2 l size acc hlt i' hov block ih =>
    intro hsz hl hacc
    have hl1 := Nat.add_one_mul l hLen
    have hb : st.f prf (l + 1) = Spec.F prf P S c (l + 1) := by rw [f_eq, hp, hs, hc]
    rw [show block = _ from hb, show i' = l + 1 from rfl, F_length prf hLen hh] at ih
    -- the new block prolongs the unread tail
    obtain ⟨l', h1, hr⟩ := ih (by omega) (by omega) (by
      rw [hacc, blocks_succ, Nat.zero_add,
        List.drop_append_of_le_length (by rw [blocks_length prf hLen hh]; omega)])
    exact ⟨l', h1, by rw [readLoop, if_pos hlt, dif_neg hov]; simp only [hb, F_length prf hLen hh, hr]⟩
  | case3 l size acc hlt =>
    intro hsz hl hacc
    have := Nat.mul_le_mul_right hLen hl
    exact ⟨l, fun _ => ⟨hl, by omega⟩, by rw [readLoop, if_neg hlt, if_pos (by omega), hacc]⟩

include hh in
/-- one `read(n)` in any state; the bytes returned are taken from any `L` blocks that cover them -/
theorem read_at {l t : Nat} (n : Nat) (ht : t ≤ l * hLen) (hl : l ≤ Gen.counterMax) :
    ∃ l', (t + n ≤ Gen.counterMax * hLen → l' ≤ Gen.counterMax ∧ t + n ≤ l' * hLen) ∧ ∀ L, t + n ≤ L * hLen →
      (stAt prf P S c l t).read prf n =
        if t + n ≤ Gen.counterMax * hLen then
          some (((Spec.blocks prf P S c 0 L).drop t).take n, stAt prf P S c l' (t + n))
        else none := by
  obtain ⟨l', h1, hr⟩ := readLoop_at prf hLen hh P S c (stAt prf P S c l t) rfl rfl rfl t n l (l * hLen - t) _
    (by omega) hl rfl
  refine ⟨l', h1, fun L hL => ?_⟩
  simp only [stAt, PBKDF2.read, List.length_drop, blocks_length prf hLen hh] at hr ⊢
  by_cases hT : t + n ≤ Gen.counterMax * hLen
  · simp only [hr, if_pos hT, List.drop_drop]
    rw [List.take_drop, List.take_drop, blocks_take_eq prf hLen hh P S c l' L (t + n) (h1 hT).2 hL]
  · rw [hr, if_neg hT, if_neg hT]

include hh in
theorem reads_at :
    ∀ (ns : List Nat) (l t : Nat), t ≤ l * hLen → l ≤ Gen.counterMax → t + ns.sum ≤ Gen.counterMax * hLen →
      ∀ L, t + ns.sum ≤ L * hLen →
      PBKDF2.reads prf (stAt prf P S c l t) ns = some (chunks ns ((Spec.blocks prf P S c 0 L).drop t)) := by
  intro ns
  induction ns with
  | nil => intro l t _ _ _ L _; rfl
  | cons n ns ih =>
    intro l t ht hl hT L hL
    rw [List.sum_cons] at hT hL
    obtain ⟨l', hl', hr⟩ := read_at prf hLen hh P S c n ht hl
    rw [PBKDF2.reads, hr L (by omega), if_pos (by omega)]
    simp only
    rw [ih l' (t + n) (hl' (by omega)).2 (hl' (by omega)).1 (by omega) L (by omega), chunks, List.drop_drop]
    rfl

end

theorem ceil_mul_ge (n h : Nat) (h0 : 0 < h) : n ≤ (n + h - 1) / h * h := by
  have h1 := Nat.div_add_mod (n + h - 1) h
  have h2 := Nat.mod_lt (n + h - 1) h0
  have h3 : h * ((n + h - 1) / h) = (n + h - 1) / h * h := Nat.mul_comm _ _
  omega


end Buidl.Mnemonic
