/-
  C02 helper: `S256Point.parse(pk).verify_schnorr(msg, SchnorrSignature.parse(sig))` accepts exactly when
  BIP340 verification accepts (32-byte keys, 64-byte signatures).
-/
import Buidl.Proofs.SchnorrGroup
namespace Buidl.Schnorr
open Buidl Buidl.EC
open Buidl.Spec.BIP340 (liftX hashTag tagChallenge tagAux tagNonce bytes32 int)

attribute [local irreducible] fsqrt fpow pmul powmod

/-- when the x of the point `sG − eP` is `r`, then `r` lifts -/
theorem specCore_true_lifts (sha256 : Bytes → Bytes) (Pk : Pt) (hv : Valid P A B Pk) (m : Bytes) (r s : ℕ)
    (h : specCore sha256 Pk m r s = true) : ∃ y, Valid P A B (.aff r y) := by
  unfold specCore at h
  have hres := sadd_valid (smul_valid G_valid (s : ℤ))
    (smul_valid hv ((N - int (hashTag sha256 tagChallenge (bytes32 r ++ xonly Pk ++ m)) % N : ℕ) : ℤ))
  generalize sadd (smul (s : ℤ) G)
    (smul ((N - int (hashTag sha256 tagChallenge (bytes32 r ++ xonly Pk ++ m)) % N : ℕ) : ℤ) Pk) = res at hres h
  cases res with
  | inf => cases h
  | aff x y =>
    simp only [Bool.and_eq_true, decide_eq_true_eq] at h
    exact ⟨y, h.2 ▸ hres⟩

theorem verifyRaw_iff_spec (sha256 : Bytes → Bytes) (c : Cache) (hc : CacheOK sha256 c)
    (pk m sig : Bytes) (hpk : pk.length = 32) (hsig : sig.length = 64) :
    (∃ c', verifyRaw sha256 c pk m sig = some (true, c')) ↔ Spec.BIP340.verify sha256 pk m sig = true := by
  have hrl : (sig.take 32).length = 32 := by rw [List.length_take, hsig]; rfl
  rw [spec_verify_unfold, verifyRaw, parsePoint_of_length_32 hpk]
  by_cases hn0 : beToNat pk = 0
  · -- the key 0 is read as the point at infinity, on which verify_schnorr raises; lift_x(0) fails
    rw [hn0, liftX_zero, parseXonly_zero pk hn0, some_bind_eq]
    refine ⟨fun ⟨c', h⟩ => ?_, fun h => (nomatch h)⟩
    obtain ⟨⟨R, s⟩, -, ha⟩ := Option.bind_eq_some_iff.mp h
    cases ha
  · rw [liftX_eq_parseXonly pk hn0]
    cases hP : parseXonly pk with
    | none => exact ⟨fun ⟨_, h⟩ => (nomatch h), fun h => (nomatch h)⟩
    | some Pk =>
      obtain ⟨py, rfl, hpy, hv⟩ := (parseXonly_eq_some_iff hn0).mp hP
      rw [some_bind_eq]
      show _ ↔ (if beToNat (sig.take 32) ≥ P then false else _) = true
      by_cases hrP : beToNat (sig.take 32) ≥ P
      · rw [parse_none_of sig (Or.inl (parseXonly_x_ge_p _ hrP)), if_pos hrP]
        exact ⟨fun ⟨_, h⟩ => (nomatch h), fun h => (nomatch h)⟩
      rw [if_neg hrP]
      by_cases hsN : beToNat ((sig.drop 32).take 32) ≥ N
      · rw [parse_none_of sig (Or.inr hsN), if_pos hsN]
        exact ⟨fun ⟨_, h⟩ => (nomatch h), fun h => (nomatch h)⟩
      rw [if_neg hsN]
      cases hR : parseXonly (sig.take 32) with
      | none =>
        rw [parse_none_of sig (Or.inl hR)]
        refine ⟨fun ⟨_, h⟩ => (nomatch h), fun h => ?_⟩
        obtain ⟨y, hy⟩ := specCore_true_lifts sha256 _ hv m _ _ h
        have := parseXonly_xonly hy Pt.noConfusion
        rw [show xonly (.aff (beToNat (sig.take 32)) y) = sig.take 32 from
          natToBE'_beToNat_of_length hrl, hR] at this
        cases this
      | some R =>
        rw [parse_eq, parsePoint_of_length_32 hrl, hR]
        dsimp only
        rw [if_neg hsN, some_bind_eq]
        by_cases hr0 : beToNat (sig.take 32) = 0
        · -- R = 0 is read as the point at infinity, on which verify_schnorr answers False; no curve point has x = 0
          rw [parseXonly_zero _ hr0] at hR
          obtain rfl := Option.some.inj hR
          refine ⟨fun ⟨_, h⟩ => (by cases h), fun h => ?_⟩
          obtain ⟨y, hy⟩ := specCore_true_lifts sha256 _ hv m _ _ h
          exact absurd hr0 (valid_x_ne_zero hy)
        · obtain ⟨ry, rfl, -, -⟩ := (parseXonly_eq_some_iff hr0).mp hR
          obtain ⟨c', hcore, _⟩ := verifySchnorr_core sha256 c hc (beToNat pk) py _
            (if_neg (by omega)) hv m (beToNat (sig.take 32)) ry
            (beToNat ((sig.drop 32).take 32)) (by omega)
          rw [hcore]
          exact ⟨fun ⟨_, h⟩ => (Prod.mk.inj (Option.some.inj h)).1, fun h => ⟨c', by rw [h]⟩⟩

/-- `verify_schnorr` with the point at infinity as key raises (AttributeError) -/
theorem verifySchnorr_inf_key (sha256 : Bytes → Bytes) (c : Cache) (m : Bytes) (R : Pt) (s : ℕ) :
    verifySchnorr sha256 c .inf m R s = none := rfl

end Buidl.Schnorr
