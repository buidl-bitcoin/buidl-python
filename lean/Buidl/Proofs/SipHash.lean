/-
  Buidl.Proofs.SipHash — the Python-integer model of buidl/siphash.py (`Buidl.Filters.siphash`) computes
  SipHash-2-4 as specified on 64-bit machine words (`Buidl.Spec.Filters.sipHash24`), for every 16-byte key
  (any other length raises: `siphash_none`) and every message of every length.

  The common middle is the rotation of a natural below 2^64 (`rotN`): the `UInt64` rotation read through `toNat` is
  `rotN`, and so is each of the three forms a rotation takes in `_doublesipround`, whose intermediates are masked only
  where the author found it necessary.  With them its fifteen assignments are read off one by one against the
  specification's two SipRounds.
-/
import Buidl.Model.Filters
import Buidl.Spec.Filters
import Buidl.Proofs.Bytes
namespace Buidl.Filters
open Buidl Buidl.Spec.Filters

def rotN (k x : Nat) : Nat := ((x <<< k) % 2 ^ 64) ||| (x >>> (64 - k))

theorem mask64 (x : Nat) : x &&& 18446744073709551615 = x % 2 ^ 64 :=
  Nat.and_two_pow_sub_one_eq_mod x 64

/-- the form of `i`, `l`, `q` and the results: masked before the shift -/
theorem rot_masked (k x : Nat) (hk : k ≤ 64) :
    ((x &&& (2 ^ (64 - k) - 1)) <<< k) ||| (x >>> (64 - k)) = rotN k x := by
  unfold rotN
  congr 1
  rw [Nat.and_two_pow_sub_one_eq_mod, Nat.shiftLeft_eq, Nat.shiftLeft_eq, ← Nat.mul_mod_mul_right,
    ← Nat.pow_add, Nat.sub_add_cancel hk]

theorem rot_unmasked_mod {k x : Nat} (hx : x < 2 ^ 64) :
    ((x <<< k) ||| (x >>> (64 - k))) % 2 ^ 64 = rotN k x := by
  rw [Nat.or_mod_two_pow, Nat.mod_eq_of_lt (Nat.lt_of_le_of_lt (Nat.shiftRight_le x _) hx)]
  rfl

/-- the form of `j`, `o`, `s`: unmasked, xored, then masked -/
theorem rot_xor_mask {k x : Nat} (y : Nat) (hx : x < 2 ^ 64) :
    (((x <<< k) ||| (x >>> (64 - k))) ^^^ y) &&& 18446744073709551615 = rotN k x ^^^ (y % 2 ^ 64) := by
  rw [mask64, Nat.xor_mod_two_pow, rot_unmasked_mod hx]

/-- the form of `k`, `r`, `u`: unmasked, then added -/
theorem rot_add_mod {k x y : Nat} (hx : x < 2 ^ 64) (hy : y < 2 ^ 64) :
    (((x <<< k) ||| (x >>> (64 - k))) + y) % 2 ^ 64 = (rotN k x + y) % 2 ^ 64 := by
  rw [Nat.add_mod, rot_unmasked_mod hx, Nat.mod_eq_of_lt hy]

def V4.lt64 (v : V4) : Prop := v.1 < 2 ^ 64 ∧ v.2.1 < 2 ^ 64 ∧ v.2.2.1 < 2 ^ 64 ∧ v.2.2.2 < 2 ^ 64

def toV (s : SipState) : V4 := (s.v0.toNat, s.v1.toNat, s.v2.toNat, s.v3.toNat)

theorem toV_lt64 (s : SipState) : (toV s).lt64 :=
  ⟨s.v0.toNat_lt, s.v1.toNat_lt, s.v2.toNat_lt, s.v3.toNat_lt⟩

theorem toNat_rotl64 (x r : UInt64) (k : Nat) (hk : r.toNat = k) (h0 : 0 < k) (hr : k < 64) :
    (rotl64 x r).toNat = rotN k x.toNat := by
  subst hk
  have h : (64 - r).toNat = 64 - r.toNat :=
    UInt64.toNat_sub_of_le _ _ (UInt64.le_iff_toNat_le.2 (Nat.le_of_lt hr))
  unfold rotl64 rotN
  rw [UInt64.toNat_or, UInt64.toNat_shiftLeft, UInt64.toNat_shiftRight, h, Nat.mod_eq_of_lt hr,
    Nat.mod_eq_of_lt (Nat.sub_lt (by decide) h0)]

/-- the refinement of one compression: `_doublesipround` is `sipCompress` read through `toNat`.  The proof names the
    fifteen Python variables and, beside them, the intermediates of the specification's two SipRounds (`x`, `y`; `z`, `w`),
    and says of each Python variable which of those it is.  `f`, `k` and `r` are the three sums the source leaves
    unmasked: for them the fact holds modulo 2^64 -/
theorem doubleSipRound_toV (s : SipState) (m : UInt64) : doubleSipRound (toV s) m.toNat = toV (sipCompress s m) := by
  unfold doubleSipRound toV
  dsimp -zeta only
  extract_lets d' e i f j h k l o p q r s' t u
  have r13 (x : UInt64) := toNat_rotl64 x 13 13 rfl (by decide) (by decide)
  have r16 (x : UInt64) := toNat_rotl64 x 16 16 rfl (by decide) (by decide)
  have r17 (x : UInt64) := toNat_rotl64 x 17 17 rfl (by decide) (by decide)
  have r21 (x : UInt64) := toNat_rotl64 x 21 21 rfl (by decide) (by decide)
  have r32 (x : UInt64) := toNat_rotl64 x 32 32 rfl (by decide) (by decide)
  -- the first round, on `{ s with v3 := s.v3 ^^^ m }`; the `show` at the end checks the values named here against
  -- `sipCompress s m` by unfolding
  let x0 := s.v0 + s.v1
  let x1 := rotl64 s.v1 13 ^^^ x0
  let x2 := s.v2 + (s.v3 ^^^ m)
  let x3 := rotl64 (s.v3 ^^^ m) 16 ^^^ x2
  let y0 := rotl64 x0 32 + x3
  let y3 := rotl64 x3 21 ^^^ y0
  let y2 := x2 + x1
  let y1 := rotl64 x1 17 ^^^ y2
  have hd' : d' = (s.v3 ^^^ m).toNat := (UInt64.toNat_xor ..).symm
  have he : e = x0.toNat := (mask64 _).trans (UInt64.toNat_add ..).symm
  have hi : i = x1.toNat := by
    rw [UInt64.toNat_xor, r13, ← he]
    exact congrArg (· ^^^ e) (rot_masked 13 _ (by decide))
  have hf : f % 2 ^ 64 = x2.toNat := by rw [UInt64.toNat_add, ← hd']
  have hj : j = x3.toNat := by
    rw [UInt64.toNat_xor, r16, ← hf, ← hd']
    exact rot_xor_mask f (hd' ▸ UInt64.toNat_lt _)
  have hh : h = y2.toNat := by
    rw [UInt64.toNat_add, ← hf, ← hi]
    exact (mask64 _).trans (Nat.mod_add_mod ..).symm
  have hl : l = y1.toNat := by
    rw [UInt64.toNat_xor, r17, ← hh, ← hi]
    exact congrArg (· ^^^ h) (rot_masked 17 i (by decide))
  have hk : k % 2 ^ 64 = y0.toNat := by
    rw [UInt64.toNat_add, r32, ← he, ← hj]
    exact rot_add_mod (he ▸ UInt64.toNat_lt _) (hj ▸ UInt64.toNat_lt _)
  have ho : o = y3.toNat := by
    rw [UInt64.toNat_xor, r21, ← hk, ← hj]
    exact rot_xor_mask k (hj ▸ UInt64.toNat_lt _)
  -- the second round, on `(y0, y1, rotl64 y2 32, y3)`
  let z0 := y0 + y1
  let z1 := rotl64 y1 13 ^^^ z0
  let z2 := rotl64 y2 32 + y3
  let z3 := rotl64 y3 16 ^^^ z2
  let w0 := rotl64 z0 32 + z3
  let w3 := rotl64 z3 21 ^^^ w0
  let w2 := z2 + z1
  let w1 := rotl64 z1 17 ^^^ w2
  have hp : p = z0.toNat := by
    rw [UInt64.toNat_add, ← hk, ← hl]
    exact (mask64 _).trans (Nat.mod_add_mod ..).symm
  have hq : q = z1.toNat := by
    rw [UInt64.toNat_xor, r13, ← hp, ← hl]
    exact congrArg (· ^^^ p) (rot_masked 13 l (by decide))
  have hr : r % 2 ^ 64 = z2.toNat := by
    rw [UInt64.toNat_add, r32, ← hh, ← ho]
    exact rot_add_mod (hh ▸ UInt64.toNat_lt _) (ho ▸ UInt64.toNat_lt _)
  have hs : s' = z3.toNat := by
    rw [UInt64.toNat_xor, r16, ← hr, ← ho]
    exact rot_xor_mask r (ho ▸ UInt64.toNat_lt _)
  have ht : t = w2.toNat := by
    rw [UInt64.toNat_add, ← hr, ← hq]
    exact (mask64 _).trans (Nat.mod_add_mod ..).symm
  have hu : u = w0.toNat := by
    rw [UInt64.toNat_add, r32, ← hp, ← hs]
    exact (mask64 _).trans (rot_add_mod (hp ▸ UInt64.toNat_lt _) (hs ▸ UInt64.toNat_lt _))
  show _ = ((w0 ^^^ m).toNat, w1.toNat, (rotl64 w2 32).toNat, w3.toNat)
  rw [UInt64.toNat_xor, UInt64.toNat_xor, UInt64.toNat_xor, r17, r32, r21, ← hu, ← ht, ← hs, ← hq,
    rot_masked 17 q (by decide), rot_masked 32 t (by decide), rot_masked 21 s' (by decide)]

theorem V4.lt64.eq_toV {v : V4} (hv : v.lt64) :
    v = toV ⟨.ofNat v.1, .ofNat v.2.1, .ofNat v.2.2.1, .ofNat v.2.2.2⟩ := by
  simp only [toV, UInt64.toNat_ofNat_of_lt' hv.1, UInt64.toNat_ofNat_of_lt' hv.2.1,
    UInt64.toNat_ofNat_of_lt' hv.2.2.1, UInt64.toNat_ofNat_of_lt' hv.2.2.2]

theorem doubleSipRound_lt64 {v : V4} {m : Nat} (hv : v.lt64) (hm64 : m < 2 ^ 64) :
    (doubleSipRound v m).lt64 := by
  rw [hv.eq_toV, ← UInt64.toNat_ofNat_of_lt' hm64, doubleSipRound_toV]
  exact toV_lt64 _

theorem toNat_word64 {b : Bytes} (hb : b.length ≤ 8) : (word64 b).toNat = leToNat b :=
  UInt64.toNat_ofNat_of_lt' (Nat.lt_of_lt_of_le (leToNat_lt b) (Nat.pow_le_pow_right (by decide) hb))

/-- the last word: `(len & 0xFF) << 56 | int.from_bytes((tail + b"\0"*8)[:8], "little")` -/
theorem lastWord_eq (len : Nat) (tail : Bytes) (ht : tail.length < 8) :
    ((len &&& Gen.sipLenMask) <<< Gen.sipLenShift) ||| leToNat ((tail ++ List.replicate 8 0).take 8)
      = (word64 tail ||| (UInt64.ofNat (len % 256) <<< 56)).toNat := by
  have h1 : (tail ++ List.replicate 8 (0 : UInt8)).take 8 = tail ++ List.replicate (8 - tail.length) 0 := by
    rw [List.take_append, List.take_of_length_le (Nat.le_of_lt ht), List.take_replicate,
      Nat.min_eq_left (Nat.sub_le _ _)]
  have h2 : len &&& Gen.sipLenMask = len % 256 := Nat.and_two_pow_sub_one_eq_mod len 8
  have h3 : len % 256 < 256 := Nat.mod_lt _ (by decide)
  have h4 : (len % 256) <<< 56 < 2 ^ 64 := by rw [Nat.shiftLeft_eq]; omega
  have h5 : (56 : UInt64).toNat % 64 = 56 := rfl
  rw [h1, leToNat_append_zeros, UInt64.toNat_or, toNat_word64 (Nat.le_of_lt ht), UInt64.toNat_shiftLeft, h5,
    UInt64.toNat_ofNat_of_lt' (Nat.lt_trans h3 (by decide)), Nat.mod_eq_of_lt h4, h2, Nat.or_comm]

theorem sipCompress_zero (s : SipState) : sipCompress s 0 = sipRound (sipRound s) := by
  simp [sipCompress]

/-- the finalisation that `Spec.Filters.sipHash24` has inline -/
def sipFinish (s : SipState) : UInt64 :=
  let s : SipState := { s with v2 := s.v2 ^^^ 0xff }
  let s := sipRound (sipRound (sipRound (sipRound s)))
  s.v0 ^^^ s.v1 ^^^ s.v2 ^^^ s.v3

theorem sipFinal_spec (s : SipState) (blen : Nat) (tail : Bytes) (ht : tail.length < 8) :
    sipFinal (toV s) blen tail =
      (sipFinish (sipCompress s (word64 tail ||| (UInt64.ofNat ((blen + tail.length) % 256) <<< 56)))).toNat := by
  have h (s1 : SipState) : ((toV s1).1, (toV s1).2.1, (toV s1).2.2.1 ^^^ Gen.sipFinalXor, (toV s1).2.2.2)
      = toV { s1 with v2 := s1.v2 ^^^ 0xff } := by
    simp only [toV, UInt64.toNat_xor]
    rfl
  unfold sipFinal
  simp only []
  rw [lastWord_eq _ _ ht, doubleSipRound_toV, h, show (0 : Nat) = (0 : UInt64).toNat from rfl,
    doubleSipRound_toV, doubleSipRound_toV, sipCompress_zero, sipCompress_zero]
  simp only [toV, UInt64.toNat_xor, sipFinish]

/-- `update` then `hash` against the specification, from any state; `L` is the length of the whole message, `msg`
    what is still to be read.  The loops run in step; the model's tail is shorter than a block, and compressing the
    last word made from it is what the specification does at the end -/
theorem sipUpdate_final (L : Nat) (s : SipState) (msg : Bytes) (hL : msg.length ≤ L) :
    sipFinal (sipUpdate (toV s) msg).1 (L - (sipUpdate (toV s) msg).2.length) (sipUpdate (toV s) msg).2
      = (sipFinish (sipWords s L msg)).toNat := by
  induction s, msg using sipWords.induct with
  | case1 s b0 b1 b2 b3 b4 b5 b6 b7 rest ih =>
    rw [sipUpdate, ← toNat_word64 (b := [b0, b1, b2, b3, b4, b5, b6, b7]) (Nat.le_refl 8), doubleSipRound_toV, sipWords]
    exact ih (Nat.le_trans (by simp only [List.length_cons]; omega) hL)
  | case2 s tail hnot =>
    have ht : tail.length < 8 := by
      rcases tail with _ | ⟨b0, _ | ⟨b1, _ | ⟨b2, _ | ⟨b3, _ | ⟨b4, _ | ⟨b5, _ | ⟨b6, _ | ⟨b7, rest⟩⟩⟩⟩⟩⟩⟩⟩
      all_goals first
        | exact (hnot _ _ _ _ _ _ _ _ _ rfl).elim
        | simp
    rw [sipUpdate.eq_2 _ _ hnot, sipWords.eq_2 _ _ _ hnot, sipFinal_spec _ _ _ ht, Nat.sub_add_cancel hL]

theorem sipInit_toV (key : Bytes) :
    sipInit key = toV
      { v0 := word64 (key.take 8) ^^^ 0x736f6d6570736575, v1 := word64 ((key.drop 8).take 8) ^^^ 0x646f72616e646f6d,
        v2 := word64 (key.take 8) ^^^ 0x6c7967656e657261, v3 := word64 ((key.drop 8).take 8) ^^^ 0x7465646279746573 } := by
  have h0 : (word64 (key.take 8)).toNat = leToNat (key.take 8) :=
    toNat_word64 (List.length_take_le 8 key)
  have h1 : (word64 ((key.drop 8).take 8)).toNat = leToNat ((key.drop 8).take 8) :=
    toNat_word64 (List.length_take_le 8 _)
  simp only [sipInit, toV, UInt64.toNat_xor, h0, h1]
  refine Prod.ext ?_ (Prod.ext ?_ (Prod.ext ?_ ?_)) <;> exact Nat.xor_comm _ _

/-- SipHash-2-4 of buidl/siphash.py (as used by compactfilter._siphash) is the SipHash-2-4 of the
    specification, for every 16-byte key and every message -/
theorem siphash_eq_spec (key msg : Bytes) (hk : key.length = 16) :
    siphash key msg = some (Spec.Filters.sipHash24 key msg).toNat := by
  unfold siphash
  rw [if_neg (by rw [hk]; decide), sipInit_toV]
  exact congrArg some (sipUpdate_final msg.length _ msg (Nat.le_refl _))

theorem siphash_none (key msg : Bytes) (hk : key.length ≠ 16) : siphash key msg = none := by
  unfold siphash
  rw [if_pos hk]

end Buidl.Filters
