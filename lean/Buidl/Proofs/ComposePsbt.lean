/-
  Glue between the PSBT workflow model (Buidl.Model.PsbtFlow, C10) and the interpreter model
  (Buidl.Model.Interp, C06): partial signatures that the interpreter's oracles accept, and the fact that the
  first m signatures in script order — what `PSBTIn.finalize` emits — are an OP_CHECKMULTISIG witness in the
  sense of Buidl.Proofs.Verify; what `finalize` does on the multisig template.  For Buidl.Props.C10Compose.
-/
import Buidl.Props.C10
import Buidl.Proofs.Verify
import Buidl.Proofs.Script

namespace Buidl.ComposePsbt
open Buidl Buidl.Script Buidl.Interp
open Buidl.Psbt (Dict dget scriptSigs scriptKeys PIn TxInV TxCodec finalizeIn WitnessBranch P2wpkhBranch P2pkhBranch)

/-! ## partial signatures that the interpreter accepts -/

/-- every partial signature stored under one of `keys` is valid in the interpreter's sense: the key parses,
    the element is a DER signature with a hash-type byte whose digest exists, and `verify` holds -/
def SigsValid (env : Env) (sigs : Dict Bytes) (keys : List Bytes) : Prop :=
  ∀ k ∈ keys, ∀ s, dget sigs k = some s → EcdsaAuth env k s

/-! ## OP_CHECKMULTISIG's matching from signatures in script order -/

theorem sigMatch_of_sublist (env : Env) : ∀ (sel : List (Bytes × Bytes)) (K : List Bytes),
    (sel.map Prod.fst).Sublist K → (∀ e ∈ sel, EcdsaAuth env e.1 e.2) →
    ∃ sigs, splitSigs (sel.map Prod.snd) = .ok sigs ∧ SigMatch env sigs K ∧
      ∀ s ∈ sigs, env.sigPre s.1 s.2 = none
  | [], K, _, _ => ⟨[], rfl, SigMatch.nil K, fun _ h => nomatch h⟩
  | (k, s) :: sel, K, hsub, hv => by
    obtain ⟨r₁, r₂, rfl, hk, hsub'⟩ := List.cons_sublist_iff.mp hsub
    obtain ⟨pre, post, rfl⟩ := List.append_of_mem hk
    obtain ⟨sigs, hsplit, hmatch, hpre⟩ := sigMatch_of_sublist env sel (post ++ r₂)
      (hsub'.trans (List.sublist_append_right _ _)) (fun e he => hv e (List.mem_cons_of_mem _ he))
    obtain ⟨der, ht, hsh, _, hsp, hok⟩ := hv (k, s) List.mem_cons_self
    refine ⟨(der, ht) :: sigs, ?_, ?_, List.forall_mem_cons.mpr ⟨hsp, hpre⟩⟩
    · simp only [List.map_cons, splitSigs, hsh, hsplit, Res.bind]
    · rw [List.append_assoc, List.cons_append]
      exact SigMatch.cons der ht sigs pre k (post ++ r₂) hok hmatch

theorem firstPkErr_none (env : Env) : ∀ (ks : List Bytes), (∀ k ∈ ks, env.pkErr k = none) → firstPkErr env ks = none
  | [], _ => rfl
  | k :: ks, h => by
    simp only [firstPkErr, h k List.mem_cons_self]
    exact firstPkErr_none env ks (fun x hx => h x (List.mem_cons_of_mem _ hx))

def keySigs (sigs : Dict Bytes) (pks : List Bytes) : List (Bytes × Bytes) :=
  pks.filterMap fun k => (dget sigs k).map fun s => (k, s)

theorem keySigs_snd (sigs : Dict Bytes) (pks : List Bytes) :
    (keySigs sigs pks).map Prod.snd = pks.filterMap (dget sigs) := by
  simp [keySigs, List.map_filterMap, Function.comp_def]

theorem keySigs_fst_sublist (sigs : Dict Bytes) (pks : List Bytes) : ((keySigs sigs pks).map Prod.fst).Sublist pks := by
  induction pks with
  | nil => exact .slnil
  | cons k r ih =>
    simp only [keySigs, List.filterMap_cons] at ih ⊢
    cases dget sigs k with
    | none => exact ih.cons _
    | some s => exact ih.cons_cons k

theorem keySigs_valid {env : Env} {sigs : Dict Bytes} {pks : List Bytes} (h : SigsValid env sigs pks) :
    ∀ e ∈ keySigs sigs pks, EcdsaAuth env e.1 e.2 := by
  intro e he
  obtain ⟨k, hk, hs⟩ := List.mem_filterMap.mp he
  obtain ⟨s, hd, rfl⟩ := Option.map_eq_some_iff.mp hs
  exact h k hk s hd

/-- `(pks.filterMap (dget sigs)).take m`, the first `m` signatures in script order, is what `PSBTIn.finalize` emits -/
theorem multisigWitness_of_sigs (env : Env) (sigs : Dict Bytes) (pks : List Bytes) (m : Nat)
    (hpk : ∀ k ∈ pks, env.pkErr k = none) (hv : SigsValid env sigs pks)
    (hm : m ≤ (pks.filterMap (dget sigs)).length) :
    MultisigWitness env pks ((pks.filterMap (dget sigs)).take m) ∧
      ((pks.filterMap (dget sigs)).take m).length = m := by
  refine ⟨?_, by rw [List.length_take]; omega⟩
  have hsub : ((((keySigs sigs pks).take m).reverse).map Prod.fst).Sublist pks.reverse := by
    rw [List.map_reverse]
    exact (((List.take_sublist m _).map Prod.fst).trans (keySigs_fst_sublist sigs pks)).reverse
  obtain ⟨ss, hsplit, hmatch, hpre⟩ := sigMatch_of_sublist env _ _ hsub
    (fun e he => keySigs_valid hv e ((List.take_sublist m _).subset (List.mem_reverse.mp he)))
  refine ⟨ss, ?_, hmatch, firstPkErr_none env _ (fun k hk => hpk k (List.mem_reverse.mp hk)), hpre⟩
  rw [← hsplit, List.map_reverse, List.map_take, keySigs_snd]

/-! ## the multisig template `m <key₁> … <keyₙ> n CHECKMULTISIG` as `PSBTIn.finalize` reads it -/

/-- the glue the multisig flows share: `script` (WitnessScript / RedeemScript) is the template
    `mm <key₁> … <keyₙ> n CHECKMULTISIG` over pairwise different keys `pks` that all parse, `1 ≤ mm ≤ 16`,
    `1 ≤ n ≤ 16`; its serialisation `raw` reads back as its commands; every partial signature stored under a
    script key is valid for that key and the input's digest (what `PSBT.validate` checks) -/
structure MultisigGlue (env : Env) (sigs : Dict Bytes) (mm : Nat) (pks : List Bytes) (script : Script)
    (raw : Bytes) : Prop where
  quorum : 1 ≤ mm ∧ mm ≤ 16
  count : 1 ≤ pks.length ∧ pks.length ≤ 16
  nodup : pks.Nodup
  template : script.cmds = multisigScript mm pks
  parses : parseCommands raw = some script.cmds
  keysParse : ∀ k ∈ pks, env.pkErr k = none
  sigsValid : SigsValid env sigs pks

theorem scriptKeys_multisig (m : Nat) (pks : List Bytes) : scriptKeys (multisigScript m pks) = pks := by
  simp [scriptKeys, multisigScript, List.filterMap_append, List.filterMap_map, Function.comp_def]

theorem scriptSigs_multisig (sigs : Dict Bytes) (m : Nat) (pks : List Bytes) :
    scriptSigs sigs (multisigScript m pks) = pks.filterMap (dget sigs) := by
  rw [Psbt.scriptSigs_eq_filterMap_keys, scriptKeys_multisig]

theorem quorum_multisig {cmds : List Cmd} {m : Int} (hq : Psbt.opCodeToNumber cmds[0]? = some m) (mm : Nat)
    (pks : List Bytes) (hc : cmds = multisigScript mm pks) (h : 1 ≤ mm ∧ mm ≤ 16) : m = (mm : Int) := by
  have : ∀ k, k < 17 → 1 ≤ k → Psbt.opCodeToNumber (some (Cmd.op (80 + k))) = some (k : Int) := by decide
  subst hc
  exact Option.some.inj (hq.symm.trans (this mm (by omega) h.1))

/-! ## the finalised input as the verifier sees it; the single-key branches -/

/-- what the finalised input map looks like to the verifier: the ScriptSig's commands and the witness items
    (an absent witness is the empty one) -/
def finalScriptSig {Tx} (q : PIn Tx) : List Cmd := (q.scriptSig.map (·.cmds)).getD []
def finalWitness {Tx} (q : PIn Tx) : List Bytes := q.witness.getD []

theorem finalize_single_key_none {Tx : Type} {C : TxCodec Tx} {txin : TxInV} {p : PIn Tx} {spk : Script}
    (hb : P2wpkhBranch C txin p spk ∨ P2pkhBranch C txin p spk) (hne : p.sigs.length ≠ 1) :
    finalizeIn true C txin p = none :=
  Option.not_isSome_iff_eq_none.mp fun h => hne ((Props.C10.finalize_single_key_iff hb).mp h)

theorem finalize_p2wpkh_single {Tx : Type} {C : TxCodec Tx} {txin : TxInV} {p : PIn Tx} {spk : Script}
    (hb : P2wpkhBranch C txin p spk) {sec sig : Bytes} (hs : p.sigs = [(sec, sig)]) :
    ∃ q, finalizeIn true C txin p = some q ∧ q.scriptSig = Psbt.segwitScriptSig p.redeem ∧
      finalWitness q = [sig, sec] :=
  ⟨_, by rw [Psbt.finalizeIn_p2wpkh true hb, hs], rfl, rfl⟩

/-! ## `finalize` on the multisig template -/

/-- p2wsh / p2sh-p2wsh with the multisig template over pairwise different keys as WitnessScript: `finalize`
    succeeds exactly when `mm` script keys carry a signature, and then emits the first `mm` of them -/
theorem finalize_witness_multisig {Tx : Type} {C : TxCodec Tx} {txin : TxInV} {p : PIn Tx} {spk ws : Script} {m : Int}
    {wraw : Bytes} (hb : WitnessBranch C txin p spk ws m wraw) (mm : Nat) (pks : List Bytes)
    (hmm : 1 ≤ mm ∧ mm ≤ 16) (hnd : pks.Nodup) (hws : ws.cmds = multisigScript mm pks) :
    (mm ≤ (pks.filterMap (dget p.sigs)).length →
      ∃ q, finalizeIn true C txin p = some q ∧ q.scriptSig = Psbt.segwitScriptSig p.redeem ∧
        finalWitness q = [] :: (pks.filterMap (dget p.sigs)).take mm ++ [wraw]) ∧
    ((pks.filterMap (dget p.sigs)).length < mm → finalizeIn true C txin p = none) := by
  have hk : (scriptKeys ws.cmds).Nodup := by rw [hws, scriptKeys_multisig]; exact hnd
  rw [Psbt.finalizeIn_witness true hb hk, hws, scriptSigs_multisig, quorum_multisig hb.quorum mm pks hws hmm,
    Int.toNat_natCast]
  exact ⟨fun hge => ⟨_, if_pos (Int.ofNat_le.mpr hge), rfl, rfl⟩, fun hlt => if_neg (by omega)⟩

/-! ## a toy environment for the non-vacuity examples of Props/C10Compose -/

/-- constant "hashes" matching the toy scripts of Buidl.Proofs.PsbtFinalize (`toyP2wshSpk` carries 32 zero
    bytes, `toyP2shSpk` 20), every key parses, every signature verifies -/
def toyEnv : Env :=
  { locktime := 0, sequence := 0, version := 2, sha1 := id, ripemd160 := id, hash256 := id,
    sha256 := fun _ => List.replicate 32 0, hash160 := fun _ => List.replicate 20 0,
    ecdsaOK := fun _ _ _ => true }

end Buidl.ComposePsbt
