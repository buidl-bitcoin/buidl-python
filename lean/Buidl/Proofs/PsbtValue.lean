/-
  The amount an input contributes to the summary (`tx_in._value`, model field `PIn.value`) is the
  amount of a UTXO record the parser read: an invariant of PSBTIn.parse's loop, for arbitrary bytes.
  With PSBTIn.validate (F11d: both UTXO kinds must describe the same output) it is the amount of the
  output being spent.
-/
import Buidl.Proofs.PsbtValidate
import Buidl.Proofs.PsbtCodec
namespace Buidl.Psbt
open Buidl

def ValueInv {Tx : Type} (C : TxCodec Tx) (idx : Nat) (p : PIn Tx) : Prop :=
  (p.prevTx = none ∧ p.prevOut = none ∧ p.value = none) ∨
  (∃ t o, p.prevTx = some t ∧ (C.outs t)[idx]? = some o ∧ p.value = some o.amount) ∨
  (∃ o, p.prevOut = some o ∧ p.value = some o.amount)

theorem inStep_valueInv {Tx : Type} (C : TxCodec Tx) (O : Oracles) (net : Option Net) (idx : Nat)
    (st : PIn Tx) (key s : Bytes) (hi : ValueInv C idx st) :
    Post (inStep C O net idx st key s) fun r => ValueInv C idx r.1 := by
  have keep : ∀ {q : PIn Tx} {r : Bytes}, q.prevTx = st.prevTx → q.prevOut = st.prevOut → q.value = st.value →
      Post (pure (q, r) : Option (PIn Tx × Bytes)) fun r => ValueInv C idx r.1 := by
    intro q r h1 h2 h3
    refine .pure ?_
    unfold ValueInv at hi ⊢
    rw [h1, h2, h3]
    exact hi
  cases key with
  | nil => exact .none
  | cons t tl =>
    unfold inStep
    refine .ite (fun _ => .none) fun _ => .ite (fun _ => ?_) fun _ => .ite (fun _ => ?_) fun _ => ?_
    · exact .bind fun _ _ => .bind fun _ _ => .bind fun ⟨tx, _⟩ _ => .bind fun _ _ => .bind fun _ _ =>
        .bind fun o ho => .pure (Or.inr (Or.inl ⟨tx, o, rfl, ho, rfl⟩))
    · exact .bind fun _ _ => .bind fun _ _ => .bind fun ⟨o, _⟩ _ => .bind fun _ _ => .bind fun _ _ =>
        .pure (Or.inr (Or.inr ⟨o, rfl, rfl⟩))
    -- every other record (in the order of `inStep`: partial signature, sighash type, the two scripts, derivation,
    -- final scriptSig, final witness, unknown key) sets one field that is none of the three
    refine .ite (fun _ => .bind fun _ _ => .bind fun _ _ => keep rfl rfl rfl) fun _ => ?_
    refine .ite (fun _ => .bind fun _ _ => .bind fun _ _ => keep rfl rfl rfl) fun _ => ?_
    refine .ite (fun _ => .bind fun _ _ => .bind fun _ _ => keep rfl rfl rfl) fun _ => ?_
    refine .ite (fun _ => .bind fun _ _ => .bind fun _ _ => keep rfl rfl rfl) fun _ => ?_
    refine .ite (fun _ => .bind fun _ _ => keep rfl rfl rfl) fun _ => ?_
    refine .ite (fun _ => .bind fun _ _ => .bind fun _ _ => keep rfl rfl rfl) fun _ => ?_
    refine .ite (fun _ => .bind fun _ _ => .bind fun _ _ => .bind fun _ _ => keep rfl rfl rfl) fun _ => ?_
    exact .bind fun _ _ => .bind fun _ _ => keep rfl rfl rfl

theorem parseInMap_valueInv {Tx : Type} (C : TxCodec Tx) (O : Oracles) (net : Option Net) (idx : Nat) (s : Bytes)
    (p : PIn Tx) (rest : Bytes) (h : parseInMap C O net idx s = some (p, rest)) : ValueInv C idx p :=
  kvLoop_post (ValueInv C idx) (fun st key s hi => inStep_valueInv C O net idx st key s hi) _ _ _
    (Or.inl ⟨rfl, rfl, rfl⟩) _ h

theorem value_is_spent_output_amount {Tx : Type} (H : Hashes) (C : TxCodec Tx) (txin : TxInV) (p : PIn Tx)
    (hinv : ValueInv C txin.prevIndex p) (hval : validateIn H C txin p = some ()) :
    (∀ t, p.prevTx = some t → ∃ o, (C.outs t)[txin.prevIndex]? = some o ∧ p.value = some o.amount) ∧
    (∀ o, p.prevTx = none → p.prevOut = some o → p.value = some o.amount) := by
  refine ⟨fun t ht => ?_, fun o hpt hpo => ?_⟩
  · rcases hinv with ⟨h1, _, _⟩ | ⟨t', o, h1, ho, hv⟩ | ⟨o, hpo, hv⟩
    · rw [ht] at h1; cases h1
    · rw [ht] at h1; cases h1; exact ⟨o, ho, hv⟩
    · -- both kinds: validateIn forces the witness UTXO to equal the previous transaction's output
      obtain ⟨u, hu, ha, _⟩ := (validateIn_some hval).both ht hpo
      exact ⟨u, hu, by rw [hv, ha]⟩
  · rcases hinv with ⟨_, h2, _⟩ | ⟨t', o', h1, _, _⟩ | ⟨o', hpo', hv⟩
    · rw [hpo] at h2; cases h2
    · rw [hpt] at h1; cases h1
    · rw [hpo] at hpo'; cases hpo'; exact hv

end Buidl.Psbt
