/-
  The lemmas for C01 (ECDSA) that need the primality of N (Fermat inverse) and the group law of
  secp256k1, used through the multiples of G (Buidl.Proofs.SecpScalar): signing and verifying under a
  key `d·G` are equations in the field `ZMod N`.
-/
import Buidl.Proofs.ECDSA
import Buidl.Proofs.SecpCodec
import Buidl.Proofs.SecpScalar
namespace Buidl.ECDSA
open Buidl Buidl.EC

theorem cast_ne_zero_N {x : ℕ} (h1 : 1 ≤ x) (h2 : x < N) : (x : ZMod N) ≠ 0 :=
  cast_ne_zero_of_lt N h2 (by omega)

theorem powmod_inv_cast (s : ℕ) (h1 : 1 ≤ s) (h2 : s < N) :
    ((powmod s (N - 2) N : ℕ) : ZMod N) = (s : ZMod N)⁻¹ := by
  rw [powmod_cast, inv_eq_pow N _ (cast_ne_zero_N h1 h2)]

theorem powmod_inv_mul (s : ℕ) (h1 : 1 ≤ s) (h2 : s < N) : powmod s (N - 2) N * s % N = 1 := by
  have h : ((powmod s (N - 2) N * s : ℕ) : ZMod N) = ((1 : ℕ) : ZMod N) := by
    push_cast
    rw [powmod_inv_cast s h1 h2, inv_mul_cancel₀ (cast_ne_zero_N h1 h2)]
  rw [ZMod.natCast_eq_natCast_iff'] at h
  rw [h]; decide

theorem cast_eq_inv_of_mul_mod {w s : ℕ} (h : w * s % N = 1) : (w : ZMod N) = (s : ZMod N)⁻¹ := by
  apply eq_inv_of_mul_eq_one_left
  rw [← Nat.cast_mul, ← ZMod.natCast_mod, h, Nat.cast_one]

/-- the inverse modulo N that the ECDSA predicate asks for is the Fermat power the code computes -/
theorem inv_eq_powmod {w s : ℕ} (hs1 : 1 ≤ s) (hs2 : s < N) (hw : w < N) (h : w * s % N = 1) :
    w = powmod s (N - 2) N :=
  cast_inj_of_lt N hw (powmod_lt _ _ _ N_pos)
    ((cast_eq_inv_of_mul_mod h).trans (powmod_inv_cast s hs1 hs2).symm)

theorem sign_ok {hmac : Bytes → Bytes → Bytes} {fuel d z : ℕ} {rs : ℕ × ℕ}
    (h : sign hmac fuel d z = .ok rs) :
    (1 ≤ d ∧ d < N) ∧ ∃ k, deterministicK hmac fuel d z = .ok k ∧ signWith k d z = some rs := by
  rw [sign, validSecret_eq] at h
  split at h
  · cases h
  · next hv =>
    refine ⟨by simpa [Nat.one_le_iff_ne_zero] using hv, ?_⟩
    split at h
    · cases h
    · next k hk =>
      split at h
      · cases h
      · next rs' hrs => injection h with h; subst h; exact ⟨k, hk, hrs⟩

/-- **the signing equation**: `signWith` returns `r = x(k·G)` and an `s < N` with `w·s = z + r·d` in `ZMod N`
    for `w = k`, or `w = -k` after the low-S flip -/
theorem signWith_eq {k d z r s : ℕ} (hk1 : 1 ≤ k) (hk2 : k < N) (h : signWith k d z = some (r, s)) :
    ∃ y, smul (k : ℤ) G = .aff r y ∧ s < N ∧
      ∃ w : ℤ, ((w : ZMod N) = (k : ℤ) ∨ (w : ZMod N) = -((k : ℤ) : ZMod N)) ∧
        (w : ZMod N) * s = (z : ZMod N) + r * ((d : ℤ) : ZMod N) := by
  obtain ⟨y, t, hkG, ht, hs⟩ := signWith_eq_some_iff.mp h
  have hK : (k : ZMod N) ≠ 0 := cast_ne_zero_N hk1 hk2
  have hlt : t < N := ht ▸ Nat.mod_lt _ N_pos
  have h0 : (k : ZMod N) * t = (z : ZMod N) + r * d := by
    rw [ht, ZMod.natCast_mod, Nat.cast_mul, powmod_inv_cast k hk1 hk2, mul_comm, inv_mul_cancel_right₀ hK]
    push_cast
    rfl
  refine ⟨y, hkG, by rw [hs]; split <;> omega, ?_⟩
  rw [hs]
  split
  · exact ⟨-k, Or.inr (Int.cast_neg _), by
      rw [Int.cast_neg, Int.cast_natCast, Int.cast_natCast, Nat.cast_sub hlt.le, ZMod.natCast_self, zero_sub,
        neg_mul_neg, h0]⟩
  · exact ⟨k, Or.inl rfl, by rw [Int.cast_natCast, Int.cast_natCast, h0]⟩

theorem verify_smul_G {d : ℤ} {z r s : ℕ} (hr : 1 ≤ r ∧ r < N) (hs1 : 1 ≤ s) (hs2 : s < N) {w : ℤ}
    (hw : (w : ZMod N) * s = (z : ZMod N) + r * d) :
    verify (smul d G) z r s = match smul w G with | .inf => none | .aff x _ => some (x == r) := by
  have hS : (s : ZMod N) ≠ 0 := cast_ne_zero_N hs1 hs2
  rw [verify_eq, if_pos ⟨hr.1, hr.2, hs1, hs2⟩, sadd_smul_G, (smul_G_eq_iff_cast (b := w)).mpr]
  · rfl
  · -- `w = (w·s)/s = (z + r d)/s`
    rw [Int.cast_add, Int.cast_mul, Int.cast_natCast, Int.cast_natCast, ZMod.natCast_mod, ZMod.natCast_mod,
      Nat.cast_mul, Nat.cast_mul, powmod_inv_cast s hs1 hs2, ← mul_inv_cancel_right₀ hS (w : ZMod N), hw]
    ring

/-- **sign → verify**: for a secret `d`, a nonce `k ∈ [1, n-1]`, any digest `z`: if the body of
    PrivateKey.sign returns `(r, s)` with `s ≠ 0` and `r = x(kG) < n`, then S256Point.verify on the
    public key `dG` accepts `(z, r, s)`. -/
theorem verify_signWith (k d z r s : ℕ) (hk1 : 1 ≤ k) (hk2 : k < N)
    (h : signWith k d z = some (r, s)) (hr : r < N) (hs0 : s ≠ 0) :
    verify (smul (d : ℤ) G) z r s = some true := by
  -- verify computes `w·G` for any `w` with `w·s = z + r d`: that is `k`, or `-k` after the low-S flip
  obtain ⟨y, hkG, hs2, w, hwk, hws⟩ := signWith_eq hk1 hk2 h
  have hr1 : 1 ≤ r := Nat.one_le_iff_ne_zero.mpr (valid_x_ne_zero (hkG ▸ smul_valid G_valid _))
  obtain ⟨y', hy'⟩ := smul_G_sign hkG hwk
  rw [verify_smul_G ⟨hr1, hr⟩ (by omega) hs2 hws, hy']
  exact congrArg some (beq_self_eq_true r)

end Buidl.ECDSA
