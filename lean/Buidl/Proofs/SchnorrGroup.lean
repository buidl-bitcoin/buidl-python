/-
  Helper lemmas for C02 (BIP340 Schnorr): Buidl.Model.Schnorr against Buidl.Spec.BIP340 where
  the group law of secp256k1, the order of G and the square root in F_p are needed
  (Buidl.Proofs.Secp256k1 / SecpCodec on top of Buidl.Proofs.ECGroup / Mathlib): `lift_x` is the
  decompression step of `parse_xonly`, the 64-byte signature codec, and the verification equation.
-/
import Buidl.Proofs.Schnorr
import Buidl.Proofs.SecpCodec
import Buidl.Proofs.SecpScalar
namespace Buidl.Schnorr
open Buidl Buidl.EC
open Buidl.Spec.BIP340 (liftX hashTag tagChallenge tagAux tagNonce bytes32 int)

-- keep `whnf` from unrolling modular exponentiations / scalar multiplications when it compares terms
attribute [local irreducible] fsqrt fpow pmul powmod

/-! ### lift_x is parse_xonly (except at 0, which the code reads as the point at infinity) -/

theorem fpow_sqrt_exp (c : ℕ) : fpow P c ((P + 1) / 4) = powmod c ((P + 1) / 4) P := by
  unfold fpow; rw [show ((P + 1) / 4) % (P - 1) = (P + 1) / 4 by decide]

/-- BIP340's `lift_x` is decompression to even y -/
theorem liftX_eq (x : ℕ) : liftX x = liftPar x 0 := by
  unfold liftX liftPar
  by_cases hx : x < P
  · rw [if_neg (by omega), if_pos hx, rhs_eq, fsqrt_eq, fpow_sqrt_exp]
    by_cases hc : fmul P (powmod ((x ^ 3 + 7) % P) ((P + 1) / 4) P)
        (powmod ((x ^ 3 + 7) % P) ((P + 1) / 4) P) = (x ^ 3 + 7) % P
    · rw [if_pos hc]; exact if_neg fun h => h hc.symm
    · rw [if_neg hc]; exact if_pos fun h => hc h.symm
  · rw [if_pos (by omega), if_neg hx]

theorem liftX_eq_parseXonly (b : Bytes) (h0 : beToNat b ≠ 0) : liftX (beToNat b) = parseXonly b := by
  rw [liftX_eq, parseXonly_eq, if_neg h0]

theorem liftX_eq_some_iff {x : ℕ} {Q : Pt} :
    liftX x = some Q ↔ ∃ y, Q = .aff x y ∧ y % 2 = 0 ∧ Valid P A B (.aff x y) := by
  rw [liftX_eq, liftPar_eq_some_iff (by decide)]

theorem liftX_of_valid {x y : ℕ} (hv : Valid P A B (.aff x y)) : liftX x = some (evenRep (.aff x y)) := by
  rw [liftX_eq, liftPar_of_valid hv]

theorem liftX_zero : liftX 0 = none := by
  cases h : liftX 0 with
  | none => rfl
  | some Q =>
    obtain ⟨y, -, -, hv⟩ := liftX_eq_some_iff.mp h
    exact absurd rfl (valid_x_ne_zero hv)

theorem xonly_aff (x y : ℕ) : xonly (.aff x y) = bytes32 x := rfl

/-! ### SchnorrSignature codec -/

theorem parse_eq (sig : Bytes) : parse sig =
    match parsePoint (sig.take 32) with
    | none => none
    | some R => if beToNat ((sig.drop 32).take 32) ≥ N then none else some (R, beToNat ((sig.drop 32).take 32)) := by
  simp only [parse, sread, Gen.schnorrParseRWidth, Gen.schnorrParseSWidth, Option.bind_eq_bind]
  cases parsePoint (sig.take 32) with
  | none => rfl
  | some R => simp only [Option.bind_some, mkSig_eq]

theorem parse_some (b : Bytes) (R : Pt) (s : Nat) (h : parse b = some (R, s)) :
    32 ≤ b.length ∧ parseXonly (b.take 32) = some R ∧ s = beToNat ((b.drop 32).take 32) ∧ s < N := by
  rw [parse_eq] at h
  cases hp : parsePoint (b.take 32) with
  | none => rw [hp] at h; cases h
  | some R' =>
    rw [hp] at h
    dsimp only at h
    split at h
    · cases h
    · next hs =>
      obtain ⟨rfl, rfl⟩ := Prod.mk.inj (Option.some.inj h)
      -- `parse` took the x-only branch: at most 32 bytes were read, and fewer are refused
      have hl : (b.take 32).length = 32 := by
        by_contra hne
        have hle : (b.take 32).length ≤ 32 := List.length_take_le _ _
        rw [parsePoint_bad_length _ ⟨hne, by omega, by omega⟩] at hp
        cases hp
      rw [parsePoint_of_length_32 hl] at hp
      rw [List.length_take] at hl
      exact ⟨by omega, hp, rfl, by omega⟩

theorem serialize_parse (b : Bytes) (hb : 64 ≤ b.length) (R : Pt) (s : Nat) (h : parse b = some (R, s)) :
    serialize R s = some (b.take 64) := by
  obtain ⟨_, hR, hs, hsN⟩ := parse_some b R s h
  have hx := xonly_of_parseXonly (by rw [List.length_take]; omega) hR
  have hsb : natToBE' 32 s = (b.drop 32).take 32 :=
    hs ▸ natToBE'_beToNat_of_length (by rw [List.length_take, List.length_drop]; omega)
  rw [serialize, natToBE_some (lt_trans hsN N_lt_2_256), some_bind_eq, hx, hsb,
    show (64 : Nat) = 32 + 32 from rfl, List.take_add]
  rfl

theorem parse_none_of (b : Bytes)
    (h : parseXonly (b.take 32) = none ∨ N ≤ beToNat ((b.drop 32).take 32)) : parse b = none := by
  cases hp : parse b with
  | none => rfl
  | some Rs =>
    obtain ⟨hlen, hR, hs, hsN⟩ := parse_some b Rs.1 Rs.2 hp
    rcases h with h | h
    · rw [h] at hR; cases hR
    · omega

/-! ### the verification step on parsed data -/

/-- the tail of BIP340 verification once `P = lift_x(pk)`, `r < p`, `s < n` are available -/
def specCore (sha256 : Bytes → Bytes) (Pk : Pt) (m : Bytes) (r s : ℕ) : Bool :=
  match sadd (smul (s : ℤ) G)
      (smul ((N - int (hashTag sha256 tagChallenge (bytes32 r ++ xonly Pk ++ m)) % N : ℕ) : ℤ) Pk) with
  | .inf => false
  | .aff x y => decide (y % 2 = 0) && decide (x = r)

theorem spec_verify_unfold (sha256 : Bytes → Bytes) (pk m sig : Bytes) :
    Spec.BIP340.verify sha256 pk m sig =
      match liftX (beToNat pk) with
      | none => false
      | some Pk =>
        if beToNat (sig.take 32) ≥ P then false else
        if beToNat ((sig.drop 32).take 32) ≥ N then false else
        specCore sha256 Pk m (beToNat (sig.take 32)) (beToNat ((sig.drop 32).take 32)) := rfl

/-- S256Point.verify_schnorr on a finite key `Q` whose even-y normalisation is `Q'` and a finite `R`
    computes the tail of BIP340 verification for `Q'` -/
theorem verifySchnorr_core (sha256 : Bytes → Bytes) (c : Cache) (hc : CacheOK sha256 c)
    (px py : ℕ) (Q' : Pt) (hQ' : (if py % 2 = 1 then smul (-1) (.aff px py) else .aff px py) = Q')
    (hv : Valid P A B Q') (m : Bytes) (r ry s : ℕ) (hr : r < P) :
    ∃ c', verifySchnorr sha256 c (.aff px py) m (.aff r ry) s = some (specCore sha256 Q' m r s, c') ∧
      CacheOK sha256 c' := by
  obtain ⟨c', hh, hc'⟩ := taggedHash_spec sha256 c hc Gen.schnorrTagChallenge (xonly (.aff r ry) ++ xonly Q' ++ m)
  refine ⟨c', ?_, hc'⟩
  have he : beToNat (hashTag sha256 tagChallenge (bytes32 r ++ xonly Q' ++ m)) % N < N := Nat.mod_lt _ (by decide)
  simp only [verifySchnorr, parityOf, Option.bind_eq_bind, Option.bind_some, Option.pure_def, hQ', hashChallenge, hh]
  rw [tagChallenge_eq]
  rw [xonly_aff]
  simp only [specCore, int, saddInt]
  rw [smul_N_sub he.le, sadd_comm (smul_valid hv _) (smul_valid G_valid _)]
  have hres : Valid P A B (sadd (smul (s : ℤ) G)
      (smul (-(↑(beToNat (hashTag sha256 tagChallenge (bytes32 r ++ xonly Q' ++ m)) % N) : ℤ)) Q')) :=
    sadd_valid (smul_valid G_valid _) (smul_valid hv _)
  generalize sadd (smul (s : ℤ) G)
      (smul (-(↑(beToNat (hashTag sha256 tagChallenge (bytes32 r ++ xonly Q' ++ m)) % N) : ℤ)) Q') = res at hres
  cases res with
  | inf => rfl
  | aff x y =>
    have hxP : x < P := hres.1
    simp only []
    by_cases hy : y % 2 = 1
    · simp [hy]
    · have hy0 : y % 2 = 0 := by omega
      rw [if_neg hy]
      have e1 : (xonly (Pt.aff x y) == bytes32 r) = decide (x = r) := by
        rw [Bool.eq_iff_iff, beq_iff_eq, decide_eq_true_eq]
        exact xonly_aff_eq_iff (y' := ry) hxP hr
      rw [e1]; simp [hy0]

end Buidl.Schnorr
