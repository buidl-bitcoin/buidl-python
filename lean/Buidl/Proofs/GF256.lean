/-
  Buidl.Proofs.GF256 — the tables computed by `ShareSet._load` define a field with 256 elements:
  addition is XOR, multiplication is `exp[(log a + log b) % 255]`.  The type `GF256` gets a Mathlib `Field`
  instance.
-/
import Buidl.Proofs.GF256Table
import Mathlib.Algebra.Field.MinimalAxioms
import Mathlib.Tactic.Ring
namespace Buidl.Shamir
open Buidl

/-! ## unpacking the kernel-checked table facts -/

theorem allBelow_iff (n : Nat) (p : Nat → Bool) : allBelow n p = true ↔ ∀ i, i < n → p i = true := by
  simp [allBelow, List.all_eq_true]

theorem tables_facts :
    tables.exp.length = 255 ∧ tables.log.length = 256 ∧ logN 0 = 0 ∧ expN 0 = 1 ∧
    (∀ i, i < 255 → 0 < expN i ∧ expN i < 256 ∧ logN (expN i) = i ∧ expN ((i + 1) % 255) = gfNext (expN i)) ∧
    (∀ a, a < 256 → a ≠ 0 → logN a < 255 ∧ expN (logN a) = a) := by
  have h := tables_check
  simp only [checkTables, Bool.and_eq_true, beq_iff_eq, allBelow_iff, decide_eq_true_eq,
    Bool.or_eq_true] at h
  obtain ⟨⟨⟨⟨⟨h1, h2⟩, h3⟩, h4⟩, h5⟩, h6⟩ := h
  refine ⟨h1, h2, h3, h4, ?_, ?_⟩
  · intro i hi
    obtain ⟨⟨⟨a, b⟩, c⟩, d⟩ := h5 i hi
    exact ⟨a, b, c, d⟩
  · intro a ha hne
    rcases h6 a ha with h | h
    · exact absurd h hne
    · exact h

theorem exp_length : tables.exp.length = 255 := tables_facts.1
theorem log_length : tables.log.length = 256 := tables_facts.2.1
theorem logN_zero : logN 0 = 0 := tables_facts.2.2.1
theorem expN_zero : expN 0 = 1 := tables_facts.2.2.2.1
theorem expN_ne_zero {i : Nat} (hi : i < 255) : expN i ≠ 0 := Nat.pos_iff_ne_zero.mp (tables_facts.2.2.2.2.1 i hi).1
theorem expN_lt {i : Nat} (hi : i < 255) : expN i < 256 := (tables_facts.2.2.2.2.1 i hi).2.1
theorem logN_expN {i : Nat} (hi : i < 255) : logN (expN i) = i := (tables_facts.2.2.2.2.1 i hi).2.2.1
theorem expN_succ {i : Nat} (hi : i < 255) : expN ((i + 1) % 255) = gfNext (expN i) :=
  (tables_facts.2.2.2.2.1 i hi).2.2.2
theorem logN_lt {a : Nat} (ha : a < 256) (hne : a ≠ 0) : logN a < 255 := (tables_facts.2.2.2.2.2 a ha hne).1
theorem expN_logN {a : Nat} (ha : a < 256) (hne : a ≠ 0) : expN (logN a) = a :=
  (tables_facts.2.2.2.2.2 a ha hne).2

theorem getElem?_eq_some_getD {α} {l : List α} {i : Nat} (h : i < l.length) (d : α) : l[i]? = some (l.getD i d) := by
  rw [← List.getElem_eq_getD (h := h) d]
  exact List.getElem?_eq_getElem h

theorem log2?_eq {a : Nat} (ha : a < 256) : log2? a = some (logN a) :=
  getElem?_eq_some_getD (log_length ▸ ha) 0

theorem exp?_eq {i : Nat} (hi : i < 255) : exp? i = some (expN i) :=
  getElem?_eq_some_getD (exp_length ▸ hi) 0

theorem gfNext_facts (a : Nat) (ha : a < 256) :
    gfNext a < 256 ∧ gfNext a = (((a <<< 1) ^^^ a) ^^^ (if a.testBit 7 then Gen.gfReduce else 0)) := by
  have h := next_check
  simp only [checkNext, allBelow_iff, Bool.and_eq_true, decide_eq_true_eq, beq_iff_eq] at h
  exact h a ha

theorem xor_lt_256 {a b : Nat} (ha : a < 256) (hb : b < 256) : a ^^^ b < 256 :=
  Nat.xor_lt_two_pow (n := 8) ha hb

theorem gfNext_xor (a b : Nat) (ha : a < 256) (hb : b < 256) :
    gfNext (a ^^^ b) = gfNext a ^^^ gfNext b := by
  have x4 : ∀ p q r s : Nat, (p ^^^ q) ^^^ (r ^^^ s) = (p ^^^ r) ^^^ (q ^^^ s) := fun _ _ _ _ => by ac_rfl
  rw [(gfNext_facts _ (xor_lt_256 ha hb)).2, (gfNext_facts _ ha).2, (gfNext_facts _ hb).2, Nat.shiftLeft_xor_distrib,
    Nat.testBit_xor, x4 (a <<< 1), x4 (a <<< 1 ^^^ a) _ (b <<< 1 ^^^ b)]
  congr 1
  cases a.testBit 7 <;> cases b.testBit 7 <;> simp

theorem gfNext_zero : gfNext 0 = 0 := by decide

attribute [local irreducible] expN logN

/-! ## multiplication on bytes -/

/-- the product the code computes: `exp[(log2[a] + log2[b]) % 255]`, and 0 if a factor is 0 -/
def gmul (a b : Nat) : Nat := if a = 0 ∨ b = 0 then 0 else expN ((logN a + logN b) % 255)

theorem gmul_lt (a b : Nat) : gmul a b < 256 := by
  unfold gmul
  split
  · decide
  · exact expN_lt (Nat.mod_lt _ (by decide))

theorem gmul_comm (a b : Nat) : gmul a b = gmul b a := by
  simp only [gmul, Nat.add_comm, or_comm]

theorem gmul_zero_left (b : Nat) : gmul 0 b = 0 := by
  unfold gmul; rw [if_pos (Or.inl rfl)]

theorem gmul_zero_right (a : Nat) : gmul a 0 = 0 := by
  unfold gmul; rw [if_pos (Or.inr rfl)]

theorem gmul_of_ne_zero {a b : Nat} (ha : a ≠ 0) (hb : b ≠ 0) : gmul a b = expN ((logN a + logN b) % 255) :=
  if_neg (not_or.mpr ⟨ha, hb⟩)

theorem gmul_ne_zero {a b : Nat} (ha : a ≠ 0) (hb : b ≠ 0) : gmul a b ≠ 0 := by
  rw [gmul_of_ne_zero ha hb]
  exact expN_ne_zero (Nat.mod_lt _ (by decide))

theorem logN_gmul {a b : Nat} (ha : a ≠ 0) (hb : b ≠ 0) : logN (gmul a b) = (logN a + logN b) % 255 := by
  rw [gmul_of_ne_zero ha hb]
  exact logN_expN (Nat.mod_lt _ (by decide))

theorem gmul_assoc (a b c : Nat) : gmul (gmul a b) c = gmul a (gmul b c) := by
  by_cases ha0 : a = 0
  · subst ha0; rw [gmul_zero_left, gmul_zero_left, gmul_zero_left]
  by_cases hb0 : b = 0
  · subst hb0; rw [gmul_zero_left, gmul_zero_right, gmul_zero_left]
  by_cases hc0 : c = 0
  · subst hc0; rw [gmul_zero_right, gmul_zero_right, gmul_zero_right]
  rw [gmul_of_ne_zero (gmul_ne_zero ha0 hb0) hc0, gmul_of_ne_zero ha0 (gmul_ne_zero hb0 hc0), logN_gmul ha0 hb0,
    logN_gmul hb0 hc0, Nat.mod_add_mod, Nat.add_mod_mod, Nat.add_assoc]

theorem gmul_one (a : Nat) (ha : a < 256) : gmul 1 a = a := by
  by_cases h0 : a = 0
  · subst h0; rw [gmul_zero_right]
  · have l1 : logN 1 = 0 := by
      have := logN_expN (i := 0) (by decide); rwa [expN_zero] at this
    rw [gmul_of_ne_zero (by decide) h0, l1, Nat.zero_add, Nat.mod_eq_of_lt (logN_lt ha h0), expN_logN ha h0]

def gfPow : Nat → Nat → Nat
  | 0, b => b
  | k + 1, b => gfNext (gfPow k b)

theorem gfPow_lt : ∀ (k b : Nat), b < 256 → gfPow k b < 256 := by
  intro k
  induction k with
  | zero => intro b hb; exact hb
  | succ k ih => intro b hb; exact (gfNext_facts _ (ih b hb)).1

theorem gfPow_xor : ∀ (k a b : Nat), a < 256 → b < 256 → gfPow k (a ^^^ b) = gfPow k a ^^^ gfPow k b := by
  intro k
  induction k with
  | zero => intro a b _ _; rfl
  | succ k ih =>
    intro a b ha hb
    simp only [gfPow]
    rw [ih a b ha hb, gfNext_xor _ _ (gfPow_lt k a ha) (gfPow_lt k b hb)]

theorem gfPow_zero (k : Nat) : gfPow k 0 = 0 := by
  induction k with
  | zero => rfl
  | succ k ih => simp [gfPow, ih, gfNext_zero]

/-- multiplying by `exp[k]` is `k` generator steps: distributivity (`gmul_xor`) comes down to `gfNext_xor` -/
theorem gmul_expN (k : Nat) (hk : k < 255) (b : Nat) (hb : b < 256) : gmul (expN k) b = gfPow k b := by
  induction k with
  | zero => rw [expN_zero, gmul_one b hb]; rfl
  | succ k ih =>
    have hk' : k < 255 := by omega
    by_cases hb0 : b = 0
    · subst hb0; rw [gfPow_zero, gmul_zero_right]
    · rw [gfPow, ← ih hk', gmul_of_ne_zero (expN_ne_zero hk) hb0, logN_expN hk,
        gmul_of_ne_zero (expN_ne_zero hk') hb0, logN_expN hk',
        ← expN_succ (Nat.mod_lt _ (by decide)), Nat.mod_add_mod, Nat.add_right_comm]

theorem gmul_xor (a b c : Nat) (ha : a < 256) (hb : b < 256) (hc : c < 256) :
    gmul a (b ^^^ c) = gmul a b ^^^ gmul a c := by
  by_cases ha0 : a = 0
  · subst ha0; rw [gmul_zero_left, gmul_zero_left, gmul_zero_left]; rfl
  · have hl := logN_lt ha ha0
    rw [← expN_logN ha ha0, gmul_expN _ hl _ (xor_lt_256 hb hc), gmul_expN _ hl _ hb, gmul_expN _ hl _ hc,
      gfPow_xor _ _ _ hb hc]

def ginv (a : Nat) : Nat := if a = 0 then 0 else expN ((255 - logN a) % 255)

theorem gmul_ginv (a : Nat) (ha : a < 256) (h0 : a ≠ 0) : gmul a (ginv a) = 1 := by
  have hl := logN_lt ha h0
  have hm : (255 - logN a) % 255 < 255 := Nat.mod_lt _ (by decide)
  rw [ginv, if_neg h0, gmul_of_ne_zero h0 (expN_ne_zero hm), logN_expN hm,
    show (logN a + (255 - logN a) % 255) % 255 = 0 by omega, expN_zero]

/-! ## the field -/

@[ext] structure GF256 where
  val : Nat
  lt : val < 256
deriving DecidableEq

namespace GF256

def ofNat (n : Nat) : GF256 := ⟨n % 256, Nat.mod_lt _ (by decide)⟩

instance : Zero GF256 := ⟨⟨0, by decide⟩⟩
instance : One GF256 := ⟨⟨1, by decide⟩⟩
instance : Add GF256 := ⟨fun a b => ⟨a.val ^^^ b.val, Nat.xor_lt_two_pow (n := 8) a.lt b.lt⟩⟩
instance : Neg GF256 := ⟨fun a => a⟩
instance : Mul GF256 := ⟨fun a b => ⟨gmul a.val b.val, gmul_lt _ _⟩⟩
instance : Inv GF256 := ⟨fun a => ⟨ginv a.val, by
  unfold ginv; split
  · decide
  · exact expN_lt (Nat.mod_lt _ (by decide))⟩⟩

@[simp] theorem zero_val : (0 : GF256).val = 0 := rfl
@[simp] theorem one_val : (1 : GF256).val = 1 := rfl
@[simp] theorem add_val (a b : GF256) : (a + b).val = a.val ^^^ b.val := rfl
@[simp] theorem neg_val (a : GF256) : (-a).val = a.val := rfl
@[simp] theorem mul_val (a b : GF256) : (a * b).val = gmul a.val b.val := rfl
@[simp] theorem inv_val (a : GF256) : (a⁻¹).val = ginv a.val := rfl

theorem val_eq_zero {a : GF256} : a.val = 0 ↔ a = 0 := by
  constructor
  · intro h; ext; simpa using h
  · intro h; rw [h]; rfl

instance instField : Field GF256 :=
  Field.ofMinimalAxioms GF256
    (fun a b c => by ext; simp [Nat.xor_assoc])
    (fun a => by ext; simp)
    (fun a => by ext; simp)
    (fun a b c => by ext; simp [gmul_assoc])
    (fun a b => by ext; simp [gmul_comm])
    (fun a => by ext; simp [gmul_one _ a.lt])
    (fun a h => by
      ext; simp only [mul_val, inv_val, one_val]
      exact gmul_ginv _ a.lt (mt val_eq_zero.mp h))
    (by ext; simp [ginv])
    (fun a b c => by ext; simp [gmul_xor _ _ _ a.lt b.lt c.lt])
    ⟨0, 1, by intro h; have := congrArg GF256.val h; simp at this⟩

theorem sub_eq_add' (a b : GF256) : a - b = a + b := by
  rw [sub_eq_add_neg]; rfl

end GF256

end Buidl.Shamir
