/-
  Buidl.Model.Bcur below the text format: what `bc32decode`, the loop of BCURMulti.parse, the constructor
  checks and `parse` accept, each read off as conditions on its input; and the SHA-256 collision that two
  payloads under one checksum give.
-/
import Buidl.Model.Bcur
import Buidl.Proofs.Bech32Addr
namespace Buidl.Bech32
open Buidl Buidl.Base58

/-! ### `bc32decode`: what returning a value means; 5 → 8 bits without padding is undone by 8 → 5 with padding -/

theorem convertbits_8_5_of_5_8 (dd out : List Nat) (hdd : ∀ v ∈ dd, v < 2 ^ 5)
    (h : convertbits dd 5 8 false = some out) : convertbits out 8 5 true = some dd := by
  obtain ⟨b, hb, hlen, hval, hout⟩ := (convertbits_5_8_nopad_iff dd hdd out).mp h
  obtain ⟨dd2, pad, h2, hpad, hlen2, hval2, hlt2⟩ := convertbits_pad_spec 8 5 (by decide) out hout
  obtain ⟨rfl, hl⟩ : pad = b ∧ dd2.length = dd.length := by omega
  rw [h2]
  exact congrArg some (valBE_inj (2 ^ 5) dd2 dd hl hlt2 hdd (by rw [hval2, hval]))

theorem toBytes_some {out : List Nat} {d : Bytes} (h : toBytes out = some d) : d.map (·.toNat) = out := by
  unfold toBytes at h
  split at h
  · next hall =>
    cases h
    exact map_toNat_ofNat out fun x hx => by simpa using List.all_eq_true.mp hall x hx
  · cases h

theorem bc32decode_inv {s : Str} {d : Bytes} (h : bc32decode s = some d) :
    ∃ res out, (s.map asciiLower).mapM (fun c => indexOf? c Bech32.alphabet) = some res ∧
      polymod ([0] ++ res) = Gen.bc32DecConst ∧ convertbits (pyButLast 6 res) 5 8 false = some out ∧
      toBytes out = some d := by
  unfold bc32decode at h
  split at h
  · cases h
  · simp only at h
    split at h
    · cases h
    · split at h
      · cases h
      · next res hm =>
        split at h
        · cases h
        · next hp =>
          split at h
          · cases h
          · next out hcv => exact ⟨res, out, hm, Decidable.not_not.mp hp, hcv, h⟩

end Buidl.Bech32

namespace Buidl.Bcur
open Buidl Buidl.Base58 Buidl.Bech32

/-! ### chunk arithmetic (integer ceiling division) -/

theorem ceilDiv_spec (a b : Nat) (hb : 1 ≤ b) : a ≤ (a + b - 1) / b * b ∧ (a + b - 1) / b * b < a + b := by
  have h := Nat.div_add_mod (a + b - 1) b
  have hr := Nat.mod_lt (a + b - 1) hb
  rw [Nat.mul_comm] at h
  omega

theorem chunks_flatten {α} (enc : List α) (cl n : Nat) :
    ((List.range n).map fun i => (enc.drop (i * cl)).take cl).flatten = enc.take (n * cl) := by
  induction n with
  | zero => simp
  | succ n ih =>
    rw [List.range_succ, List.map_append, List.flatten_append, ih]
    simp only [List.map_cons, List.map_nil, List.flatten_cons, List.flatten_nil, List.append_nil]
    rw [Nat.succ_mul, List.take_add]

theorem chunk_lengths {α} (enc : List α) (n cl : Nat) (hcl : 1 ≤ cl) (hlast : (n - 1) * cl < enc.length) :
    (∀ i, i + 1 < n → ((enc.drop (i * cl)).take cl).length = cl) ∧
      (1 ≤ ((enc.drop ((n - 1) * cl)).take cl).length ∧ ((enc.drop ((n - 1) * cl)).take cl).length ≤ cl) := by
  simp only [List.length_take, List.length_drop]
  refine ⟨fun i hi => Nat.min_eq_left (Nat.le_sub_of_add_le ?_), Nat.le_min.mpr ⟨hcl, Nat.sub_pos_of_lt hlast⟩, Nat.min_le_left _ _⟩
  have : (i + 1) * cl ≤ (n - 1) * cl := Nat.mul_le_mul_right _ (Nat.le_sub_one_of_lt hi)
  rw [Nat.add_mul, Nat.one_mul, Nat.add_comm] at this
  exact Nat.le_of_lt (Nat.lt_of_le_of_lt this hlast)

/-! ### the loop of BCURMulti.parse -/

/-- One iteration, uniformly in `cnt`.  The recorded `gc`, `gy` are the checksum and y of the
    part before, so a part that passes the checks carries them itself and the loop goes on with
    the part's own values; at `cnt = 0` nothing is recorded yet and nothing is compared. -/
theorem multiLoop_cons (s : Str) (rest : List Str) (cnt : Nat) (gc : Option Str) (gy : Int) (ps : List Str) :
    multiLoop (s :: rest) cnt gc gy ps =
      (parseBcurHelper s).bind fun p =>
        if p.x = (cnt : Int) + 1 ∧ (1 ≤ cnt → p.checksum = gc ∧ p.y = gy)
        then multiLoop rest (cnt + 1) p.checksum p.y (p.payload :: ps) else none := by
  rw [multiLoop]
  cases parseBcurHelper s with
  | none => rfl
  | some p =>
    dsimp only [Option.bind_some]
    by_cases hx : (cnt : Int) + 1 = p.x
    · rw [if_neg (not_not_intro hx)]
      by_cases h0 : cnt = 0
      · rw [if_pos h0, if_pos ⟨hx.symm, fun hc => absurd h0 (Nat.ne_of_gt hc)⟩]
      · have h1 : 1 ≤ cnt := Nat.pos_of_ne_zero h0
        rw [if_neg h0]
        by_cases hc : p.checksum = gc
        · by_cases hy : p.y = gy
          · rw [if_neg (not_not_intro hc), if_neg (not_not_intro hy), if_pos ⟨hx.symm, fun _ => ⟨hc, hy⟩⟩, hc, hy]
          · rw [if_neg (not_not_intro hc), if_pos hy, if_neg fun h => hy (h.2 h1).2]
        · rw [if_pos hc, if_neg fun h => hc (h.2 h1).1]
    · rw [if_pos hx, if_neg fun h => hx h.1.symm]

theorem multiLoop_some {l : List Str} {cnt : Nat} {gc : Option Str} {gy : Int} {ps : List Str} {r : Option Str × List Str}
    (h : multiLoop l cnt gc gy ps = some r) {j : Nat} (hj : j < l.length) :
    ∃ p, parseBcurHelper l[j] = some p ∧ p.x = ((cnt + j : Nat) : Int) + 1 ∧ (1 ≤ cnt → p.checksum = gc ∧ p.y = gy) := by
  induction l generalizing cnt gc gy ps j with
  | nil => exact absurd hj (Nat.not_lt_zero j)
  | cons s rest ih =>
    rw [multiLoop_cons] at h
    obtain ⟨q, hs, h⟩ := Option.bind_eq_some_iff.mp h
    split at h
    · next hq =>
      cases j with
      | zero => exact ⟨q, hs, hq.1, hq.2⟩
      | succ j =>
        -- the rest runs at `cnt + 1 ≥ 1` with the checksum and y of `s` recorded
        obtain ⟨p, hp, hpx, hpc⟩ := ih h (Nat.lt_of_succ_lt_succ hj)
        obtain ⟨e1, e2⟩ := hpc (Nat.le_add_left 1 cnt)
        exact ⟨p, hp, by omega, fun hc => ⟨e1.trans (hq.2 hc).1, e2.trans (hq.2 hc).2⟩⟩
    · cases h

theorem multiLoop_eq_none {l : List Str} {cnt : Nat} {gc : Option Str} {gy : Int} {ps : List Str} {j : Nat} (hj : j < l.length)
    {p : Parsed} (hp : parseBcurHelper l[j] = some p)
    (hbad : ¬ (p.x = ((cnt + j : Nat) : Int) + 1 ∧ (1 ≤ cnt → p.checksum = gc ∧ p.y = gy))) :
    multiLoop l cnt gc gy ps = none := by
  cases h : multiLoop l cnt gc gy ps with
  | none => rfl
  | some r =>
    obtain ⟨q, hq, hgood⟩ := multiLoop_some h hj
    rw [hp] at hq
    cases hq
    exact absurd hgood hbad

theorem multiLoop_mismatch {s0 : Str} {rest : List Str} {p0 p : Parsed} (hp0 : parseBcurHelper s0 = some p0) {j : Nat}
    (hj : j < rest.length) (hp : parseBcurHelper rest[j] = some p) (hne : p.checksum ≠ p0.checksum ∨ p.y ≠ p0.y)
    (gc : Option Str) (gy : Int) (ps : List Str) : multiLoop (s0 :: rest) 0 gc gy ps = none := by
  rw [multiLoop_cons, hp0, Option.bind_some]
  split
  · exact multiLoop_eq_none hj hp fun hgood => hne.elim (fun h => h (hgood.2 (Nat.le_refl 1)).1) fun h => h (hgood.2 (Nat.le_refl 1)).2
  · rfl

theorem multiLoop_run (f pl : Nat → Str) (chk : Str) (y : Int) (m k : Nat) (gc : Option Str) (gy : Int)
    (hg : 1 ≤ k → some chk = gc ∧ y = gy)
    (hall : ∀ i, k ≤ i → i ≤ k + m → parseBcurHelper (f i) = some ⟨pl i, some chk, ((i + 1 : Nat) : Int), y⟩)
    (ps : List Str) :
    multiLoop ((List.range' k (m + 1)).map f) k gc gy ps = some (some chk, ps.reverse ++ (List.range' k (m + 1)).map pl) := by
  rw [List.range'_succ, List.map_cons, multiLoop_cons, hall k (Nat.le_refl _) (Nat.le_add_right _ _), Option.bind_some,
    if_pos ⟨Nat.cast_succ k, hg⟩]
  induction m generalizing k gc gy ps with
  | zero => simp [multiLoop]
  | succ m ih =>
    rw [List.range'_succ, List.map_cons, multiLoop_cons, hall (k + 1) (by omega) (by omega), Option.bind_some,
      if_pos ⟨Nat.cast_succ _, fun _ => ⟨rfl, rfl⟩⟩,
      ih (k + 1) (some chk) y (fun _ => ⟨rfl, rfl⟩) (fun i h1 h2 => hall i (by omega) (by omega))]
    simp

theorem multiLoop_parts (f pl : Nat → Str) (chk : Str) (n : Nat) (hn : 1 ≤ n)
    (hall : ∀ i, i < n → parseBcurHelper (f i) = some ⟨pl i, some chk, ((i + 1 : Nat) : Int), (n : Int)⟩) :
    multiLoop ((List.range n).map f) 0 (some []) 0 [] = some (some chk, (List.range n).map pl) := by
  obtain ⟨m, rfl⟩ : ∃ m, n = m + 1 := ⟨n - 1, by omega⟩
  rw [List.range_eq_range', multiLoop_run f pl chk _ m 0 _ _ (fun h => absurd h (by decide)) fun i _ hi => hall i (by omega)]
  rfl

/-! ### `bcur_encode` and the constructor checks -/

theorem bcurEncode_eq_some_iff {sha256 : Bytes → Bytes} {data : Bytes} {enc encHash : Str} :
    bcurEncode sha256 data = some (enc, encHash) ↔
      ∃ cbor, cborEncode data = some cbor ∧ bc32encode cbor = some enc ∧ bc32encode (sha256 cbor) = some encHash := by
  simp only [bcurEncode, Option.bind_eq_bind, Option.pure_def, Option.bind_eq_some_iff, Option.some.injEq, Prod.mk.injEq]
  constructor
  · rintro ⟨cbor, hc, e, he, g, hg, rfl, rfl⟩
    exact ⟨cbor, hc, he, hg⟩
  · rintro ⟨cbor, hc, he, hg⟩
    exact ⟨cbor, hc, enc, he, encHash, hg, rfl, rfl⟩

theorem badArg_eq_false_iff {g : Option Str} {c : Str} : badArg g c = false ↔ ∀ x, g = some x → x = [] ∨ x = c := by
  cases g <;> simp [badArg, or_iff_not_imp_left]

theorem construct_eq_some_iff {sha256 : Bytes → Bytes} {data : Bytes} {a b : Option Str} {r : Str × Str} :
    construct sha256 data a b = some r ↔
      bcurEncode sha256 data = some r ∧ (∀ x, a = some x → x = [] ∨ x = r.1) ∧ (∀ x, b = some x → x = [] ∨ x = r.2) := by
  unfold construct
  cases bcurEncode sha256 data with
  | none => simp
  | some eh =>
    simp only [← badArg_eq_false_iff, Option.ite_none_left_eq_some, Option.some.injEq, Bool.not_eq_true]
    constructor
    · rintro ⟨h1, h2, rfl⟩
      exact ⟨rfl, h1, h2⟩
    · rintro ⟨rfl, h1, h2⟩
      exact ⟨h1, h2, rfl⟩

theorem construct_ok {sha256 : Bytes → Bytes} {data : Bytes} {enc encHash : Str}
    (he : bcurEncode sha256 data = some (enc, encHash)) {a b : Option Str} (ha : a = none ∨ a = some enc)
    (hb : b = none ∨ b = some encHash) : construct sha256 data a b = some (enc, encHash) := by
  refine construct_eq_some_iff.mpr ⟨he, fun x hx => ?_, fun x hx => ?_⟩
  · rcases ha with rfl | rfl <;> cases hx
    exact Or.inr rfl
  · rcases hb with rfl | rfl <;> cases hx
    exact Or.inr rfl

theorem bcurEncode_collision {sha256 : Bytes → Bytes} {d d0 : Bytes} {e e0 cs : Str}
    (h : bcurEncode sha256 d = some (e, cs)) (h0 : bcurEncode sha256 d0 = some (e0, cs)) :
    d = d0 ∨ ∃ c c0 : Bytes, c ≠ c0 ∧ sha256 c = sha256 c0 := by
  obtain ⟨c, hc, -, hs⟩ := bcurEncode_eq_some_iff.mp h
  obtain ⟨c0, hc0, -, hs0⟩ := bcurEncode_eq_some_iff.mp h0
  by_cases hcc : c = c0
  · subst hcc
    exact Or.inl (cborEncode_injective d d0 c hc hc0)
  · exact Or.inr ⟨c, c0, hcc, bc32encode_injective _ _ cs hs hs0⟩

/-- a constructor that accepts the non-empty `checksum` argument `cs` recomputed exactly `cs` -/
theorem construct_collision {sha256 : Bytes → Bytes} {d d0 : Bytes} {a : Option Str} {cs e0 : Str} {r : Str × Str}
    (hcs : cs ≠ []) (h : construct sha256 d a (some cs) = some r) (h0 : bcurEncode sha256 d0 = some (e0, cs)) :
    d = d0 ∨ ∃ c c0 : Bytes, c ≠ c0 ∧ sha256 c = sha256 c0 := by
  obtain ⟨he, -, hb⟩ := construct_eq_some_iff.mp h
  obtain ⟨e, g⟩ := r
  obtain rfl : cs = g := (hb cs rfl).resolve_left hcs
  exact bcurEncode_collision he h0

/-! ### what `parse` returning a value means -/

theorem singleParse_eq_some_iff {sha256 : Bytes → Bytes} {s : Str} {d : Bytes} :
    singleParse sha256 s = some d ↔
      ∃ p r, parseBcurHelper s = some p ∧ p.x = 1 ∧ p.y = 1 ∧ bcurDecode sha256 p.payload p.checksum = some d ∧
        construct sha256 d (some p.payload) p.checksum = some r := by
  unfold singleParse
  constructor
  · intro h
    split at h
    · cases h
    · next p hp =>
      split at h
      · cases h
      · next hxy =>
        split at h
        · cases h
        · next data hdec =>
          obtain ⟨r, hr, rfl⟩ := Option.map_eq_some_iff.mp h
          simp only [Gen.bcurSingleX, Gen.bcurSingleY, Nat.cast_one, not_or, Decidable.not_not] at hxy
          exact ⟨p, r, hp, hxy.1, hxy.2, hdec, hr⟩
  · rintro ⟨p, r, hp, hx, hy, hdec, hr⟩
    simp [hp, hx, hy, hdec, hr, Gen.bcurSingleX, Gen.bcurSingleY]

theorem multiParse_eq_some_iff {sha256 : Bytes → Bytes} {parts : List Str} {d : Bytes} {gc : Option Str} :
    multiParse sha256 parts = some (d, gc) ↔
      ∃ pls r, multiLoop parts 0 (some []) 0 [] = some (gc, pls) ∧ bcurDecode sha256 pls.flatten gc = some d ∧
        construct sha256 d none gc = some r := by
  unfold multiParse
  constructor
  · intro h
    split at h
    · cases h
    · next gc' pls hl =>
      split at h
      · cases h
      · next data hdec =>
        obtain ⟨r, hr, e⟩ := Option.map_eq_some_iff.mp h
        cases e
        exact ⟨pls, r, hl, hdec, hr⟩
  · rintro ⟨pls, r, hl, hdec, hr⟩
    simp [hl, hdec, hr]

end Buidl.Bcur
