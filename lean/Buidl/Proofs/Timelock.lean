/-
  Helper lemmas for Props/C07Timelock.lean (buidl/timelock.py as a whole): what each accessor of the model
  computes, in arithmetic terms (bit 31 of `x` is `x / 2147483648 % 2`, bit 22 is `x / 4194304 % 2`, the low
  16 bits are `x % 65536`).
-/
import Buidl.Proofs.Interp
import Buidl.Model.Timelock
namespace Buidl.Timelock
open Buidl Buidl.Interp

theorem and_bit31 (x : Nat) : x &&& 2147483648 = (x / 2147483648 % 2) * 2147483648 := and_pow_div x 31
theorem and_bit22 (x : Nat) : x &&& 4194304 = (x / 4194304 % 2) * 4194304 := and_pow_div x 22

/-! ## constructors -/

theorem rangeRefuses_std (n : Int) :
    rangeRefuses [("Lt", 0), ("Gt", 4294967295)] n = (decide (n < 0) || decide (n > 4294967295)) := by
  simp [rangeRefuses, cmpOpI]

/-- `Locktime(n)` and `Sequence(n)` make the same range test -/
theorem new_iff (n : Int) (v : Nat) :
    (if rangeRefuses [("Lt", 0), ("Gt", 4294967295)] n then none else some n.toNat) = some v ↔
      0 ≤ n ∧ n ≤ 4294967295 ∧ n = v := by
  rw [rangeRefuses_std]
  by_cases h : n < 0 ∨ n > 4294967295
  · rw [if_pos (by simpa using h)]
    simp only [reduceCtorEq, false_iff]
    omega
  · rw [if_neg (by simpa using h), Option.some.injEq]
    omega

theorem locktimeNew_nat {n : Nat} (h : n ≤ 4294967295) : locktimeNew (n : Int) = some n :=
  (new_iff n n).2 ⟨by omega, by omega, rfl⟩

theorem sequenceNew_nat {n : Nat} (h : n ≤ 4294967295) : sequenceNew (n : Int) = some n :=
  (new_iff n n).2 ⟨by omega, by omega, rfl⟩

/-! ## codec -/

theorem codec_ps (new : Int → Option Nat) (hnew : ∀ n : Nat, n ≤ 4294967295 → new (n : Int) = some n)
    (n : Nat) (h : n ≤ 4294967295) (rest : Bytes) :
    ∃ b, natToLE n 4 = some b ∧ b.length = 4 ∧
      ((new (leToNat (sread 4 (b ++ rest)).1)).map (fun v => (v, (sread 4 (b ++ rest)).2))) = some (n, rest) := by
  have hlt : n < 256 ^ 4 := by omega
  refine ⟨natToLE' 4 n, natToLE_some hlt, natToLE'_length 4 n, ?_⟩
  simp only [sread_append 4 _ rest (natToLE'_length 4 n), leToNat_natToLE'_of_lt hlt, hnew n h, Option.map_some]

theorem codec_sp (new : Int → Option Nat) (hnew : ∀ n : Nat, n ≤ 4294967295 → new (n : Int) = some n)
    (s : Bytes) (h : 4 ≤ s.length) :
    ∃ v, ((new (leToNat (sread 4 s).1)).map (fun v => (v, (sread 4 s).2))) = some (v, s.drop 4) ∧
      v ≤ 4294967295 ∧ natToLE v 4 = some (s.take 4) := by
  have hl : (s.take 4).length = 4 := by rw [List.length_take]; omega
  have hlt : leToNat (s.take 4) < 256 ^ 4 := by have := leToNat_lt (s.take 4); rwa [hl] at this
  have hv : leToNat (s.take 4) ≤ 4294967295 := by omega
  refine ⟨leToNat (s.take 4), ?_, hv, ?_⟩
  · simp only [sread, hnew _ hv, Option.map_some]
  · have := natToLE'_leToNat (s.take 4)
    rw [hl] at this
    rw [natToLE_some hlt, this]

/-! ## Locktime -/

theorem blockHeight_eq (n : Nat) : blockHeight n = if n < 500000000 then some n else none := by
  simp [blockHeight, cmpAt, cmpOp, Gen.blockHeightCmps]

theorem mtp_eq (n : Nat) : mtp n = if 500000000 ≤ n then some n else none := by
  simp [mtp, cmpAt, cmpOp, Gen.mtpCmps]

theorem blockHeight_isSome (n : Nat) : (blockHeight n).isSome = true ↔ n < 500000000 := by
  rw [blockHeight_eq]
  split <;> simp [*]

theorem locktimeComparable_iff (a b : Nat) :
    locktimeComparable a b = true ↔ (a < 500000000 ↔ b < 500000000) := by
  show ((decide (a < 500000000) && decide (b < 500000000)) ||
    (decide (a ≥ 500000000) && decide (b ≥ 500000000))) = true ↔ _
  simp only [Bool.or_eq_true, Bool.and_eq_true, decide_eq_true_eq]
  omega

/-! ## Sequence -/

theorem isRelative_eq (x : Nat) : isRelative x = decide (x / 2147483648 % 2 = 0) := by
  simp only [isRelative, seqIsRelative, Gen.seqDisableFlag, and_bit31]
  rcases Nat.mod_two_eq_zero_or_one (x / 2147483648) with h | h <;> simp [h]

theorem isRelativeTime_eq (x : Nat) :
    isRelativeTime x = (decide (x / 2147483648 % 2 = 0) && decide (x / 4194304 % 2 = 1)) := by
  have hr := isRelative_eq x
  simp only [isRelative] at hr
  simp only [isRelativeTime, seqIsRelativeTime, hr, Gen.seqTimeFlag, and_bit22]
  rcases Nat.mod_two_eq_zero_or_one (x / 4194304) with h | h <;> simp [h]

theorem isRelativeBlock_eq (x : Nat) :
    isRelativeBlock x = (decide (x / 2147483648 % 2 = 0) && decide (x / 4194304 % 2 = 0)) := by
  have hr := isRelative_eq x
  have ht := isRelativeTime_eq x
  simp only [isRelative, isRelativeTime] at hr ht
  simp only [isRelativeBlock, seqIsRelativeBlock, hr, ht]
  rcases Nat.mod_two_eq_zero_or_one (x / 4194304) with h | h <;> simp [h]

theorem relativeBlocks_eq (x : Nat) :
    relativeBlocks x = if x / 2147483648 % 2 = 0 ∧ x / 4194304 % 2 = 0 then some (x % 65536) else none := by
  simp only [relativeBlocks, isRelativeBlock_eq, Gen.seqMask, and_mask16]
  by_cases a : x / 2147483648 % 2 = 0 <;> by_cases b : x / 4194304 % 2 = 0 <;> simp [a, b]

theorem relativeTime_eq (x : Nat) :
    relativeTime x = if x / 2147483648 % 2 = 0 ∧ x / 4194304 % 2 = 1 then some (512 * (x % 65536)) else none := by
  simp only [relativeTime, isRelativeTime_eq, Gen.seqMask, and_mask16, Gen.seqTimeShift, Nat.shiftLeft_eq]
  by_cases a : x / 2147483648 % 2 = 0 <;> by_cases b : x / 4194304 % 2 = 1 <;> simp [a, b] <;> omega

theorem relativeBlocks_some {x n : Nat} (h : relativeBlocks x = some n) : n = x % 65536 := by
  rw [relativeBlocks_eq] at h
  split at h
  · exact (Option.some.inj h).symm
  · cases h

theorem relativeTime_some {x n : Nat} (h : relativeTime x = some n) : n = 512 * (x % 65536) := by
  rw [relativeTime_eq] at h
  split at h
  · exact (Option.some.inj h).symm
  · cases h

theorem isRbfAble_eq (x : Nat) : isRbfAble x = decide (x < 4294967295) := by
  simp [isRbfAble, cmpAt, cmpOp, Gen.rbfCmps]

theorem isMax_eq (x : Nat) : isMax x = decide (x = 4294967295) := by
  simp only [isMax, cmpAt, cmpOp, Gen.isMaxCmps]
  rw [Bool.eq_iff_iff]; simp

theorem or22 (q : Nat) (h : q < 4194304) : 4194304 ||| q = 4194304 + q := by
  have := Nat.two_pow_add_eq_or_of_lt (i := 22) (b := q) (by simpa using h) 1
  simpa using this.symm

theorem sequenceComparable_iff (a b : Nat) :
    sequenceComparable a b = true ↔
      a / 2147483648 % 2 = 0 ∧ b / 2147483648 % 2 = 0 ∧ a / 4194304 % 2 = b / 4194304 % 2 := by
  show ((isRelativeBlock a && isRelativeBlock b) || (isRelativeTime a && isRelativeTime b)) = true ↔ _
  rw [isRelativeBlock_eq, isRelativeBlock_eq, isRelativeTime_eq, isRelativeTime_eq]
  simp only [Bool.or_eq_true, Bool.and_eq_true, decide_eq_true_eq]
  omega

theorem sequenceLt_some {a b : Nat} {r : Bool} (h : sequenceLt a b = some r) :
    (r = true ↔ a % 65536 < b % 65536) := by
  unfold sequenceLt at h
  simp only [Gen.seqMask, and_mask16] at h
  split at h
  · rw [← Option.some.inj h, decide_eq_true_eq]
  · cases h

theorem from_relative_blocks_roundtrip' (n : Nat) (h : n < 65536) :
    ∃ v, fromRelativeBlocks n = some v ∧ relativeBlocks v = some n ∧ relativeTime v = none ∧
      isRbfAble v = true ∧ isMax v = false := by
  refine ⟨n, sequenceNew_nat (by omega), ?_, ?_, ?_, ?_⟩
  · rw [relativeBlocks_eq, if_pos ⟨by omega, by omega⟩, Nat.mod_eq_of_lt h]
  · rw [relativeTime_eq, if_neg (by omega)]
  · rw [isRbfAble_eq, decide_eq_true_eq]; omega
  · rw [isMax_eq, decide_eq_false_iff_not]; omega

theorem from_relative_time_roundtrip' (s : Nat) (h : s < 33554432) :
    ∃ v, fromRelativeTime s = some v ∧ relativeTime v = some (512 * (s / 512)) ∧ relativeBlocks v = none ∧
      512 * (s / 512) ≤ s ∧ s < 512 * (s / 512) + 512 ∧ isRbfAble v = true := by
  have hq : s / 512 < 65536 := by omega
  refine ⟨4194304 + s / 512, ?_, ?_, ?_, by omega, by omega, ?_⟩
  · unfold fromRelativeTime
    rw [if_neg (by omega), Int.toNat_natCast]
    show sequenceNew ((4194304 ||| s / 512 : Nat) : Int) = _
    rw [or22 _ (by omega)]
    exact sequenceNew_nat (by omega)
  · rw [relativeTime_eq, if_pos ⟨by omega, by omega⟩, show (4194304 + s / 512) % 65536 = s / 512 by omega]
  · rw [relativeBlocks_eq, if_neg (by omega)]
  · rw [isRbfAble_eq, decide_eq_true_eq]; omega

theorem from_relative_negative' (n : Int) (h : n < 0) :
    fromRelativeBlocks n = none ∧ fromRelativeTime n = none := by
  constructor
  · cases e : fromRelativeBlocks n with
    | none => rfl
    | some v => have := (new_iff n v).1 e; omega
  · exact if_pos h

end Buidl.Timelock
