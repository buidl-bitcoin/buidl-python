/-
  Buidl.Proofs.GF256Table — kernel-checked facts about the GF(256) tables that the model computes exactly as
  `ShareSet._load` does (generator step `(cur << 1) ^ cur`, reduction by the extracted constant).
  Kept in a module of its own: re-checked only when the constants or `load` change.
-/
import Buidl.Model.Shamir
namespace Buidl.Shamir
open Buidl

def expN (i : Nat) : Nat := tables.exp.getD i 0
def logN (a : Nat) : Nat := tables.log.getD a 0

def allBelow (n : Nat) (p : Nat → Bool) : Bool := (List.range n).all p

/-- every fact used about the tables, in one Boolean -/
def checkTables (t : Tables) : Bool :=
  t.exp.length == 255 && t.log.length == 256 && t.log.getD 0 0 == 0 && t.exp.getD 0 0 == 1 &&
  allBelow 255 (fun i =>
    let e := t.exp.getD i 0
    decide (0 < e) && decide (e < 256) && t.log.getD e 0 == i &&
    t.exp.getD ((i + 1) % 255) 0 == gfNext e) &&
  allBelow 256 (fun a => a == 0 ||
    (let l := t.log.getD a 0
     decide (l < 255) && t.exp.getD l 0 == a))

/-- a byte table as one number, entry `i` in bits `8i … 8i+7`: the kernel reads an entry of the number in one
    step, of the list in `i` -/
def packBytes (l : List Nat) : Nat := l.foldr (fun x acc => acc * 256 + x) 0

def byteAt (p i : Nat) : Nat := p / 256 ^ i % 256

theorem byteAt_packBytes : ∀ (l : List Nat), l.all (Nat.blt · 256) = true → ∀ i, byteAt (packBytes l) i = l.getD i 0
  | [], _, i => by rw [byteAt, packBytes, List.foldr_nil, Nat.zero_div]; rfl
  | x :: r, h, i => by
    rw [List.all_cons, Bool.and_eq_true, Nat.blt_eq] at h
    have hp : packBytes (x :: r) = packBytes r * 256 + x := rfl
    cases i with
    | zero => rw [byteAt, hp, Nat.pow_zero, Nat.div_one, List.getD_cons_zero]; omega
    | succ i =>
      rw [byteAt, hp, Nat.pow_succ', ← Nat.div_div_eq_div_mul,
        show (packBytes r * 256 + x) / 256 = packBytes r by omega, List.getD_cons_succ]
      exact byteAt_packBytes r h.2 i

/-- `checkTables` with the lookups made in the packed tables -/
def checkPackedTables (t : Tables) : Bool :=
  t.exp.length == 255 && t.log.length == 256 && t.exp.all (Nat.blt · 256) && t.log.all (Nat.blt · 256) &&
  byteAt (packBytes t.log) 0 == 0 && byteAt (packBytes t.exp) 0 == 1 &&
  allBelow 255 (fun i =>
    let e := byteAt (packBytes t.exp) i
    decide (0 < e) && decide (e < 256) && byteAt (packBytes t.log) e == i &&
    byteAt (packBytes t.exp) ((i + 1) % 255) == gfNext e) &&
  allBelow 256 (fun a => a == 0 ||
    (let l := byteAt (packBytes t.log) a
     decide (l < 255) && byteAt (packBytes t.exp) l == a))

theorem checkTables_of_packed (t : Tables) (h : checkPackedTables t = true) : checkTables t = true := by
  simp only [checkPackedTables, Bool.and_eq_true] at h
  obtain ⟨⟨⟨⟨⟨⟨⟨h1, h2⟩, hE⟩, hL⟩, h3⟩, h4⟩, h5⟩, h6⟩ := h
  simp only [byteAt_packBytes _ hE, byteAt_packBytes _ hL] at h3 h4 h5 h6
  simp only [checkTables, h1, h2, h3, h4, h5, h6, Bool.and_self]

theorem tables_check : checkTables tables = true := checkTables_of_packed _ (by decide +kernel)

/-- the generator step on a byte: a closed form without the comparison, and the range -/
def checkNext : Bool :=
  allBelow 256 fun a => decide (gfNext a < 256) &&
    gfNext a == (((a <<< 1) ^^^ a) ^^^ (if a.testBit 7 then Gen.gfReduce else 0))

theorem next_check : checkNext = true := by decide +kernel

end Buidl.Shamir
