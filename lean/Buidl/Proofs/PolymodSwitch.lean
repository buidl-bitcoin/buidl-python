/-
  Substituted symbols that also switch the checksum constant between bech32 (1) and bech32m
  (0x2bc830a3): neither one of the 2790 single-error syndromes `D^i a` (1 ≤ a ≤ 31, i < 90) nor
  the difference of two of them is `1 ⊕ 0x2bc830a3`.  The kernel checks this with a sieve: the
  low 17 bits of all syndromes are the set bits of one number, the high 17 bits those of another,
  and for every syndrome `s` one of the two numbers lacks the bit of `s ⊕ 1 ⊕ 0x2bc830a3`.
  The same fact is also stated for a binary search tree that holds the syndromes.
  (No Mathlib needed.)
-/
import Buidl.Proofs.Polymod
namespace Buidl.Bech32
open Buidl

/-! ### a small verified search tree -/

inductive Tree where
  | leaf
  | node (l : Tree) (v : Nat) (r : Tree)

def Tree.insert : Tree → Nat → Tree
  | .leaf, x => .node .leaf x .leaf
  | .node l v r, x => if x < v then .node (l.insert x) v r else if v < x then .node l v (r.insert x) else .node l v r

def Tree.mem : Tree → Nat → Bool
  | .leaf, _ => false
  | .node l v r, x => if x < v then l.mem x else if v < x then r.mem x else true

def Tree.elems : Tree → List Nat
  | .leaf => []
  | .node l v r => l.elems ++ v :: r.elems

def Tree.bounded : Tree → Nat → Nat → Bool
  | .leaf, _, _ => true
  | .node l v r, lo, hi => decide (lo ≤ v) && decide (v < hi) && l.bounded lo v && r.bounded (v + 1) hi

theorem Tree.bounded_node (l r : Tree) (v lo hi : Nat) : (Tree.node l v r).bounded lo hi = true ↔
    ((lo ≤ v ∧ v < hi) ∧ l.bounded lo v = true) ∧ r.bounded (v + 1) hi = true := by
  simp only [Tree.bounded, Bool.and_eq_true, decide_eq_true_eq]

theorem Tree.mem_of_elems (t : Tree) (lo hi : Nat) (hb : t.bounded lo hi = true) (x : Nat) (hx : x ∈ t.elems) :
    t.mem x = true ∧ lo ≤ x ∧ x < hi := by
  induction t generalizing lo hi with
  | leaf => simp [Tree.elems] at hx
  | node l v r ihl ihr =>
    obtain ⟨⟨⟨h1, h2⟩, h3⟩, h4⟩ := (Tree.bounded_node ..).1 hb
    simp only [Tree.elems, List.mem_append, List.mem_cons] at hx
    rcases hx with hx | rfl | hx
    · obtain ⟨a, b, c⟩ := ihl lo v h3 hx
      exact ⟨by simp only [Tree.mem, c, if_true, a], b, by omega⟩
    · exact ⟨by simp [Tree.mem], h1, h2⟩
    · obtain ⟨a, b, c⟩ := ihr (v + 1) hi h4 hx
      have h5 : ¬ x < v := by omega
      have h6 : v < x := by omega
      exact ⟨by simp only [Tree.mem, h5, h6, if_false, if_true, a], by omega, c⟩

theorem Tree.elems_of_mem (t : Tree) (x : Nat) (h : t.mem x = true) : x ∈ t.elems := by
  induction t with
  | leaf => simp [Tree.mem] at h
  | node l v r ihl ihr =>
    simp only [Tree.mem] at h
    simp only [Tree.elems, List.mem_append, List.mem_cons]
    by_cases h1 : x < v
    · simp only [h1, if_true] at h; exact Or.inl (ihl h)
    · by_cases h2 : v < x
      · simp only [h1, h2, if_false, if_true] at h; exact Or.inr (Or.inr (ihr h))
      · exact Or.inr (Or.inl (by omega))

theorem Tree.mem_elems_insert (t : Tree) (x y : Nat) : y ∈ (t.insert x).elems ↔ y ∈ t.elems ∨ y = x := by
  induction t with
  | leaf => simp [Tree.insert, Tree.elems]
  | node l v r ihl ihr =>
    unfold Tree.insert
    split
    · simp only [Tree.elems, List.mem_append, List.mem_cons, ihl, or_assoc, or_comm, or_left_comm]
    · split
      · simp only [Tree.elems, List.mem_append, List.mem_cons, ihr, or_assoc]
      · have : x = v := by omega
        simp only [Tree.elems, List.mem_append, List.mem_cons, this, or_comm, or_left_comm, or_self_left]

theorem Tree.mem_elems_foldl_insert (l : List Nat) (t : Tree) (y : Nat) :
    y ∈ (l.foldl Tree.insert t).elems ↔ y ∈ t.elems ∨ y ∈ l := by
  induction l generalizing t with
  | nil => simp
  | cons x l ih => rw [List.foldl_cons, ih, Tree.mem_elems_insert, List.mem_cons, or_assoc]

theorem Tree.bounded_insert (t : Tree) (lo hi x : Nat) (hb : t.bounded lo hi = true) (h1 : lo ≤ x) (h2 : x < hi) :
    (t.insert x).bounded lo hi = true := by
  induction t generalizing lo hi with
  | leaf => simp [Tree.insert, Tree.bounded, h1, h2]
  | node l v r ihl ihr =>
    obtain ⟨⟨h3, h5⟩, h6⟩ := (Tree.bounded_node ..).1 hb
    unfold Tree.insert
    split
    · exact (Tree.bounded_node ..).2 ⟨⟨h3, ihl lo v h5 h1 ‹_›⟩, h6⟩
    · split
      · exact (Tree.bounded_node ..).2 ⟨⟨h3, h5⟩, ihr (v + 1) hi h6 ‹_› h2⟩
      · exact hb

theorem Tree.bounded_foldl_insert (l : List Nat) (t : Tree) (lo hi : Nat) (hb : t.bounded lo hi = true)
    (hl : ∀ x ∈ l, lo ≤ x ∧ x < hi) : (l.foldl Tree.insert t).bounded lo hi = true := by
  induction l generalizing t with
  | nil => exact hb
  | cons x l ih =>
    exact ih _ (t.bounded_insert lo hi x hb (hl x (by simp)).1 (hl x (by simp)).2) (fun z hz => hl z (by simp [hz]))

/-! ### the single-error syndromes -/

/-- all single-error syndromes: error symbol 1..31 followed by 0..89 further symbols -/
def syndromes : List Nat := (List.range 31).flatMap fun a => orbit 90 (a + 1)

def syndromeTree : Tree := syndromes.foldl Tree.insert .leaf

/-- `1 ⊕ 0x2bc830a3` -/
def switchConst : Nat := Gen.b32VerifyConst ^^^ Gen.b32mVerifyConst

/-- what an error symbol `a` becomes after `i < 90` zeros is a syndrome; `a = 0`, no error, leaves `0` -/
theorem mem_syndromes (a i : Nat) (ha : a < 32) (hi : i < 90) :
    polymodFrom a (List.replicate i 0) ∈ 0 :: syndromes := by
  by_cases ha0 : a = 0
  · rw [ha0, polymodFrom, checksum.zeros_zero]
    exact List.mem_cons_self
  · refine List.mem_cons_of_mem _ (List.mem_flatMap.2 ⟨a - 1, List.mem_range.mpr (by omega), ?_⟩)
    rw [show a - 1 + 1 = a by omega]
    exact mem_orbit 90 a i hi

theorem orbit_lt (n c : Nat) (hc : c < 2 ^ 30) : ∀ s ∈ orbit n c, s < 2 ^ 30 := by
  rw [orbit_eq]
  exact List.forall_mem_map.2 fun i _ => checksum.zeros_lt i hc

theorem syndromes_lt (s : Nat) (hs : s ∈ syndromes) : s < 2 ^ 30 := by
  obtain ⟨a, ha, hs⟩ := List.mem_flatMap.1 hs
  exact orbit_lt 90 (a + 1) (by have := List.mem_range.1 ha; omega) s hs

/-! ### the sieve -/

def marks (l : List Nat) : Nat := l.foldl (fun B k => B ||| 1 <<< k) 0

theorem testBit_marks {l : List Nat} {k : Nat} (h : k ∈ l) : (marks l).testBit k = true := by
  have : ∀ (l : List Nat) (B : Nat), B.testBit k = true ∨ k ∈ l →
      (l.foldl (fun B k => B ||| 1 <<< k) B).testBit k = true := by
    intro l
    induction l with
    | nil => intro B h; simpa using h
    | cons x l ih =>
      intro B h
      refine ih _ ?_
      rw [Nat.testBit_or, Nat.one_shiftLeft, Nat.testBit_two_pow]
      rcases h with h | h
      · simp [h]
      · rcases List.mem_cons.1 h with rfl | h
        · simp
        · exact Or.inr h
  exact this l 0 (Or.inr h)

theorem not_mem_of_marks (h : Nat → Nat) (l : List Nat) (x : Nat)
    (hx : (marks (l.map h)).testBit (h x) = false) : x ∉ l := by
  intro hm
  rw [testBit_marks (List.mem_map_of_mem hm)] at hx
  cases hx

/-- the kernel computation (2791 numbers, two bit sets of 2^17 bits, 2791 pairs of lookups) -/
theorem syndrome_sieve :
    let S := 0 :: (List.range 31).flatMap fun a => iterates stepZero 90 (a + 1)
    S.all (fun s => !(marks (S.map (· % 2 ^ 17))).testBit ((s ^^^ switchConst) % 2 ^ 17) ||
      !(marks (S.map (· >>> 13))).testBit ((s ^^^ switchConst) >>> 13)) = true := by
  decide +kernel

theorem syndromes_switch (s t : Nat) (hs : s ∈ 0 :: syndromes) (ht : t ∈ 0 :: syndromes) :
    s ^^^ t ≠ switchConst := by
  intro he
  have hts : s ^^^ switchConst = t := he ▸ xor_cancel_left s t
  have hsieve := syndrome_sieve
  simp only [← orbit_eq_iterates] at hsieve
  have := List.all_eq_true.1 hsieve s hs
  rw [hts, Bool.or_eq_true, Bool.not_eq_true', Bool.not_eq_true'] at this
  rcases this with h | h
  · exact not_mem_of_marks _ _ t h ht
  · exact not_mem_of_marks _ _ t h ht

theorem mem_syndromeTree (y : Nat) : y ∈ syndromeTree.elems ↔ y ∈ syndromes := by
  rw [syndromeTree, Tree.mem_elems_foldl_insert]
  exact or_iff_right List.not_mem_nil

theorem syndrome_table :
    syndromeTree.bounded 0 (2 ^ 30) = true ∧ syndromes.all (fun s => syndromeTree.mem s) = true ∧
      syndromes.all (fun s => !syndromeTree.mem (s ^^^ switchConst)) = true := by
  have hb : syndromeTree.bounded 0 (2 ^ 30) = true :=
    Tree.bounded_foldl_insert _ _ _ _ rfl fun s hs => ⟨Nat.zero_le s, syndromes_lt s hs⟩
  -- lookup in an ordered tree is membership in its elements, and those are the syndromes
  refine ⟨hb, List.all_eq_true.2 fun s hs => (Tree.mem_of_elems _ _ _ hb s ((mem_syndromeTree s).2 hs)).1,
    List.all_eq_true.2 fun s hs => ?_⟩
  rw [Bool.not_eq_true', Bool.eq_false_iff]
  intro hm
  exact syndromes_switch s _ (List.mem_cons_of_mem _ hs)
    (List.mem_cons_of_mem _ ((mem_syndromeTree _).1 (Tree.elems_of_mem _ _ hm)))
    (xor_cancel_left s switchConst)

/-! ### substituted symbols and a switched constant -/

/-- If a word has the bech32 checksum constant, the word obtained by substituting one symbol
    followed by at most 89 further symbols does not have the bech32m constant (and vice versa). -/
theorem polymodFrom_single_switch (c : Nat) (pre post : List Nat) (x y : Nat) (hx : x < 32) (hy : y < 32)
    (hpost : post.length ≤ 89) :
    polymodFrom c (pre ++ x :: post) ^^^ polymodFrom c (pre ++ y :: post)
      ≠ Gen.b32VerifyConst ^^^ Gen.b32mVerifyConst := by
  rw [polymodFrom, polymodFrom, checksum.foldl_single_diff]
  have := syndromes_switch _ 0 (mem_syndromes _ post.length (Nat.xor_lt_two_pow (n := 5) hx hy) (by omega))
    List.mem_cons_self
  rwa [Nat.xor_zero] at this

/-- The same for two words that differ in at most two symbols, the first difference followed by at most
    89 further symbols. -/
theorem polymodFrom_double_switch (c : Nat) (pre mid post : List Nat) (x y x' y' : Nat)
    (hx : x < 32) (hy : y < 32) (hx' : x' < 32) (hy' : y' < 32)
    (hlen : mid.length + post.length + 1 ≤ 89) :
    polymodFrom c (pre ++ x :: mid ++ x' :: post) ^^^ polymodFrom c (pre ++ y :: mid ++ y' :: post) ≠ switchConst := by
  rw [polymodFrom, polymodFrom, checksum.foldl_double_diff]
  exact syndromes_switch _ _ (mem_syndromes _ _ (Nat.xor_lt_two_pow (n := 5) hx hy) (by omega))
    (mem_syndromes _ _ (Nat.xor_lt_two_pow (n := 5) hx' hy') (by omega))

end Buidl.Bech32
