/-
  The BCH checksum of bech32 / bech32m / bc32 is an `XorChecksum` on a 30-bit register: five-bit symbols, five
  generators.

  * Substituting a symbol `x` by `y` that is followed by `k` symbols changes the checksum by what `x ⊕ y` becomes
    after `k` zero symbols, and that is never zero.
  * the orbit table: a non-zero symbol followed by 1 to 89 zero symbols leaves a state ≥ 32 (31 × 89 kernel
    evaluations), so two substituted symbols at distance ≤ 89 never cancel.
-/
import Buidl.Model.Bech32
import Buidl.Proofs.XorChecksum
namespace Buidl.Bech32
open Buidl

theorem gen_length : Gen.bech32Gen.length = Gen.polymodGenCount := by decide

def term (b i : Nat) : Nat := if b.testBit i then genAt i else 0

theorem polymodStep_eq (c v : Nat) : polymodStep c v =
    ((c &&& 0x1FFFFFF) <<< 5) ^^^ v ^^^ term (c >>> 25) 0 ^^^ term (c >>> 25) 1 ^^^ term (c >>> 25) 2
      ^^^ term (c >>> 25) 3 ^^^ term (c >>> 25) 4 := by
  simp only [polymodStep, Gen.polymodTopShift, Gen.polymodLowMask, Gen.polymodShl, Gen.polymodGenCount]
  rfl

theorem polymodFrom_nil (c : Nat) : polymodFrom c [] = c := rfl

theorem polymodFrom_cons (c v : Nat) (vs : List Nat) :
    polymodFrom c (v :: vs) = polymodFrom (polymodStep c v) vs := rfl

theorem polymodFrom_append (c : Nat) (a b : List Nat) :
    polymodFrom c (a ++ b) = polymodFrom (polymodFrom c a) b := List.foldl_append

theorem mix_eq_combo (b : Nat) :
    term b 0 ^^^ term b 1 ^^^ term b 2 ^^^ term b 3 ^^^ term b 4 = Shamir.combo Gen.bech32Gen b := by
  have g : genAt 0 = 996825010 ∧ genAt 1 = 642813549 ∧ genAt 2 = 513874426 ∧ genAt 3 = 1027748829 ∧
      genAt 4 = 705979059 := by decide
  simp only [term, Nat.testBit_eq_decide_div_mod_eq, decide_eq_true_eq, Gen.bech32Gen, Shamir.combo, Nat.div_div_eq_div_mul,
    g, Nat.reducePow, Nat.reduceMul, Nat.div_one, Nat.xor_zero, Nat.xor_assoc]

theorem polymodStep_shiftMix (c v : Nat) : polymodStep c v = XorChecksum.shiftMix 5 25 Gen.bech32Gen c ^^^ v := by
  rw [polymodStep_eq, XorChecksum.shiftMix, ← mix_eq_combo, Nat.and_two_pow_sub_one_eq_mod c 25]
  ac_rfl

theorem checksum : XorChecksum polymodStep (XorChecksum.shiftMix 5 25 Gen.bech32Gen) 30 :=
  XorChecksum.of_gens polymodStep_shiftMix (by decide) (by decide)

theorem xor_mod_two_pow (x y n : Nat) : (x ^^^ y) % 2 ^ n = (x % 2 ^ n) ^^^ (y % 2 ^ n) :=
  Nat.xor_mod_two_pow

/-! ### substituted symbols -/

theorem polymodFrom_single (c : Nat) (pre post : List Nat) (x y : Nat) (hx : x < 2 ^ 30) (hy : y < 2 ^ 30)
    (hxy : x ≠ y) : polymodFrom c (pre ++ x :: post) ≠ polymodFrom c (pre ++ y :: post) :=
  checksum.foldl_single c pre post hx hy hxy

/-! ### two substituted symbols -/

/-- `polymodStep c 0`, written with the functions the kernel evaluates on literals at once: no
    instance is unfolded and no list is walked at each of the thousands of steps of the tables -/
def stepZero (c : Nat) : Nat :=
  Nat.xor (Nat.xor (Nat.xor (Nat.xor (Nat.xor (Nat.mul (Nat.mod c (2 ^ 25)) 32)
    (Nat.mul (genAt 0) (Nat.mod (Nat.shiftRight c 25) 2)))
    (Nat.mul (genAt 1) (Nat.mod (Nat.shiftRight c 26) 2)))
    (Nat.mul (genAt 2) (Nat.mod (Nat.shiftRight c 27) 2)))
    (Nat.mul (genAt 3) (Nat.mod (Nat.shiftRight c 28) 2)))
    (Nat.mul (genAt 4) (Nat.mod (Nat.shiftRight c 29) 2))

theorem term_eq_mul (b i : Nat) : term b i = genAt i * (b >>> i % 2) := by
  rw [Nat.shiftRight_eq_div_pow, ← Nat.toNat_testBit, term]
  cases b.testBit i <;> simp

theorem polymodStep_zero (c : Nat) : polymodStep c 0 = stepZero c := by
  rw [polymodStep_eq, Nat.xor_zero, Nat.and_two_pow_sub_one_eq_mod c 25, Nat.shiftLeft_eq]
  simp only [term_eq_mul, ← Nat.shiftRight_add]
  rfl

def iterates (f : Nat → Nat) : Nat → Nat → List Nat
  | 0, _ => []
  | n + 1, c => c :: iterates f n (f c)

def orbit : Nat → Nat → List Nat
  | 0, _ => []
  | n + 1, c => c :: orbit n (polymodStep c 0)

theorem orbit_eq (n c : Nat) : orbit n c = (List.range n).map fun i => polymodFrom c (List.replicate i 0) := by
  induction n generalizing c with
  | zero => rfl
  | succ n ih => rw [orbit, ih, List.range_succ_eq_map, List.map_cons, List.map_map]; rfl

theorem orbit_eq_iterates (n c : Nat) : orbit n c = iterates stepZero n c := by
  induction n generalizing c with
  | zero => rfl
  | succ n ih => rw [orbit, ih, polymodStep_zero, iterates]

theorem mem_orbit (n c i : Nat) (hi : i < n) : polymodFrom c (List.replicate i 0) ∈ orbit n c := by
  rw [orbit_eq]
  exact List.mem_map.2 ⟨i, List.mem_range.2 hi, rfl⟩

def orbitGe32 : Nat → Nat → Bool
  | 0, _ => true
  | n + 1, c => decide (32 ≤ polymodStep c 0) && orbitGe32 n (polymodStep c 0)

theorem orbitGe32_eq (n c : Nat) : orbitGe32 n c = (orbit n (polymodStep c 0)).all fun s => decide (32 ≤ s) := by
  induction n generalizing c with
  | zero => rfl
  | succ n ih => rw [orbitGe32, ih, orbit, List.all_cons]

theorem orbitGe32_iff (n c : Nat) :
    orbitGe32 n c = true ↔ (iterates stepZero n (stepZero c)).all (Nat.ble 32) = true := by
  simp only [orbitGe32_eq, orbit_eq_iterates, polymodStep_zero, Nat.ble_eq, List.all_eq_true, decide_eq_true_eq]

theorem orbit_table : ∀ a < 32, a ≠ 0 → orbitGe32 89 a = true := by
  simp only [orbitGe32_iff]
  decide +kernel

theorem orbitGe32_spec (n c : Nat) (h : orbitGe32 n c = true) (j : Nat) (hj : j < n) :
    32 ≤ polymodFrom c (List.replicate (j + 1) 0) := by
  rw [orbitGe32_eq, List.all_eq_true] at h
  exact of_decide_eq_true (h _ (mem_orbit n _ j hj))

theorem polymodFrom_double (c : Nat) (pre mid post : List Nat) (x y x' y' : Nat)
    (hx : x < 32) (hy : y < 32) (hx' : x' < 32) (hy' : y' < 32) (hxy : x ≠ y) (hmid : mid.length < 89) :
    polymodFrom c (pre ++ x :: mid ++ x' :: post) ≠ polymodFrom c (pre ++ y :: mid ++ y' :: post) :=
  checksum.foldl_double (w := 5) (by decide) (fun d hd h0 => orbitGe32_spec 89 d (orbit_table d hd h0))
    c pre mid post hx hy hx' hy' hxy hmid

end Buidl.Bech32
