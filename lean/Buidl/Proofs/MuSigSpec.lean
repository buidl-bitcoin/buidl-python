/-
  The verification the MuSig model runs (MuSig.verifySchnorr over the abstract
  challenge hash) is Buidl.Model.Schnorr.verifySchnorr over SHA-256 with the tag cache, hence — by C02's
  `verifyRaw_iff_spec` — BIP340's Verify of Buidl.Spec.BIP340.
-/
import Buidl.Proofs.MuSig
import Buidl.Proofs.SchnorrVerify

namespace Buidl.MuSig
open Buidl Buidl.EC Buidl.Taproot

theorem parityOf_eq_schnorr (X : Pt) : Schnorr.parityOf X = Taproot.parityOf X := by cases X <;> rfl

theorem tagChallenge_eq : Gen.schnorrTagChallenge = Gen.tagChallenge := rfl

/-- the two transcriptions of pecc.verify_schnorr agree (up to the tag cache, which is not observable) -/
theorem verifySchnorr_bridge (sha256 : Bytes → Bytes) (c : Schnorr.Cache) (hc : Schnorr.CacheOK sha256 c)
    (X : Pt) (msg : Bytes) (R : Pt) (s : ℕ) :
    ∃ c', Schnorr.verifySchnorr sha256 c X msg R s =
      (verifySchnorr (Hashes.ofSha256 sha256) X msg R s).map (fun b => (b, c')) := by
  unfold Schnorr.verifySchnorr verifySchnorr evenPointOf
  rw [parityOf_eq_schnorr]
  cases hp : Taproot.parityOf X with
  | none => exact ⟨c, rfl⟩
  | some par =>
    simp only [Option.bind_eq_bind, Option.bind_some, Option.pure_def]
    cases R with
    | inf => exact ⟨c, rfl⟩
    | aff rx ry =>
      simp only
      generalize (if par = 1 then smul (-1) X else X) = P
      obtain ⟨c', hh, _⟩ := Schnorr.taggedHash_spec sha256 c hc Gen.schnorrTagChallenge
        (xonly (.aff rx ry) ++ xonly P ++ msg)
      refine ⟨c', ?_⟩
      unfold Schnorr.hashChallenge
      rw [hh]
      simp only [Option.bind_some]
      have hch : beToNat (Spec.BIP340.hashTag sha256 Gen.schnorrTagChallenge (xonly (.aff rx ry) ++ xonly P ++ msg)) % N =
          challengeOf (Hashes.ofSha256 sha256) (.aff rx ry) P msg := by
        unfold challengeOf Hashes.ofSha256 tagged Spec.BIP340.hashTag
        rw [tagChallenge_eq]
      rw [hch]
      cases saddInt (smul (-(challengeOf (Hashes.ofSha256 sha256) (.aff rx ry) P msg : ℤ)) P) (s : ℤ) with
      | inf => rfl
      | aff wx wy =>
        simp only
        split <;> rfl

section
variable (gl : GroupLaw)
include gl

/-- **a signature accepted by `verify_schnorr` for the key `x_e·G` is a BIP340 signature for that key's x-only
    encoding** (tagged hashes instantiated with SHA-256) -/
theorem verify_is_bip340 (sha256 : Bytes → Bytes) (xe r : ℤ) (hxe : g xe ≠ .inf) (hr : g r ≠ .inf) (msg : Bytes) (s : ℕ)
    (hs : s < N) (hv : verifySchnorr (Hashes.ofSha256 sha256) (g xe) msg (evenPoint (g r)) s = some true) :
    Spec.BIP340.verify sha256 (xonly (g xe)) msg (xonly (g r) ++ natToBE' 32 s) = true := by
  have hxl : (xonly (g r)).length = 32 := xonly_length _
  have hsl : (natToBE' 32 s).length = 32 := natToBE'_length 32 s
  apply (Schnorr.verifyRaw_iff_spec sha256 [] (Schnorr.cacheOK_nil sha256) _ _ _ (xonly_length _)
    (by rw [List.length_append, hxl, hsl])).mp
  unfold Schnorr.verifyRaw
  have hlt : s < 256 ^ 32 := Nat.lt_trans hs N_lt_2_256
  rw [parsePoint_xonly_g gl hxe, Schnorr.parse_eq, List.take_left' hxl, List.drop_left' hxl,
    parsePoint_xonly_g gl hr,
    List.take_of_length_le hsl.le, beToNat_natToBE' hlt]
  simp only [Option.bind_eq_bind, Option.bind_some, Nat.not_le.mpr hs, if_false]
  obtain ⟨c', hb⟩ := verifySchnorr_bridge sha256 [] (Schnorr.cacheOK_nil sha256) (evenPoint (g xe)) msg (evenPoint (g r)) s
  refine ⟨c', ?_⟩
  rw [hb]
  -- `verify_schnorr` sees the key only through its even representative
  have hev : verifySchnorr (Hashes.ofSha256 sha256) (evenPoint (g xe)) msg (evenPoint (g r)) s = some true := by
    rw [verifySchnorr_eq] at hv ⊢
    rwa [gl.evenPointOf_evenPoint xe hxe]
  rw [hev]
  rfl

end

end Buidl.MuSig
