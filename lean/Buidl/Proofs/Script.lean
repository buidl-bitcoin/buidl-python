/-
  The script codec (Buidl.Model.Script).  The loop of `Script.parse` is restated as a function of the bytes alone
  (`cmdsOf`, one `readCmd` per iteration; the model's fuel and accumulator are dealt with once, in `parseLoop_eq`),
  and the round trip of well-formed commands, up to `canon`, is proved on that.  A script on a stream is read back as
  the parse of its raw serialisation, and conversely.
-/
import Buidl.Proofs.Codec
import Buidl.Model.Script
namespace Buidl.Script
open Buidl

/-! ### the extracted comparisons, as plain arithmetic -/

theorem parseCmp0 (x : Nat) : cmpAt Gen.parseCmp 0 x = decide (x ≥ 1) := cmpOp_GtE x 1
theorem parseCmp1 (x : Nat) : cmpAt Gen.parseCmp 1 x = decide (x ≤ 75) := cmpOp_LtE x 75
theorem parseCmp2 (x : Nat) : cmpAt Gen.parseCmp 2 x = (x == 76) := cmpOp_Eq x 76
theorem parseCmp3 (x : Nat) : cmpAt Gen.parseCmp 3 x = (x == 77) := cmpOp_Eq x 77
theorem parseCmp4 (x : Nat) : cmpAt Gen.parseCmp 4 x = (x == 78) := cmpOp_Eq x 78
theorem rawSerCmp0 (x : Nat) : cmpAt Gen.rawSerCmp 0 x = decide (x ≤ 75) := cmpOp_LtE x 75
theorem rawSerCmp1 (x : Nat) : cmpAt Gen.rawSerCmp 1 x = decide (x > 75) := cmpOp_Gt x 75
theorem rawSerCmp2 (x : Nat) : cmpAt Gen.rawSerCmp 2 x = decide (x < 256) := cmpOp_Lt x 256
theorem rawSerCmp3 (x : Nat) : cmpAt Gen.rawSerCmp 3 x = decide (x ≥ 256) := cmpOp_GtE x 256
theorem rawSerCmp4 (x : Nat) : cmpAt Gen.rawSerCmp 4 x = decide (x ≤ 520) := cmpOp_LtE x 520

/-! ### well-formed commands, the canonical form, what `serCmd` writes -/

/-- what the round trip covers: opcodes that are not push opcodes (0 or 79..255) and data elements
    of at most 520 bytes -/
def CmdWF : Cmd → Prop
  | .op n => n = 0 ∨ (79 ≤ n ∧ n ≤ 255)
  | .push d => d.length ≤ 520

instance : DecidablePred CmdWF := fun c => by
  cases c <;> unfold CmdWF <;> infer_instance

/-- N04c: the empty data element and OP_0 have the same byte (0x00) and the same meaning (push the
    empty string); parsing yields OP_0 -/
def canonCmd : Cmd → Cmd
  | .push [] => .op 0
  | c => c

def canon (cs : List Cmd) : List Cmd := cs.map canonCmd

theorem canonCmd_push_ne {d : Bytes} (h : d ≠ []) : canonCmd (.push d) = .push d := by
  cases d with
  | nil => exact absurd rfl h
  | cons _ _ => rfl

theorem canonCmd_idem (c : Cmd) : canonCmd (canonCmd c) = canonCmd c := by
  cases c with
  | op n => rfl
  | push d => cases d <;> rfl

theorem canon_idem (cs : List Cmd) : canon (canon cs) = canon cs := by
  simp [canon, canonCmd_idem]

theorem canon_eq_self {cs : List Cmd} (h : Cmd.push [] ∉ cs) : canon cs = cs := by
  refine (List.map_congr_left fun c hc => ?_).trans (List.map_id cs)
  cases c with
  | op n => rfl
  | push d => exact canonCmd_push_ne fun e => h (e ▸ hc)

def cmdSize : Cmd → Nat
  | .op _ => 1
  | .push d => if d.length ≤ 75 then 1 + d.length else if d.length < 256 then 2 + d.length else 3 + d.length

def cmdsSize : List Cmd → Nat
  | [] => 0
  | c :: r => cmdSize c + cmdsSize r

theorem serCmd_op {n : Nat} (h : n ≤ 255) : serCmd (.op n) = some [UInt8.ofNat n] := by
  simp [serCmd, intToByte, h]

theorem serCmd_push (d : Bytes) :
    serCmd (.push d) =
      if d.length ≤ 75 then some (UInt8.ofNat d.length :: d)
      else if d.length < 256 then some (76 :: UInt8.ofNat d.length :: d)
      else if d.length ≤ 520 then some (77 :: natToLE' 2 d.length ++ d)
      else none := by
  by_cases h0 : d.length ≤ 75
  · have h' : d.length ≤ 255 := by omega
    simp [serCmd, rawSerCmp0, intToByte, h0, h']
  · by_cases h1 : d.length < 256
    · have h' : d.length ≤ 255 := by omega
      have h2 : 75 < d.length := by omega
      simp [serCmd, rawSerCmp0, rawSerCmp1, rawSerCmp2, intToByte, h0, h1, h2, h', Gen.rawSerPushdata1]
    · by_cases h2 : d.length ≤ 520
      · have h3 : d.length < 256 ^ 2 := by omega
        have h4 : 256 ≤ d.length := by omega
        simp [serCmd, rawSerCmp0, rawSerCmp1, rawSerCmp2, rawSerCmp3, rawSerCmp4, intToByte, h0, h1, h2, h4,
          Gen.rawSerPushdata2, natToLE_some h3]
      · simp [serCmd, rawSerCmp0, rawSerCmp1, rawSerCmp2, rawSerCmp3, rawSerCmp4, h0, h1, h2]

theorem serCmd_canon (c : Cmd) : serCmd (canonCmd c) = serCmd c := by
  cases c with
  | op n => rfl
  | push d =>
    cases d with
    | nil => exact (serCmd_op (by omega)).trans (serCmd_push []).symm
    | cons _ _ => rfl

theorem canonCmd_wf {c : Cmd} (wf : CmdWF c) : CmdWF (canonCmd c) := by
  cases c with
  | op n => exact wf
  | push d =>
    cases d with
    | nil => exact Or.inl rfl
    | cons _ _ => exact wf

/-! ### the loop of `Script.parse` as a function of the bytes -/

/-- a data element behind `k` length bytes that announce `n` bytes (`k = 0`: a direct push, `n` is the opcode): the
    element, what follows it, whether every byte was there -/
def readData (k n : Nat) (r : Bytes) : Cmd × Bytes × Bool :=
  (.push ((r.drop k).take n), (r.drop k).drop n, !decide ((r.take k).length < k ∨ ((r.drop k).take n).length < n))

/-- what one iteration of the loop of `Script.parse` reads at the byte `c` followed by `r`: the command, the
    bytes after it, and whether every read was complete -/
def readCmd (c : UInt8) (r : Bytes) : Cmd × Bytes × Bool :=
  if 1 ≤ c.toNat ∧ c.toNat ≤ 75 then readData 0 c.toNat r
  else if c.toNat = 76 then readData 1 (leToNat (r.take 1)) r
  else if c.toNat = 77 then readData 2 (leToNat (r.take 2)) r
  else if c.toNat = 78 then readData 4 (leToNat (r.take 4)) r
  else (.op c.toNat, r, true)

theorem ite_not_decide {α} (p : Prop) [Decidable p] (x y : α) :
    (if (!decide p) = true then y else x) = if p then x else y := by
  by_cases h : p
  · rw [if_pos h, if_neg (by rw [decide_eq_true h]; exact Bool.false_ne_true)]
  · rw [if_neg h, if_pos (by rw [decide_eq_false h]; rfl)]

theorem parseLoop_succ (f : Nat) (c : UInt8) (r : Bytes) (acc : List Cmd) :
    parseLoop (f + 1) (c :: r) acc =
      if (readCmd c r).2.2 = true then parseLoop f (readCmd c r).2.1 ((readCmd c r).1 :: acc)
      else (((readCmd c r).1 :: acc).reverse, false) := by
  rw [parseLoop, readCmd]
  simp only [parseCmp0, parseCmp1, parseCmp2, parseCmp3, parseCmp4, Bool.and_eq_true, decide_eq_true_eq, beq_iff_eq,
    ge_iff_le]
  by_cases h0 : 1 ≤ c.toNat ∧ c.toNat ≤ 75
  · rw [if_pos h0, if_pos h0, readData, ite_not_decide]
    simp only [List.take_zero, List.drop_zero, List.length_nil, Nat.lt_irrefl, false_or]
  · rw [if_neg h0, if_neg h0]
    by_cases h1 : c.toNat = 76
    · rw [if_pos h1, if_pos h1, readData, ite_not_decide]
    · rw [if_neg h1, if_neg h1]
      by_cases h2 : c.toNat = 77
      · rw [if_pos h2, if_pos h2, readData, ite_not_decide]
      · rw [if_neg h2, if_neg h2]
        by_cases h3 : c.toNat = 78
        · rw [if_pos h3, if_pos h3, readData, ite_not_decide]
        · rw [if_neg h3, if_neg h3]
          rfl

theorem readData_length (k n : Nat) (r : Bytes) : (readData k n r).2.1.length ≤ r.length := by
  show ((r.drop k).drop n).length ≤ r.length
  rw [List.length_drop, List.length_drop]
  omega

theorem readCmd_length (c : UInt8) (r : Bytes) : (readCmd c r).2.1.length ≤ r.length :=
  let P := fun x : Cmd × Bytes × Bool => x.2.1.length ≤ r.length
  iteInduction (motive := P) (fun _ => readData_length _ _ r) fun _ =>
  iteInduction (motive := P) (fun _ => readData_length _ _ r) fun _ =>
  iteInduction (motive := P) (fun _ => readData_length _ _ r) fun _ =>
  iteInduction (motive := P) (fun _ => readData_length _ _ r) fun _ => Nat.le_refl _

/-- the commands in `s` and whether every read was complete: what the loop of `Script.parse` computes, without its
    fuel and its accumulator -/
def cmdsOf : Bytes → List Cmd × Bool
  | [] => ([], true)
  | c :: r =>
    if (readCmd c r).2.2 = true then ((readCmd c r).1 :: (cmdsOf (readCmd c r).2.1).1, (cmdsOf (readCmd c r).2.1).2)
    else ([(readCmd c r).1], false)
termination_by s => s.length
decreasing_by exact Nat.lt_succ_of_le (readCmd_length c r)

theorem parseLoop_eq (f : Nat) : ∀ (s : Bytes) (acc : List Cmd), s.length < f →
    parseLoop f s acc = (acc.reverse ++ (cmdsOf s).1, (cmdsOf s).2) := by
  induction f with
  | zero => intro s acc h; omega
  | succ f ih =>
    intro s acc h
    cases s with
    | nil => rw [cmdsOf, List.append_nil]; rfl
    | cons c r =>
      have hl := readCmd_length c r
      rw [parseLoop_succ, cmdsOf]
      split
      · rw [ih _ _ (by simp only [List.length_cons] at h; omega), List.reverse_cons, List.append_assoc]; rfl
      · rw [List.reverse_cons]

theorem parseRaw_eq (raw : Bytes) :
    parseRaw raw = { cmds := (cmdsOf raw).1, raw := if (cmdsOf raw).2 = true then none else some raw } := by
  rw [parseRaw, parseLoop_eq _ raw [] (Nat.lt_succ_self _)]
  rfl

/-! ### round trips -/

theorem readData_complete (k n : Nat) (l r : Bytes) (hk : l.length = k) (hl : n ≤ r.length) :
    readData k n (l ++ r) = (.push (r.take n), r.drop n, true) := by
  simp only [readData, List.take_left' hk, List.drop_left' hk, hk, List.length_take, Nat.lt_irrefl,
    false_or, Prod.mk.injEq, true_and, Bool.not_eq_true', decide_eq_false_iff_not]
  omega

theorem readData_append (k : Nat) (l d rest : Bytes) (hl : l.length = k) :
    readData k d.length (l ++ (d ++ rest)) = (.push d, rest, true) := by
  rw [readData_complete k _ l _ hl (by rw [List.length_append]; omega), List.take_left, List.drop_left]

theorem cmd_roundTrip {c : Cmd} (wf : CmdWF c) : ∃ b0 bs, serCmd c = some (b0 :: bs) ∧ bs.length + 1 = cmdSize c ∧
    ∀ rest, readCmd b0 (bs ++ rest) = (canonCmd c, rest, true) := by
  unfold CmdWF at wf
  cases c with
  | op n =>
    refine ⟨_, [], serCmd_op (by omega), rfl, fun rest => ?_⟩
    rw [readCmd, u8_toNat_ofNat_lt (by omega), if_neg (by omega), if_neg (by omega), if_neg (by omega),
      if_neg (by omega)]
    rfl
  | push d =>
    rw [serCmd_push, cmdSize]
    by_cases h0 : d.length ≤ 75
    · refine ⟨_, d, if_pos h0, by rw [if_pos h0, Nat.add_comm], fun rest => ?_⟩
      rw [readCmd, u8_toNat_ofNat_lt (by omega)]
      cases d with
      | nil => rfl
      | cons x xs =>
        rw [if_pos ⟨by simp only [List.length_cons]; omega, h0⟩]
        exact readData_append 0 [] _ rest rfl
    · rw [if_neg h0, if_neg h0, canonCmd_push_ne fun hd => h0 (by rw [hd]; exact Nat.zero_le 75)]
      by_cases h1 : d.length < 256
      · refine ⟨76, _, if_pos h1, by rw [if_pos h1, List.length_cons]; omega, fun rest => ?_⟩
        rw [readCmd, if_neg (by decide), if_pos (by decide)]
        simp only [List.cons_append, List.take_succ_cons, List.take_zero, leToNat, u8_toNat_ofNat_lt h1, Nat.mul_zero,
          Nat.add_zero]
        exact readData_append 1 [UInt8.ofNat d.length] d rest rfl
      · refine ⟨77, natToLE' 2 d.length ++ d, by rw [if_neg h1, if_pos wf]; rfl,
          by rw [if_neg h1, List.length_append, natToLE'_length]; omega, fun rest => ?_⟩
        rw [List.append_assoc, readCmd, if_neg (by decide), if_neg (by decide), if_pos (by decide),
          List.take_left' (natToLE'_length 2 _), leToNat_natToLE'_of_lt (by omega)]
        exact readData_append 2 _ d rest (natToLE'_length 2 _)

theorem serCmds_eq : serCmds = serList serCmd := serList_eq_of rfl fun _ _ => rfl

theorem cmdSize_pos (c : Cmd) : 1 ≤ cmdSize c := by
  cases c with
  | op n => exact Nat.le_refl 1
  | push d =>
    simp only [cmdSize]
    split
    · omega
    · split <;> omega

theorem cmdsSize_ge_length (cs : List Cmd) : cs.length ≤ cmdsSize cs := by
  induction cs with
  | nil => exact Nat.le_refl 0
  | cons c cs ih => have := cmdSize_pos c; simp only [cmdsSize, List.length_cons]; omega

theorem cmdsSize_le {cs : List Cmd} (wf : ∀ c ∈ cs, CmdWF c) : cmdsSize cs ≤ 523 * cs.length := by
  induction cs with
  | nil => exact Nat.le_refl 0
  | cons c cs ih =>
    have := ih (fun x hx => wf x (List.mem_cons_of_mem _ hx))
    have hc : cmdSize c ≤ 523 := by
      have := wf c List.mem_cons_self
      cases c with
      | op n => exact Nat.le_of_ble_eq_true rfl
      | push d =>
        simp only [CmdWF] at this
        simp only [cmdSize]
        split
        · omega
        · split <;> omega
    simp only [cmdsSize, List.length_cons]
    omega

theorem serCmds_canon (cs : List Cmd) : serCmds (canon cs) = serCmds cs := by
  rw [serCmds_eq]
  exact serList_map_congr fun c _ => serCmd_canon c

theorem canon_wf {cs : List Cmd} (wf : ∀ c ∈ cs, CmdWF c) : ∀ c ∈ canon cs, CmdWF c := by
  intro c hc
  obtain ⟨c', hc', rfl⟩ := List.mem_map.mp hc
  exact canonCmd_wf (wf c' hc')

theorem cmds_roundTrip {cs : List Cmd} (wf : ∀ c ∈ cs, CmdWF c) : ∃ b, serCmds cs = some b ∧ b.length = cmdsSize cs ∧
    ∀ rest, cmdsOf (b ++ rest) = (canon cs ++ (cmdsOf rest).1, (cmdsOf rest).2) := by
  rw [serCmds_eq]
  induction cs with
  | nil => exact ⟨[], rfl, rfl, fun _ => rfl⟩
  | cons c cs ih =>
    obtain ⟨b0, bs, ha, la, ra⟩ := cmd_roundTrip (wf c List.mem_cons_self)
    obtain ⟨b, hb, lb, rb⟩ := ih fun c hc => wf c (List.mem_cons_of_mem _ hc)
    refine ⟨b0 :: bs ++ b, serList_cons_eq_some_iff.2 ⟨_, _, ha, hb, rfl⟩, by rw [List.length_append, List.length_cons, la, lb]; rfl,
      fun rest => ?_⟩
    rw [List.cons_append, List.cons_append, List.append_assoc, cmdsOf, ra, if_pos rfl, rb]
    rfl

theorem serCmds_isSome {cs : List Cmd} (wf : ∀ c ∈ cs, CmdWF c) : ∃ b, serCmds cs = some b :=
  let ⟨b, h, _⟩ := cmds_roundTrip wf
  ⟨b, h⟩

theorem serCmds_length {cs : List Cmd} {b : Bytes} (wf : ∀ c ∈ cs, CmdWF c) (h : serCmds cs = some b) :
    b.length = cmdsSize cs := by
  obtain ⟨b', h1, h2, _⟩ := cmds_roundTrip wf
  cases h1.symm.trans h
  exact h2

theorem parseRaw_serCmds (cs : List Cmd) (b : Bytes) (wf : ∀ c ∈ cs, CmdWF c) (h : serCmds cs = some b) :
    parseRaw b = { cmds := canon cs, raw := none } := by
  obtain ⟨b', h1, _, hp⟩ := cmds_roundTrip wf
  cases h1.symm.trans h
  have := hp []
  rw [List.append_nil, cmdsOf, List.append_nil] at this
  rw [parseRaw_eq, this]
  rfl

theorem script_roundTrip_raw {s : Script} {r : Bytes} (hr : rawSerialize s = some r) (hl : r.length < 2 ^ 63) :
    RoundTrip Script.serialize Script.parse s (parseRaw r) := by
  obtain ⟨e, he, pe⟩ := varstr_roundTrip hl
  refine ⟨e, ?_, fun rest => ?_⟩
  · simp only [Script.serialize, hr, Option.bind_eq_bind, Option.bind_some, he]
  · simp only [Script.parse, pe rest, Option.pure_def, Option.bind_eq_bind, Option.bind_some]

theorem script_roundTrip_inv {s s' : Script} (h : RoundTrip Script.serialize Script.parse s s') :
    ∃ r, rawSerialize s = some r ∧ r.length < 2 ^ 63 ∧ s' = parseRaw r := by
  obtain ⟨e, hser, hpar⟩ := h
  simp only [Script.serialize, Option.bind_eq_bind, Option.bind_eq_some_iff] at hser
  obtain ⟨r, hr, he⟩ := hser
  simp only [encodeVarstr, Option.map_eq_some_iff] at he
  obtain ⟨v, hv, rfl⟩ := he
  have hp0 := hpar []
  simp only [List.append_nil, Script.parse, readVarstr, readVarint_encodeVarint _ _ _ hv, Option.pure_def,
    Option.bind_eq_bind] at hp0
  by_cases hl : r.length < 2 ^ 63
  · simp only [hl, if_true, Option.bind_some, List.take_length, Option.some.injEq, Prod.mk.injEq] at hp0
    exact ⟨r, hr, hl, hp0.1.symm⟩
  · simp [hl] at hp0

theorem parse_serCmds {cs : List Cmd} {raw : Bytes} (wf : ∀ c ∈ cs, CmdWF c) (hne : Cmd.push [] ∉ cs)
    (hlen : cs.length ≤ 2 ^ 40) (hser : serCmds cs = some raw) :
    ∃ v, encodeVarstr raw = some v ∧ Script.parse v = some ({ cmds := cs, raw := none }, []) := by
  have hsz := serCmds_length wf hser
  have hle := cmdsSize_le wf
  obtain ⟨v, hv, hp⟩ := script_roundTrip_raw (s := { cmds := cs }) hser (by omega)
  rw [Script.serialize, show rawSerialize { cmds := cs } = serCmds cs from rfl, hser] at hv
  exact ⟨v, hv, by rw [← List.append_nil v, hp [], parseRaw_serCmds cs raw wf hser, canon_eq_self hne]⟩

theorem push_le_of_serCmds {cs : List Cmd} {b : Bytes} (h : serCmds cs = some b) {d : Bytes} (hd : Cmd.push d ∈ cs) :
    d.length ≤ 520 :=
  Nat.le_of_not_lt fun hl => by
    obtain ⟨x, hx⟩ := serList_mem (serCmds_eq ▸ h) _ hd
    rw [serCmd_push, if_neg (by omega), if_neg (by omega), if_neg (by omega)] at hx
    cases hx

end Buidl.Script
