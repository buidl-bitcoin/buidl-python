/-
  Buidl.Proofs.DescriptorPoly — Bitcoin Core's descriptor-checksum step (`polyMod`) is an `XorChecksum` on a
  40-bit register (five-bit symbols, five generators), so that two symbol streams which differ only inside a
  window of at most eight symbols end in different 40-bit states (`fold_detects_window`); hence Core's checksum
  changes under every single-character substitution.
  Mathlib-free; the one finite fact about the generator constants (their low five bits are independent) is
  checked by `decide`.
-/
import Buidl.Spec.DescriptorChecksum
import Buidl.Proofs.XorChecksum
import Buidl.Proofs.ListM
namespace Buidl.Spec.DescriptorChecksum
open Buidl.Shamir Buidl.XorChecksum

/-- the five generators of Core's `PolyMod` -/
def gens : List Nat := [0xf5dee51989, 0xa9fdca3312, 0x1bab10e32d, 0x3706b1677a, 0x644d626ffd]

theorem polyMod_shiftMix (c v : Nat) : polyMod c v = shiftMix 5 35 gens c ^^^ v := by
  have e := and_two_pow_ne_zero (c >>> 35)
  have e0 := e 0
  have e1 := e 1
  have e2 := e 2
  have e3 := e 3
  have e4 := e 4
  simp only [Nat.pow_zero, Nat.div_one, Nat.reducePow] at e0 e1 e2 e3 e4
  simp only [polyMod, shiftMix, gens, combo, Nat.and_two_pow_sub_one_eq_mod c 35, ite_xor, e0, e1, e2, e3, e4,
    Nat.div_div_eq_div_mul, Nat.reduceMul, Nat.xor_zero]
  ac_rfl

theorem checksum : XorChecksum polyMod (shiftMix 5 35 gens) 40 :=
  of_gens polyMod_shiftMix (by decide) (by decide)

theorem fold_detects_window (S G G' T : List Nat) (c0 : Nat) (hG : ∀ x ∈ G, x < 32) (hG' : ∀ x ∈ G', x < 32)
    (hl : G.length = G'.length) (h8 : G.length ≤ 8) (hne : G ≠ G') :
    (S ++ G ++ T).foldl polyMod c0 ≠ (S ++ G' ++ T).foldl polyMod c0 :=
  checksum.foldl_window c0 S G G' T hG hG' hl (by omega) hne

/-! ## the rendered checksum determines the 40-bit value -/

theorem charset_nodup : CHECKSUM_CHARSET.Nodup := by
  unfold CHECKSUM_CHARSET
  rw [String.toList_ofList]
  decide

theorem charset_length : CHECKSUM_CHARSET.length = 32 := by
  unfold CHECKSUM_CHARSET
  rw [String.toList_ofList]
  rfl

theorem and31_lt (x : Nat) : x &&& 31 < 32 := by
  rw [and31]; exact Nat.mod_lt _ (by decide)

theorem render_digits (c : Nat) :
    [7, 6, 5, 4, 3, 2, 1, 0].map (fun k => (c >>> (5 * k)) &&& 31) = Digits.digitsBE 32 8 c := by
  simp only [Digits.digitsBE, and31, Nat.shiftRight_eq_div_pow, Nat.div_div_eq_div_mul, List.nil_append,
    List.cons_append, List.map_cons, List.map_nil, Nat.reducePow, Nat.reduceMul, Nat.div_one]

theorem render_inj {c c' : Nat} {cs : List Char} (hc : c < 2 ^ 40) (hc' : c' < 2 ^ 40)
    (h : render c = some cs) (h' : render c' = some cs) : c = c' := by
  refine Digits.digitsBE_inj (B := 32) (n := 8) hc hc' ?_
  rw [← render_digits, ← render_digits]
  refine List.map_inj_left.mpr fun k hk => ?_
  exact (List.getElem?_inj (by rw [charset_length]; exact and31_lt _) charset_nodup).mp (List.map_inj_left.mp
    ((List.mapM_eq_some_iff_map.1 h).trans (List.mapM_eq_some_iff_map.1 h').symm) k hk)

/-! ## one substituted character changes at most four consecutive symbols -/

theorem pos_split_ne {a a' : Nat} (h : a ≠ a') : ¬ (a &&& 31 = a' &&& 31 ∧ a >>> 5 = a' >>> 5) := by
  rw [and31, and31, Nat.shiftRight_eq_div_pow, Nat.shiftRight_eq_div_pow]
  intro ⟨h1, h2⟩
  apply h
  omega

/-- one group of at most three characters as `symbols` writes it -/
def group (g : List Nat) : List Nat := g.map (· &&& 31) ++ [Digits.ofDigitsBE 3 0 (g.map (· >>> 5))]

theorem symbols_eq : ∀ (ps : List Nat), ps ≠ [] → symbols ps = group (ps.take 3) ++ symbols (ps.drop 3)
  | [p1], _ => by simp [symbols, group, Digits.ofDigitsBE]
  | [p1, p2], _ => by simp [symbols, group, Digits.ofDigitsBE]; omega
  | p1 :: p2 :: p3 :: rest, _ => by simp [symbols, group, Digits.ofDigitsBE]; omega

theorem group_lt {g : List Nat} (hg : ∀ p ∈ g, p < 96) (hl : g.length ≤ 3) : ∀ x ∈ group g, x < 32 := by
  simp only [group, List.forall_mem_append, List.forall_mem_map, List.forall_mem_singleton]
  refine ⟨fun p _ => and31_lt p,
    Nat.lt_of_lt_of_le (Digits.ofDigitsBE_lt _ (List.forall_mem_map.mpr fun p hp => ?_)) ?_⟩
  · have := hg p hp
    rw [Nat.shiftRight_eq_div_pow]
    omega
  · rw [List.length_map]
    exact Nat.le_trans (Nat.pow_le_pow_right (by decide) hl) (by decide)

/-- a group determines each of its characters: the low bits are listed, the class is a digit of the last symbol -/
theorem group_subst_ne (g1 g2 : List Nat) {a a' : Nat} (hne : a ≠ a') : group (g1 ++ a :: g2) ≠ group (g1 ++ a' :: g2) := by
  intro h
  obtain ⟨hm, hc⟩ := List.append_inj' h rfl
  simp only [List.map_append, List.map_cons, Digits.ofDigitsBE_append, Digits.ofDigitsBE_cons, List.cons.injEq, and_true] at hc hm
  have hm' := (List.append_inj hm rfl).2
  rw [Digits.ofDigitsBE_acc, Digits.ofDigitsBE_acc (_ * 3 + a' >>> 5)] at hc
  have := Nat.eq_of_mul_eq_mul_right (Nat.pow_pos (by decide)) (Nat.add_right_cancel hc)
  exact pos_split_ne hne ⟨(List.cons.inj hm').1, by omega⟩

theorem symbols_lt : ∀ (ps : List Nat), (∀ p ∈ ps, p < 96) → ∀ x ∈ symbols ps, x < 32
  | [], _ => by simp [symbols]
  | p :: r, h => by
    rw [symbols_eq _ (List.cons_ne_nil p r), List.forall_mem_append]
    exact ⟨group_lt (fun q hq => h q (List.mem_of_mem_take hq)) (List.length_take_le _ _),
      symbols_lt _ fun q hq => h q (List.mem_of_mem_drop hq)⟩
termination_by ps => ps.length
decreasing_by simp; omega

theorem symbols_first {pre : List Nat} (h : pre.length < 3) (a : Nat) (post : List Nat) :
    symbols (pre ++ a :: post) = [] ++ group (pre ++ a :: post.take (2 - pre.length)) ++ symbols (post.drop (2 - pre.length)) := by
  rw [symbols_eq _ (by simp), List.take_append, List.drop_append, List.take_of_length_le (by omega),
    List.drop_of_length_le (by omega), show 3 - pre.length = (2 - pre.length) + 1 by omega, List.take_succ_cons,
    List.drop_succ_cons]
  rfl

/-- the window `G` is the group that holds the substituted character -/
theorem symbols_subst (pre post : List Nat) (a a' : Nat) (hne : a ≠ a') :
    ∃ S G G' T, symbols (pre ++ a :: post) = S ++ G ++ T ∧ symbols (pre ++ a' :: post) = S ++ G' ++ T ∧
      G.length = G'.length ∧ G.length ≤ 4 ∧ G ≠ G' := by
  by_cases h : pre.length < 3
  · exact ⟨[], _, _, _, symbols_first h a post, symbols_first h a' post, by simp [group], by simp [group]; omega,
      group_subst_ne _ _ hne⟩
  · obtain ⟨S, G, G', T, h1, h2, hl, h4, hg⟩ := symbols_subst (pre.drop 3) post a a' hne
    refine ⟨group (pre.take 3) ++ S, G, G', T, ?_, ?_, hl, h4, hg⟩
    · rw [symbols_eq _ (by simp), List.take_append_of_le_length (by omega), List.drop_append_of_le_length (by omega), h1]
      simp only [List.append_assoc]
    · rw [symbols_eq _ (by simp), List.take_append_of_le_length (by omega), List.drop_append_of_le_length (by omega), h2]
      simp only [List.append_assoc]
termination_by pre.length
decreasing_by simp; omega

/-! ## the checksum detects every single-character substitution -/

theorem checksumValue_lt (ps : List Nat) (h : ∀ p ∈ ps, p < 96) : checksumValue ps < 2 ^ 40 := by
  refine Nat.xor_lt_two_pow (checksum.foldl_lt _ (fun x hx => ?_) 1 (by decide)) (by decide)
  rcases List.mem_append.mp hx with hx | hx
  · exact Nat.lt_trans (symbols_lt ps h x hx) (by decide)
  · rw [List.eq_of_mem_replicate hx]
    decide

theorem checksumValue_detects (pre post : List Nat) (a a' : Nat) (hne : a ≠ a')
    (h : ∀ p ∈ pre ++ a :: post, p < 96) (h' : ∀ p ∈ pre ++ a' :: post, p < 96) :
    checksumValue (pre ++ a :: post) ≠ checksumValue (pre ++ a' :: post) := by
  obtain ⟨S, G, G', T, h1, h2, hl, h4, hg⟩ := symbols_subst pre post a a' hne
  have hs := symbols_lt _ h
  have hs' := symbols_lt _ h'
  rw [h1] at hs
  rw [h2] at hs'
  unfold checksumValue
  rw [h1, h2]
  intro heq
  have heq' := congrArg (· ^^^ 1) heq
  simp only [Nat.xor_assoc, Nat.xor_self, Nat.xor_zero] at heq'
  rw [List.append_assoc (S ++ G), List.append_assoc (S ++ G')] at heq'
  exact fold_detects_window S G G' (T ++ List.replicate 8 0) 1
    (fun x hx => hs x (by simp [hx])) (fun x hx => hs' x (by simp [hx])) hl (by omega) hg heq'

theorem position_spec : ∀ {l : List Char} {ch : Char} {a : Nat}, position ch l = some a → a < l.length ∧ l[a]? = some ch
  | x :: xs, ch, a, h => by
    unfold position at h
    split at h
    · next hx => cases h; subst hx; simp
    · simp only [Option.map_eq_some_iff] at h
      obtain ⟨b, hb, rfl⟩ := h
      obtain ⟨h1, h2⟩ := position_spec hb
      exact ⟨by simp; omega, by simpa using h2⟩

theorem input_length : INPUT_CHARSET.length = 95 := by
  unfold INPUT_CHARSET
  rw [String.toList_append, String.toList_append, String.toList_ofList, String.toList_ofList, String.toList_ofList]
  rfl

theorem positions_lt {s : List Char} {ps : List Nat} (h : positions s = some ps) : ∀ p ∈ ps, p < 96 :=
  fun p hp => (List.mapM_some_mem_right h hp).elim fun _ ha => by
    have := (position_spec ha.2).1
    rw [input_length] at this
    omega

theorem descriptorChecksum_some {s cs : List Char} (h : descriptorChecksum s = some cs) :
    ∃ ps, positions s = some ps ∧ render (checksumValue ps) = some cs := by
  unfold descriptorChecksum at h
  split at h
  · cases h
  · next ps hp => exact ⟨ps, hp, h⟩

/-- Bitcoin Core's descriptor checksum: replacing one character of the input by a different one (both inside
    the input charset, anything else is refused) always changes the eight checksum characters -/
theorem descriptorChecksum_detects_substitution (pre post : List Char) (ch ch' : Char) (hne : ch ≠ ch')
    (cs cs' : List Char) (h : descriptorChecksum (pre ++ ch :: post) = some cs)
    (h' : descriptorChecksum (pre ++ ch' :: post) = some cs') : cs ≠ cs' := by
  obtain ⟨ps, hp, hr⟩ := descriptorChecksum_some h
  obtain ⟨ps', hp', hr'⟩ := descriptorChecksum_some h'
  have hlt := positions_lt hp
  have hlt' := positions_lt hp'
  obtain ⟨ppre, a, ppost, h1, ha, h2, rfl⟩ := List.mapM_append_cons hp
  obtain ⟨ppre', a', ppost', h1', ha', h2', rfl⟩ := List.mapM_append_cons hp'
  cases h1.symm.trans h1'
  cases h2.symm.trans h2'
  have hane : a ≠ a' := by
    rintro rfl
    exact hne (Option.some.inj ((position_spec ha).2.symm.trans (position_spec ha').2))
  rintro rfl
  exact checksumValue_detects ppre ppost a a' hane hlt hlt'
    (render_inj (checksumValue_lt _ hlt) (checksumValue_lt _ hlt') hr hr')

end Buidl.Spec.DescriptorChecksum
