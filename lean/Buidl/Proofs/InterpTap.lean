/-
  TAPROOT_OP_CODE_FUNCTIONS (Buidl.Gen.Op.taprootOpCodeFunctions, re-extracted from buidl/op.py on every run)
  against BIP342 as transcribed in Buidl.Spec.Tapscript: the three Schnorr signature opcodes function by
  function, with the spec's validity oracle read off the environment, and the table: its keys and its `op_success`
  entries, one walk each (`tap_keys`, `tap_success_entries`).
-/
import Buidl.Proofs.Interp
import Buidl.Spec.Tapscript

namespace Buidl.Interp
open Buidl Buidl.Script Buidl.Spec

/-- the spec's signature-validity oracle, read off the environment: the element passes the check that
    op_checksig_schnorr / op_checksigadd_schnorr make (key parses, signature parses, digest exists,
    `verify_schnorr` returns True).  That this check is BIP340 verification is C02's subject
    (`bip340_of_schnorrCheck` in Buidl.Proofs.Compose). -/
def validOf (env : Env) : Tapscript.SigValid :=
  fun pk sig => decide (schnorrCheck env pk sig = .ok (some true))

/-! `schnorrCheck` on the three forms of element: empty, 65 bytes (the last is the hash type), any other length -/

theorem schnorrCheck_nil_eq (env : Env) (pk : Bytes) : schnorrCheck env pk [] = optErr (env.xonlyErr pk) (.ok none) :=
  rfl

theorem schnorrCheck_snoc (env : Env) (x body : Bytes) (b : UInt8) (h : (body ++ [b]).length = 65) :
    schnorrCheck env x (body ++ [b]) = optErr (env.xonlyErr x)
      (optErr (env.schnorrPre body b.toNat) (.ok (some (env.schnorrOK x b.toNat body)))) := by
  simp only [schnorrCheck, h, if_true, List.reverse_append, List.reverse_singleton, List.singleton_append,
    List.reverse_reverse]

theorem schnorrCheck_default (env : Env) (x sig : Bytes) (h65 : sig.length ≠ 65) (h0 : sig.length ≠ 0) :
    schnorrCheck env x sig = optErr (env.xonlyErr x)
      (optErr (env.schnorrPre sig 0) (.ok (some (env.schnorrOK x 0 sig)))) := by
  simp only [schnorrCheck, h65, h0, if_false]

theorem schnorrCheck_nil (env : Env) (pk : Bytes) (h : env.xonlyErr pk = none) :
    schnorrCheck env pk [] = .ok none := by
  rw [schnorrCheck_nil_eq, h]; rfl

theorem schnorrCheck_nil_ne_true (env : Env) (pk : Bytes) : schnorrCheck env pk [] ≠ .ok (some true) := by
  rw [schnorrCheck_nil_eq]; cases env.xonlyErr pk <;> simp [optErr]

theorem sig_ne_nil_of_true {env : Env} {pk sig : Bytes} (h : schnorrCheck env pk sig = .ok (some true)) :
    sig ≠ [] :=
  fun e => schnorrCheck_nil_ne_true env pk (e ▸ h)

/-- the condition under which the three signature opcodes conform to BIP342 (outside it they differ:
    Buidl.Props.C07Tap) -/
def SigConforming (env : Env) (pk sig : Bytes) : Prop :=
  pk.length = 32 ∧ ((sig = [] ∧ env.xonlyErr pk = none) ∨ schnorrCheck env pk sig = .ok (some true))

theorem sigOutcome_conforming {env : Env} {pk sig : Bytes} (h : SigConforming env pk sig) :
    (sig = [] ∧ schnorrCheck env pk sig = .ok none ∧ Tapscript.sigOutcome (validOf env) pk sig = .empty) ∨
    (schnorrCheck env pk sig = .ok (some true) ∧ Tapscript.sigOutcome (validOf env) pk sig = .good) := by
  obtain ⟨h32, h | h⟩ := h
  · obtain ⟨rfl, hx⟩ := h
    exact Or.inl ⟨rfl, schnorrCheck_nil env pk hx, by simp [Tapscript.sigOutcome, h32]⟩
  · refine Or.inr ⟨h, ?_⟩
    have := sig_ne_nil_of_true h
    simp [Tapscript.sigOutcome, h32, this, validOf, h]

theorem checksig_tap_fn_conforms (env : Env) (s alt : Stack)
    (h : ∀ pk sig r, s = pk :: sig :: r → SigConforming env pk sig) :
    liftS (op_checksig_schnorr env s) alt = (Tapscript.execSigOp (validOf env) 172 s).map (·, alt) := by
  match s with
  | [] => rfl
  | [_] => rfl
  | pk :: sig :: r =>
    rcases sigOutcome_conforming (h pk sig r rfl) with ⟨_, h1, h2⟩ | ⟨h1, h2⟩
    · simp only [op_checksig_schnorr, h1, Res.bind, Tapscript.execSigOp, if_true, h2]; rfl
    · simp only [op_checksig_schnorr, h1, Res.bind, Tapscript.execSigOp, if_true, h2]; rfl

theorem checksigverify_tap_fn_conforms (env : Env) (s alt : Stack)
    (h : ∀ pk sig r, s = pk :: sig :: r → SigConforming env pk sig) :
    liftS (op_checksigverify_schnorr env s) alt = (Tapscript.execSigOp (validOf env) 173 s).map (·, alt) := by
  match s with
  | [] => rfl
  | [_] => rfl
  | pk :: sig :: r =>
    rcases sigOutcome_conforming (h pk sig r rfl) with ⟨_, h1, h2⟩ | ⟨h1, h2⟩
    · simp only [op_checksigverify_schnorr, op_checksig_schnorr, h1, Res.bind, Tapscript.execSigOp, h2]; rfl
    · simp only [op_checksigverify_schnorr, op_checksig_schnorr, h1, Res.bind, Tapscript.execSigOp, h2]; rfl

theorem checksigadd_tap_fn_conforms (env : Env) (s alt : Stack)
    (h : ∀ pk nb sig r, s = pk :: nb :: sig :: r → nb.length ≤ 4 ∧ SigConforming env pk sig) :
    liftS (op_checksigadd_schnorr env s) alt = (Tapscript.execSigOp (validOf env) 186 s).map (·, alt) := by
  match s with
  | [] => rfl
  | [_] => rfl
  | [_, _] => rfl
  | pk :: nb :: sig :: r =>
    obtain ⟨h4, hc⟩ := h pk nb sig r rfl
    have hn4 : ¬ nb.length > 4 := by omega
    rcases sigOutcome_conforming hc with ⟨_, h1, h2⟩ | ⟨h1, h2⟩
    · simp only [op_checksigadd_schnorr, h1, Res.bind, Tapscript.execSigOp, h2, hn4, if_false,
        encodeNum_eq_serialize, decodeNum_eq_scriptNum]
      rfl
    · simp only [op_checksigadd_schnorr, h1, Res.bind, Tapscript.execSigOp, h2, hn4, if_false,
        encodeNum_eq_serialize, decodeNum_eq_scriptNum]
      rfl

/-! ### the table

What the property theorems say about single opcode numbers follows from the two walks below and
`tap_legacy_entries` (Buidl.Proofs.Interp) through `lookup_mem` / `lookup_eq_none_iff`. -/

theorem tap_keys :
    (table true).map (·.1) = 0 :: (List.range' 79 22 ++ List.range' 105 66 ++ List.range' 172 83) := by
  decide +kernel

theorem tap_success_entries : ∀ p ∈ table true, Tapscript.isOpSuccess p.1 = (p.2 == "op_success") := by
  decide +kernel

/-- the opcode numbers without an entry: the push opcodes 1..78 (never a `Cmd.op` of a parsed script), VERIF /
    VERNOTIF / ELSE / ENDIF (101..104: ELSE and ENDIF are consumed by op_if), OP_CODESEPARATOR (171) and
    everything from 255 on -/
theorem tap_lookup_none (c : Nat) :
    lookup (table true) c = none ↔ ((1 ≤ c ∧ c ≤ 78) ∨ (101 ≤ c ∧ c ≤ 104) ∨ c = 171 ∨ 255 ≤ c) := by
  rw [lookup_eq_none_iff, tap_keys]
  simp only [List.mem_cons, List.mem_append, List.mem_range'_1]
  omega

theorem tap_lookup_success (c : Nat) :
    lookup (table true) c = some "op_success" ↔ Tapscript.isOpSuccess c = true := by
  constructor
  · intro h
    rw [tap_success_entries _ (lookup_mem h)]
    rfl
  · intro hs
    cases hl : lookup (table true) c with
    | none =>
      rw [tap_lookup_none] at hl
      simp only [Tapscript.isOpSuccess, Bool.or_eq_true, Bool.and_eq_true, beq_iff_eq, decide_eq_true_eq] at hs
      omega
    | some v =>
      have hv : (v == "op_success") = true := by rw [← tap_success_entries _ (lookup_mem hl)]; exact hs
      rw [eq_of_beq hv]

theorem opIs_success {c : Nat} (hs : Tapscript.isOpSuccess c = true) : OpIs true c .success := by
  refine ⟨?_, ?_, by decide⟩
  · rw [resolve, (tap_lookup_success c).2 hs]
    rfl
  · -- no OP_SUCCESSx number is among those called with extra arguments
    simp only [Tapscript.isOpSuccess, Bool.or_eq_true, Bool.and_eq_true, beq_iff_eq, decide_eq_true_eq] at hs
    have hn : ¬ (c = 99 ∨ c = 100) ∧ ¬ (c = 107 ∨ c = 108) ∧
        ¬ (c = 172 ∨ c = 173 ∨ c = 174 ∨ c = 175 ∨ c = 177 ∨ c = 178 ∨ c = 186) := by omega
    unfold convOf
    rw [if_neg hn.1, if_neg hn.2.1, if_neg hn.2.2]
    rfl

end Buidl.Interp
