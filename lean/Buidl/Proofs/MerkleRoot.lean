/-
  Buidl.Proofs.MerkleRoot — helper.merkle_root is ComputeMerkleRoot (level by level), and that is CalcHash at the top
  node of the tree over the leaves (a recursion on the height).  The height is ⌈log₂ n⌉, characterised by the predicate
  `IsCeilLog2`, which both the specification's `ceilLog2` and Python's `(n - 1).bit_length()` satisfy, and which the
  float form `floatCeilLog2` misses at 2^29 and 2^31 (`floatCeilLog2_overshoot`).
-/
import Buidl.Model.Merkle
import Buidl.Spec.Merkle
import Buidl.Proofs.Bytes
namespace Buidl.Merkle
open Buidl Buidl.Spec.Merkle

/-! ## Merkle root: model = ComputeMerkleRoot -/

theorem dupLast_nil : dupLast [] = [] := rfl
theorem dupLast_singleton (a : Bytes) : dupLast [a] = [a, a] := by simp [dupLast]

theorem dupLast_cons_cons (a b : Bytes) (r : List Bytes) : dupLast (a :: b :: r) = a :: b :: dupLast r := by
  have e : (a :: b :: r).length % 2 = r.length % 2 := by simp only [List.length_cons]; omega
  unfold dupLast
  rw [e]
  cases r with
  | nil => simp
  | cons c r' =>
    rw [List.getLast?_cons_cons, List.getLast?_cons_cons]
    split
    · cases (c :: r').getLast? <;> rfl
    · rfl

theorem pairUp_dupLast (H : Bytes → Bytes) : ∀ l : List Bytes, pairUp H (dupLast l) = levelUp H l
  | [] => rfl
  | [a] => by rw [dupLast_singleton]; rfl
  | a :: b :: r => by
    rw [dupLast_cons_cons, pairUp, levelUp, pairUp_dupLast H r]; rfl

theorem dupLast_length_even : ∀ l : List Bytes, (dupLast l).length % 2 = 0
  | [] => rfl
  | [a] => by rw [dupLast_singleton]; simp
  | a :: b :: r => by
    rw [dupLast_cons_cons]; simp only [List.length_cons]; have := dupLast_length_even r; omega

theorem dupLast_dupLast (l : List Bytes) : dupLast (dupLast l) = dupLast l := by
  rw [dupLast, if_neg (by rw [dupLast_length_even]; decide)]

theorem levelUp_dupLast (H : Bytes → Bytes) (l : List Bytes) : levelUp H (dupLast l) = levelUp H l := by
  rw [← pairUp_dupLast, dupLast_dupLast, pairUp_dupLast]

theorem levelRoot_unfold (H : Bytes → Bytes) (l : List Bytes) (h : 1 < l.length) :
    levelRoot H l = levelRoot H (levelUp H l) := by
  match l, h with
  | a :: b :: r, _ => rw [levelRoot]

theorem levelRoot_single (H : Bytes → Bytes) (a : Bytes) : levelRoot H [a] = some a := by rw [levelRoot]

theorem merkleRootLoop_eq_levelRoot (H : Bytes → Bytes) (l : List Bytes) :
    merkleRootLoop H l = levelRoot H l := by
  induction l using levelRoot.induct H with
  | case1 => rw [merkleRootLoop, levelRoot]; rfl
  | case2 a => rw [merkleRootLoop, levelRoot]; rfl
  | case3 a b r ih =>
    rw [merkleRootLoop, dif_pos (by simp only [List.length_cons]; omega), pairUp_dupLast, ih, ← levelRoot_unfold]
    simp only [List.length_cons]; omega

theorem levelRoot_isSome (H : Bytes → Bytes) (l : List Bytes) (h : l ≠ []) : (levelRoot H l).isSome := by
  induction l using levelRoot.induct H with
  | case1 => exact absurd rfl h
  | case2 a => rw [levelRoot]; rfl
  | case3 a b r ih =>
    rw [levelRoot]; apply ih
    simp [levelUp]

/-- helper.merkle_root in terms of ComputeMerkleRoot, with the list as the call leaves it -/
theorem merkleRoot_eq (H : Bytes → Bytes) (l : List Bytes) :
    merkleRoot H l = (levelRoot H l).map (·, if l.length > 1 then dupLast l else l) := by
  rw [merkleRoot, merkleRootLoop_eq_levelRoot]

/-! ## level recursion = tree recursion (CalcHash at the top node); the height: `ceilLog2`, `bit_length`, the float form -/

theorem levelUp_take (H : Bytes → Bytes) : ∀ (k : Nat) (l : List Bytes), levelUp H (l.take (2 * k)) = (levelUp H l).take k
  | 0, l => rfl
  | k + 1, [] => rfl
  | k + 1, [a] => by simp [Nat.mul_add, levelUp]
  | k + 1, a :: b :: r => by
    simp only [Nat.mul_add, List.take_succ_cons, levelUp, levelUp_take H k r]

theorem levelUp_drop (H : Bytes → Bytes) : ∀ (k : Nat) (l : List Bytes), levelUp H (l.drop (2 * k)) = (levelUp H l).drop k
  | 0, l => rfl
  | k + 1, [] => rfl
  | k + 1, [a] => by simp [Nat.mul_add, levelUp]
  | k + 1, a :: b :: r => by
    simp only [Nat.mul_add, List.drop_succ_cons, levelUp, levelUp_drop H k r]

theorem calcHash_succ (H : Bytes → Bytes) (h : Nat) (seg : List Bytes) :
    calcHash H (h + 1) seg = H (calcHash H h (seg.take (2 ^ h)) ++
      (if seg.length > 2 ^ h then calcHash H h (seg.drop (2 ^ h)) else calcHash H h (seg.take (2 ^ h)))) := rfl

/-- one level up lowers the height by one: both children of the top node are themselves nodes one level lower -/
theorem calcHash_levelUp (H : Bytes → Bytes) : ∀ (h : Nat) (l : List Bytes), 0 < l.length →
    calcHash H (h + 1) l = calcHash H h (levelUp H l)
  | 0, [a], _ => rfl
  | 0, a :: b :: r, _ => rfl
  | h + 1, l, h0 => by
    have hp := Nat.two_pow_pos (h + 1)
    have hl : (levelUp H l).length = (l.length + 1) / 2 := levelUp_length H l
    have hc' : (levelUp H l).length > 2 ^ h ↔ l.length > 2 ^ (h + 1) := by rw [hl, Nat.pow_succ']; omega
    rw [calcHash_succ H (h + 1) l, calcHash_succ H h (levelUp H l),
      calcHash_levelUp H h (l.take (2 ^ (h + 1))) (by rw [List.length_take]; omega)]
    simp only [hc', Nat.pow_succ' (n := h), levelUp_take]
    by_cases hc : l.length > 2 ^ (h + 1)
    · have hR : 0 < (l.drop (2 ^ (h + 1))).length := by rw [List.length_drop]; omega
      rw [Nat.pow_succ'] at hc hR
      rw [if_pos hc, if_pos hc, ← levelUp_drop, calcHash_levelUp H h _ hR]
    · rw [Nat.pow_succ'] at hc
      rw [if_neg hc, if_neg hc]

/-- the height of the tree over `n` leaves: `n ≤ 2^h`, and `h` is the least such -/
def IsCeilLog2 (n h : Nat) : Prop := n ≤ 2 ^ h ∧ (h = 0 ∨ 2 ^ (h - 1) < n)

theorem IsCeilLog2.le {n a b : Nat} (ha : IsCeilLog2 n a) (hb : n ≤ 2 ^ b) : a ≤ b := by
  rcases ha.2 with h0 | h0
  · omega
  · have := (Nat.pow_lt_pow_iff_right (a := 2) (by decide)).mp (Nat.lt_of_lt_of_le h0 hb)
    omega

theorem IsCeilLog2.unique {n a b : Nat} (ha : IsCeilLog2 n a) (hb : IsCeilLog2 n b) : a = b :=
  Nat.le_antisymm (ha.le hb.1) (hb.le ha.1)

theorem IsCeilLog2.succ_iff {n h : Nat} (hn : 1 < n) : IsCeilLog2 n (h + 1) ↔ IsCeilLog2 ((n + 1) / 2) h := by
  unfold IsCeilLog2
  rw [Nat.pow_succ', Nat.add_sub_cancel]
  cases h with
  | zero => simp only [Nat.pow_zero, true_or, and_true]; omega
  | succ k => rw [Nat.add_sub_cancel, Nat.pow_succ']; omega

theorem levelRoot_eq_calcHash (H : Bytes → Bytes) : ∀ (h : Nat) (l : List Bytes), 0 < l.length → IsCeilLog2 l.length h →
    levelRoot H l = some (calcHash H h l)
  | 0, [a], _, _ => levelRoot_single H a
  | 0, _ :: _ :: _, _, hc => by simp [IsCeilLog2] at hc
  | h + 1, l, hne, hc => by
    have hlo : 1 < l.length := by
      have := Nat.two_pow_pos h
      rcases hc.2 with h1 | h1
      · omega
      · rw [Nat.add_sub_cancel] at h1; omega
    rw [levelRoot_unfold H l hlo, calcHash_levelUp H h l (by omega)]
    apply levelRoot_eq_calcHash H h
    · rw [levelUp_length]; omega
    · rw [levelUp_length]; exact (IsCeilLog2.succ_iff hlo).mp hc

theorem ceilLog2Aux_spec (n : Nat) : ∀ (fuel h : Nat), n ≤ 2 ^ (h + fuel) → (h = 0 ∨ 2 ^ (h - 1) < n) →
    IsCeilLog2 n (ceilLog2Aux n fuel h)
  | 0, h, h1, h2 => ⟨h1, h2⟩
  | f + 1, h, h1, h2 => by
    unfold ceilLog2Aux
    split
    · next hle => exact ⟨hle, h2⟩
    · next hgt => exact ceilLog2Aux_spec n f (h + 1) (by rwa [Nat.add_right_comm]) (Or.inr (by rw [Nat.add_sub_cancel]; omega))

theorem ceilLog2_spec (n : Nat) : IsCeilLog2 n (ceilLog2 n) :=
  ceilLog2Aux_spec n n 0 (by rw [Nat.zero_add]; exact Nat.le_of_lt Nat.lt_two_pow_self) (Or.inl rfl)

theorem levelRoot_eq_treeRoot (H : Bytes → Bytes) (l : List Bytes) (h : l ≠ []) :
    levelRoot H l = some (treeRoot H l) :=
  levelRoot_eq_calcHash H _ l (List.length_pos_iff.mpr h) (ceilLog2_spec l.length)

theorem bitLength_isCeilLog2 : ∀ m : Nat, IsCeilLog2 (m + 1) (bitLength m)
  | 0 => by rw [bitLength]; exact ⟨Nat.le_refl _, Or.inl rfl⟩
  | m + 1 => by
    rw [bitLength, IsCeilLog2.succ_iff (by omega)]
    have := bitLength_isCeilLog2 ((m + 1) / 2)
    rwa [show (m + 1 + 1 + 1) / 2 = (m + 1) / 2 + 1 by omega]
decreasing_by omega

theorem bitLength_pred_isCeilLog2 (n : Nat) (hn : 0 < n) : IsCeilLog2 n (bitLength (n - 1)) := by
  have := bitLength_isCeilLog2 (n - 1)
  rwa [Nat.sub_add_cancel hn] at this

theorem isCeilLog2_two_pow (k : Nat) : IsCeilLog2 (2 ^ k) k := by
  refine ⟨Nat.le_refl _, ?_⟩
  cases k with
  | zero => exact .inl rfl
  | succ k => exact .inr (by rw [Nat.add_sub_cancel]; exact Nat.pow_lt_pow_right (by decide) (Nat.lt_succ_self k))

/-- at the two totals where the float quotient overshoots an integer, the float form is not ⌈log₂⌉ -/
theorem floatCeilLog2_overshoot {k : Nat} (h : 2 ^ k = 2 ^ 29 ∨ 2 ^ k = 2 ^ 31) :
    ¬ IsCeilLog2 (2 ^ k) (floatCeilLog2 (2 ^ k)) := by
  rw [floatCeilLog2, (bitLength_pred_isCeilLog2 _ (Nat.two_pow_pos k)).unique (isCeilLog2_two_pow k), if_pos h]
  intro hc
  have := hc.unique (isCeilLog2_two_pow k)
  omega

end Buidl.Merkle
