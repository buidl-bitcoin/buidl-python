/-
  Buidl.Proofs.Combinations — `sorted` as a permutation, the model of `itertools.combinations`
  (Buidl.MuSig.combinations), the halving of TapBranch.combine, the leaves of the k-of-n tree generators and
  the shape of the MultiSigTapScript commands.
-/
import Mathlib.Data.Nat.Choose.Basic
import Mathlib.Data.List.Nodup
import Mathlib.Data.List.Forall2
import Mathlib.Data.List.Sublists
import Buidl.Proofs.ListM
import Buidl.Proofs.Taproot
import Buidl.Model.MuSig

namespace Buidl.MuSig
open Buidl Buidl.EC Buidl.Script Buidl.Taproot

/-! ## `sorted` returns a permutation -/

theorem insertBytes_perm (x : Bytes) (l : List Bytes) : (insertBytes x l).Perm (x :: l) := by
  induction l with
  | nil => exact List.Perm.refl _
  | cons y ys ih =>
    unfold insertBytes
    split
    · exact List.Perm.refl _
    · exact (List.Perm.cons y ih).trans (List.Perm.swap x y ys)

theorem sortBytes_perm (l : List Bytes) : (sortBytes l).Perm l := by
  induction l with
  | nil => exact List.Perm.refl _
  | cons x xs ih => exact (insertBytes_perm x _).trans (List.Perm.cons x ih)

/-! ## itertools.combinations -/

variable {α : Type}

/-- Python yields the combinations that contain the head first, Mathlib's `sublistsLen` last -/
theorem combinations_perm : ∀ (l : List α) (k : ℕ), (combinations l k).Perm (List.sublistsLen k l)
  | [], 0 => .refl _
  | _ :: _, 0 => .refl _
  | [], _ + 1 => .refl _
  | x :: xs, k + 1 => by
    rw [combinations, List.sublistsLen_succ_cons]
    exact List.perm_append_comm.trans ((combinations_perm xs (k + 1)).append ((combinations_perm xs k).map _))

theorem mem_combinations (l : List α) (k : ℕ) (s : List α) : s ∈ combinations l k ↔ s.Sublist l ∧ s.length = k :=
  (combinations_perm l k).mem_iff.trans List.mem_sublistsLen

theorem combinations_length (l : List α) (k : ℕ) : (combinations l k).length = Nat.choose l.length k :=
  (combinations_perm l k).length_eq.trans (List.length_sublistsLen k l)

theorem combinations_nodup (l : List α) (k : ℕ) (h : l.Nodup) : (combinations l k).Nodup :=
  (combinations_perm l k).nodup_iff.mpr (List.nodup_sublistsLen k h)

theorem combinations_subset {l : List α} {k : ℕ} {s : List α} (h : s ∈ combinations l k) (hl : l.Nodup) :
    s.Nodup ∧ (∀ a ∈ s, a ∈ l) ∧ s.length = k := by
  obtain ⟨h1, h2⟩ := (mem_combinations l k s).mp h
  exact ⟨h1.nodup hl, fun a ha => h1.subset ha, h2⟩

/-! ## TapBranch.combine -/

theorem combineAux_induction (C : List Tree → Tree → Prop) (single : ∀ t, C [t] t)
    (halves : ∀ nodes l r, 2 ≤ nodes.length → C (nodes.take (nodes.length / 2)) l →
      C (nodes.drop (nodes.length / 2)) r → C nodes (.branch l r)) :
    ∀ (fuel : ℕ) (nodes : List Tree) (t : Tree), combineAux fuel nodes = some t → C nodes t
  | 0, _, _, h => nomatch h
  | _ + 1, [], _, h => nomatch h
  | _ + 1, [x], t, h => by cases h; exact single x
  | fuel + 1, a :: b :: rest, t, h => by
    obtain ⟨l, hl, h⟩ := Option.bind_eq_some_iff.mp (show (combineAux fuel _).bind _ = some t from h)
    obtain ⟨r, hr, h⟩ := Option.bind_eq_some_iff.mp h
    cases h
    exact halves _ l r (Nat.le_add_left 2 _) (combineAux_induction C single halves fuel _ l hl)
      (combineAux_induction C single halves fuel _ r hr)

theorem combine_some {nodes : List Tree} {t : Tree} (h : combine nodes = some t) :
    t.leaves = (nodes.map Tree.leaves).flatten := by
  refine combineAux_induction (fun nodes t => t.leaves = (nodes.map Tree.leaves).flatten)
    (fun t => (List.append_nil _).symm) (fun nodes l r _ hl hr => ?_) _ nodes t h
  rw [Tree.leaves, hl, hr, ← List.flatten_append, ← List.map_append, List.take_append_drop]

/-- the fuel suffices: both halves of a list of at least two nodes are non-empty and shorter -/
theorem combineAux_isSome : ∀ (fuel : ℕ) (nodes : List Tree), nodes ≠ [] → nodes.length ≤ fuel →
    ∃ t, combineAux fuel nodes = some t
  | 0, nodes, hne, hlen => absurd (List.length_eq_zero_iff.mp (Nat.le_zero.mp hlen)) hne
  | _ + 1, [], hne, _ => absurd rfl hne
  | _ + 1, [t], _, _ => ⟨t, rfl⟩
  | fuel + 1, a :: b :: rest, _, hlen => by
    have h2 : 2 ≤ (a :: b :: rest).length := Nat.le_add_left 2 _
    show ∃ t, (combineAux fuel _).bind _ = some t
    generalize a :: b :: rest = nodes at hlen h2 ⊢
    obtain ⟨tl, h1⟩ := combineAux_isSome fuel (nodes.take (nodes.length / 2))
      (List.ne_nil_of_length_pos (by rw [List.length_take]; omega)) (by rw [List.length_take]; omega)
    obtain ⟨tr, h2⟩ := combineAux_isSome fuel (nodes.drop (nodes.length / 2))
      (List.ne_nil_of_length_pos (by rw [List.length_drop]; omega)) (by rw [List.length_drop]; omega)
    exact ⟨.branch tl tr, by rw [h1, h2]; rfl⟩

theorem combine_leaves (nodes : List Tree) (hne : nodes ≠ []) :
    ∃ t, combine nodes = some t ∧ t.leaves = (nodes.map Tree.leaves).flatten := by
  obtain ⟨t, h⟩ := combineAux_isSome nodes.length nodes hne (Nat.le_refl _)
  exact ⟨t, h, combine_some h⟩

theorem combine_nil : combine [] = none := rfl

/-! ## the tree generators of TapRootMultiSig -/

theorem mapM'_eq_mapM {β γ : Type} (f : β → Option γ) (l : List β) : mapM' f l = l.mapM f := by
  induction l with
  | nil => rfl
  | cons a l ih => rw [mapM', ih, List.mapM_cons]

theorem mapM'_map_some {β γ δ : Type} (f : β → Option γ) (gm : γ → δ) (l : List β) (r : List δ)
    (h : mapM' (fun a => (f a).map gm) l = some r) :
    ∃ cs : List γ, r = cs.map gm ∧ List.Forall₂ (fun a c => f a = some c) l cs := by
  rw [mapM'_eq_mapM, List.mapM_option_map] at h
  obtain ⟨cs, hcs, rfl⟩ := Option.map_eq_some_iff.mp h
  have hmap := List.mapM_eq_some_iff_map.mp hcs
  rw [← List.forall₂_eq_eq_eq, List.forall₂_map_left_iff, List.forall₂_map_right_iff] at hmap
  exact ⟨cs, rfl, hmap⟩

theorem combineAux_depth (e : ℕ) {fuel : ℕ} {nodes : List Tree} {t : Tree} (h : combineAux fuel nodes = some t) :
    (∀ n ∈ nodes, n.depth ≤ e) → ∀ d, nodes.length ≤ 2 ^ d → t.depth ≤ d + e := by
  refine combineAux_induction
    (fun nodes t => (∀ n ∈ nodes, n.depth ≤ e) → ∀ d, nodes.length ≤ 2 ^ d → t.depth ≤ d + e)
    (fun t h0 d _ => Nat.le_trans (h0 t List.mem_cons_self) (Nat.le_add_left e d))
    (fun nodes l r h2 hl hr h0 d hd => ?_) fuel nodes t h
  cases d with
  | zero => omega
  | succ d =>
    have hpow : 2 ^ (d + 1) = 2 * 2 ^ d := by rw [Nat.pow_succ]; omega
    have h1 := hl (fun n hn => h0 n (List.mem_of_mem_take hn)) d (by rw [List.length_take]; omega)
    have h2 := hr (fun n hn => h0 n (List.mem_of_mem_drop hn)) d (by rw [List.length_drop]; omega)
    simp only [Tree.depth]; omega

theorem leaves_of_leafOfCmds {β : Type} (f : β → List Cmd) (l : List β) :
    ((l.map fun a => leafOfCmds (f a)).map Tree.leaves).flatten = l.map fun a => ({ script := { cmds := f a } } : Leaf) := by
  induction l with
  | nil => rfl
  | cons c t ih => rw [List.map_cons, List.map_cons, List.flatten_cons, ih]; rfl

/-- the shape of `multi_leaf_tree` and `musig_tree`: one leaf script `c m` per element on which `f` succeeds, then
    `TapBranch.combine` -/
theorem leafTree_some {β γ : Type} (f : β → Option γ) (c : γ → List Cmd) {l : List β} {t : Tree}
    (h : (mapM' (fun a => (f a).map fun m => leafOfCmds (c m)) l).bind combine = some t) :
    ∃ ms : List γ, List.Forall₂ (fun a m => f a = some m) l ms ∧
      t.leaves = ms.map (fun m => ({ script := { cmds := c m } } : Leaf)) ∧
      ∀ d, l.length ≤ 2 ^ d → t.depth ≤ d := by
  obtain ⟨ls, hl, h⟩ := Option.bind_eq_some_iff.mp h
  obtain ⟨ms, rfl, hms⟩ := mapM'_map_some f _ l ls hl
  refine ⟨ms, hms, (combine_some h).trans (leaves_of_leafOfCmds c ms), fun d hd => ?_⟩
  refine combineAux_depth 0 h (fun n hn => ?_) d (by rw [List.length_map, ← hms.length_eq]; exact hd)
  obtain ⟨m, _, rfl⟩ := List.mem_map.mp hn
  exact Nat.le_refl 0

theorem generated_tree_depth {H : Hashes} {T : TapRootMultiSig} {lock seq : Option ℕ} {t : Tree} {d : ℕ}
    (h : multiLeafTree T lock seq = some t ∨ musigTree H T lock seq = some t)
    (hc : Nat.choose T.points.length T.k ≤ 2 ^ d) : t.depth ≤ d := by
  rw [← combinations_length] at hc
  rcases h with h | h
  · obtain ⟨_, _, _, hd⟩ := leafTree_some (fun pk => multiSigCmds pk T.k lock seq) id h
    exact hd d hc
  · obtain ⟨_, _, _, hd⟩ := leafTree_some (fun pk => musigNew H pk lock seq) (·.cmds) h
    exact hd d hc

theorem forall₂_length {β γ : Type} {Rel : β → γ → Prop} {l : List β} {r : List γ} (h : List.Forall₂ Rel l r) :
    r.length = l.length := h.length_eq.symm

/-! ## different subsets give different MultiSigTapScript leaves -/

theorem checksigAdds_length (a : List Bytes) : (checksigAdds a).length = 2 * a.length := by
  induction a with
  | nil => rfl
  | cons x xs ih => simp only [checksigAdds, List.length_cons, ih]; omega

theorem multiSigCmds_some {points : List Pt} {k : ℕ} {lock seq : Option ℕ} {c : List Cmd}
    (h : multiSigCmds points k lock seq = some c) :
    ∃ pre x0 rest, timelockCmds lock seq = some pre ∧ sortBytes (points.map xonly) = x0 :: rest ∧
      ((points.length > 1 ∧ ∃ kop, numberToOpCode k = some kop ∧ c = pre ++ [.push x0, .op Gen.multiSigOpChecksig] ++ checksigAdds rest ++
          [.op kop, .op Gen.multiSigOpNumEqual]) ∨
       (¬ points.length > 1 ∧ c = pre ++ [.push x0, .op Gen.multiSigOpChecksig])) := by
  obtain ⟨pre, hpre, h⟩ := Option.bind_eq_some_iff.mp h
  split at h
  · cases h
  · next x0 rest hso =>
    obtain ⟨_, _, h⟩ := Option.bind_eq_some_iff.mp h
    refine ⟨pre, x0, rest, hpre, hso, ?_⟩
    split at h
    · next hm =>
      obtain ⟨kop, hk, h⟩ := Option.bind_eq_some_iff.mp h
      exact Or.inl ⟨hm, kop, hk, (Option.some.inj h).symm⟩
    · next hm => exact Or.inr ⟨hm, (Option.some.inj h).symm⟩

def pushes (c : List Cmd) : List Bytes := c.filterMap fun | .push x => some x | .op _ => none

theorem pushes_append (a b : List Cmd) : pushes (a ++ b) = pushes a ++ pushes b := List.filterMap_append

theorem pushes_checksigAdds : ∀ (xs : List Bytes), pushes (checksigAdds xs) = xs
  | [] => rfl
  | x :: xs => congrArg (x :: ·) (pushes_checksigAdds xs)

theorem multiSigCmds_pushes {points : List Pt} {k : ℕ} {lock seq : Option ℕ} {c : List Cmd}
    (h : multiSigCmds points k lock seq = some c) :
    ∃ pre, timelockCmds lock seq = some pre ∧ pushes c = pushes pre ++ sortBytes (points.map xonly) := by
  obtain ⟨pre, x0, rest, hpre, hso, hc⟩ := multiSigCmds_some h
  refine ⟨pre, hpre, ?_⟩
  rcases hc with ⟨_, kop, _, rfl⟩ | ⟨hm, rfl⟩
  · rw [hso, pushes_append, pushes_append, pushes_append, pushes_checksigAdds, List.append_assoc, List.append_assoc]
    exact congrArg (fun l => pushes pre ++ x0 :: l) (List.append_nil rest)
  · -- a single point: the sorted list is `[x0]`
    have hlen := (sortBytes_perm (points.map xonly)).length_eq
    rw [hso, List.length_cons, List.length_map] at hlen
    rw [hso, pushes_append, List.length_eq_zero_iff.mp (by omega : rest.length = 0)]
    rfl

theorem multiSigCmds_sorted_eq {s₁ s₂ : List Pt} {k : ℕ} {lock seq : Option ℕ} {c : List Cmd}
    (h₁ : multiSigCmds s₁ k lock seq = some c) (h₂ : multiSigCmds s₂ k lock seq = some c) :
    sortBytes (s₁.map xonly) = sortBytes (s₂.map xonly) := by
  obtain ⟨pre, hpre, e₁⟩ := multiSigCmds_pushes h₁
  obtain ⟨pre', hpre', e₂⟩ := multiSigCmds_pushes h₂
  cases hpre.symm.trans hpre'
  exact List.append_cancel_left (e₁.symm.trans e₂)

end Buidl.MuSig
