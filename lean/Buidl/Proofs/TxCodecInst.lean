/-
  Buidl.Proofs.TxCodecInst — the transaction model (Buidl.Model.Tx, property C04) satisfies the laws the
  PSBT model (Buidl.Model.PsbtCodec, properties C10 / C11) assumes of its abstract `TxCodec`.

  `TxCodec` itself is a record of functions; its laws appear as fields of the well-formedness
  predicates of Buidl.Proofs.PsbtCodec (`GlobalWF.tx`, `InMapWF.prevTx`, `PsbtMapWF.insSame / outsSame`).
  This file defines `psbtCodec`, the instance the PSBT drivers use
  (`Buidl.PsbtDrv.txCodec = psbtCodec Hash.hash256 PsbtDrv.finalSer`, by `rfl`: `C10Tx.drv_codec`), with what is
  said of it besides those laws; the laws themselves are the theorems of Buidl.Props.C10Tx.
-/
import Buidl.Proofs.TxParse
import Buidl.Proofs.PsbtCodec
import Buidl.Drv.PsbtCommon
namespace Buidl.Tx
open Buidl Buidl.Script Buidl.Psbt

/-- the `TxCodec` made of Model/Tx.lean's functions (`fin` = `PSBT.final_tx`'s serialiser, which no law
    mentions) -/
def psbtCodec (hash256 : Bytes → Bytes) (fin : Tx → List (Option Script × Option (List Bytes)) → Option Bytes) :
    TxCodec Tx where
  parseLegacy := Tx.parseLegacy
  parse := Tx.parse
  serialize := Tx.serialize
  serializeLegacy := Tx.serializeLegacy
  hash := Tx.hash hash256
  ins t := t.ins.map fun i => { prevTx := i.prevTx, prevIndex := i.prevIndex, scriptSigEmpty := i.scriptSig.cmds.isEmpty }
  outs t := t.outs.map fun o => { amount := o.amount, spk := o.scriptPubkey }
  finalSerialize := fin

variable (hash256 : Bytes → Bytes) (fin : Tx → List (Option Script × Option (List Bytes)) → Option Bytes)

theorem canon_isEmpty (cs : List Cmd) : (canon cs).isEmpty = cs.isEmpty := by
  cases cs <;> rfl

theorem codec_outs_getElem (t : Tx) (idx : Nat) (o : TxOut) (h : t.outs[idx]? = some o) :
    ((psbtCodec hash256 fin).outs t)[idx]? = some { amount := o.amount, spk := o.scriptPubkey } := by
  simp [psbtCodec, h]

/-- `C.hash` is the transaction id of C04 (so that C11's "prev_tx hash matches the outpoint" is about the
    witness-stripped double-SHA256) -/
theorem codec_hash (t : Tx) : (psbtCodec hash256 fin).hash t = t.hash hash256 := rfl

/-- `t` came out of `parse_legacy`; the round trip is `serialize` / `parse` (the `InMapWF.prevTx` shape) -/
theorem codec_global_tx_parsed (s r : Bytes) (t : Tx) (h : (psbtCodec hash256 fin).parseLegacy s = some (t, r))
    (hr : Reenc t) :
    ∃ b, (psbtCodec hash256 fin).serialize t = some b ∧
      ∀ rest, (psbtCodec hash256 fin).parse (b ++ rest) = some (t, rest) := by
  simp only [psbtCodec] at h ⊢
  exact parsedTx_fix t (parseLegacy_yields _ _ h).1 hr

end Buidl.Tx
