/-
  Buidl.Proofs.HDPath — Mathlib-free helper lemmas for C08: path strings, traverse as one function of the loop
  of either key class, one derivation step of either class with the extracted comparisons evaluated, HMAC input,
  fingerprint and master key against Buidl.Spec.BIP32 (the `child` step: Buidl.Proofs.HD), and the 78-byte codec
  relative to the Base58Check round trip.
-/
import Buidl.Model.HD
import Buidl.Spec.BIP32
import Buidl.Proofs.Bytes
import Buidl.Proofs.SecpConst
import Buidl.Proofs.PyStr
namespace Buidl.HD
open Buidl Buidl.EC Buidl.PyStr

/-! ## Python strings -/

theorem components_append (p rest : Str) :
    components (p ++ '/' :: rest) = components p ++ split '/' rest := by
  unfold components
  rw [split_append]
  cases hs : split '/' p with
  | nil => exact absurd hs (split_ne_nil _ p)
  | cons h t => simp

theorem components_m_slash (rest : Str) : components ('m' :: '/' :: rest) = split '/' rest := by
  simp [components, split]

theorem normPath_append (a b : Str) : normPath (a ++ b) = normPath a ++ normPath b := by
  simp [normPath, lower, replaceChar]

theorem normPath_cons_slash (rest : Str) : normPath ('/' :: rest) = '/' :: normPath rest := by
  simp [normPath, lower, replaceChar]

theorem normPath_m_slash (rest : Str) : normPath ('m' :: '/' :: rest) = 'm' :: '/' :: normPath rest := by
  simp [normPath, lower, replaceChar]

theorem normPath_M (rest : Str) : normPath ('M' :: rest) = normPath ('m' :: rest) := by
  simp [normPath, lower, replaceChar]

/-! ## paths accepted by combine_bip32_paths -/

theorem valid_forgive_shape {s : Str} (h : isValidBip32Path s = true) :
    forgive s = ['m'] ∨ ∃ rest, forgive s = 'm' :: '/' :: rest := by
  unfold isValidBip32Path at h
  simp only [] at h
  by_cases h1 : forgive s = ['m']
  · exact Or.inl h1
  · rw [if_neg h1] at h
    by_cases h2 : startsWith ['m', '/'] (forgive s) = true
    · obtain ⟨rest, hr⟩ := List.isPrefixOf_iff_prefix.mp h2
      exact Or.inr ⟨rest, hr.symm⟩
    · rw [if_pos h2] at h; cases h

theorem combinePaths_eq_some_iff {p s full : Str} :
    combinePaths p s = some full ↔ isValidBip32Path p = true ∧ isValidBip32Path s = true ∧
      full = if forgive p = ['m'] then forgive s else if forgive s = ['m'] then forgive p
             else forgive p ++ '/' :: (forgive s).drop 2 := by
  simp only [combinePaths, Option.ite_none_left_eq_some, Decidable.not_not, ← apply_ite some, Option.some.injEq,
    eq_comm (a := full)]

/-! ## traverse over either key class

  `HDPrivateKey.traverse` and `HDPublicKey.traverse` are the same function of their loops; what is proved about
  paths needs of the loop only that it is a fold: it returns its start on no components and runs over an
  appended list in two stages. -/

def traverseWith {κ : Type} (w : κ → List Str → Option κ) (k : κ) (path : Str) : Option κ :=
  if ¬ startsWith ['m'] (normPath path) then none else w k (components (normPath path))

section traverseWith
variable {κ : Type} {w : κ → List Str → Option κ}

theorem traverseWith_M (k : κ) (rest : Str) : traverseWith w k ('M' :: rest) = traverseWith w k ('m' :: rest) := by
  simp only [traverseWith, normPath_M]

theorem traverseWith_of_m (k : κ) {path : Str} (hm : startsWith ['m'] (normPath path) = true) :
    traverseWith w k path = w k (components (normPath path)) := by
  rw [traverseWith, if_neg fun h => h hm]

theorem traverseWith_some {k k' : κ} {path : Str} (h : traverseWith w k path = some k') :
    w k (components (normPath path)) = some k' :=
  (Option.ite_none_left_eq_some.mp h).2

theorem traverseWith_none {k : κ} {path : Str} (h : w k (components (normPath path)) = none) :
    traverseWith w k path = none := by
  unfold traverseWith
  split
  · rfl
  · exact h

theorem traverseWith_m (hnil : ∀ k, w k [] = some k) (k : κ) : traverseWith w k ['m'] = some k := by
  simp [traverseWith, normPath, lower, replaceChar, startsWith, components, split, hnil, List.isPrefixOf]

theorem traverseWith_append (happ : ∀ k cs ds, w k (cs ++ ds) = (w k cs).bind fun k' => w k' ds) (k : κ) (p rest : Str) :
    traverseWith w k (p ++ '/' :: rest)
      = (traverseWith w k p).bind fun k' => traverseWith w k' ('m' :: '/' :: rest) := by
  have hm : ∀ k', traverseWith w k' ('m' :: '/' :: rest) = w k' (split '/' (normPath rest)) := by
    intro k'
    simp [traverseWith, normPath_m_slash, components_m_slash, startsWith]
  have hsw : startsWith ['m'] (normPath (p ++ '/' :: rest)) = startsWith ['m'] (normPath p) := by
    cases p <;> simp [startsWith, normPath, lower, replaceChar, List.isPrefixOf]
  simp only [hm]
  simp only [traverseWith, hsw]
  by_cases hs : startsWith ['m'] (normPath p) = true
  · simp only [hs, not_true_eq_false, if_false]
    rw [normPath_append, normPath_cons_slash, components_append, happ]
  · simp [hs]

theorem traverseWith_combine (hnil : ∀ k, w k [] = some k)
    (happ : ∀ k cs ds, w k (cs ++ ds) = (w k cs).bind fun k' => w k' ds) (k : κ) {p s full : Str}
    (h : combinePaths p s = some full) :
    traverseWith w k full = (traverseWith w k (forgive p)).bind fun k' => traverseWith w k' (forgive s) := by
  obtain ⟨-, hv, rfl⟩ := combinePaths_eq_some_iff.mp h
  by_cases hp1 : forgive p = ['m']
  · rw [if_pos hp1, hp1, traverseWith_m hnil, Option.bind_some]
  · rw [if_neg hp1]
    rcases valid_forgive_shape hv with hs1 | ⟨rest, hs1⟩
    · rw [if_pos hs1, hs1]
      simp only [traverseWith_m hnil]
      cases traverseWith w k (forgive p) <;> rfl
    · rw [hs1, if_neg (by simp)]
      exact traverseWith_append happ k (forgive p) rest

end traverseWith

/-! ## one step of derivation

  Each function of the model once with the extracted comparisons evaluated.  For an index below 2^31 both `child`
  functions start from the same HMAC output and parent fingerprint (`childHmac`) and differ in what they make of it. -/

theorem mkSecret_eq (s : Nat) : mkSecret s = if 1 ≤ s ∧ s < N then some s else none := by
  have := N_pos
  unfold mkSecret
  by_cases h : 1 ≤ s ∧ s < N
  · rw [if_pos h, if_neg (by omega), if_neg (by omega)]
  · rw [if_neg h]
    split
    · rfl
    · rw [if_pos (by omega)]

section step
variable (hmac : Bytes → Bytes → Bytes) (h160 : Bytes → Bytes)

theorem HDPriv.childI_eq (k : HDPriv) (i : Int) :
    k.childI hmac h160 i = if i < 0 then none else k.child hmac h160 i.toNat := by
  simp only [HDPriv.childI, Gen.hdPrivNegOp, cmpOpI_Lt, decide_eq_true_eq, Gen.hdPrivNegT, Int.natCast_zero]

theorem HDPub.childI_eq (p : HDPub) (i : Int) :
    p.childI hmac h160 i = if 0 ≤ i ∧ i < 2 ^ 31 then p.child hmac h160 i.toNat else none := by
  simp only [HDPub.childI, Gen.hdPubHardOp, Gen.hdPubNegOp, cmpOpI_GtE, cmpOpI_Lt, decide_eq_true_eq, Gen.hdPubHardT,
    Gen.hdPubNegT]
  by_cases h1 : i ≥ ((2147483648 : Nat) : Int)
  · rw [if_pos h1, if_neg (by omega)]
  · by_cases h2 : i < ((0 : Nat) : Int)
    · rw [if_neg h1, if_pos h2, if_neg (by omega)]
    · rw [if_neg h1, if_neg h2, if_pos (by omega)]

theorem HDPriv.childData_eq (k : HDPriv) (i : Nat) :
    k.childData i
      = if 2 ^ 31 ≤ i then (natToBE k.secret 33).bind fun a => (natToBE i 4).bind fun b => some (a ++ b)
        else (sec k.pub.point true).bind fun a => (natToBE i 4).bind fun b => some (a ++ b) := by
  simp only [HDPriv.childData, Gen.hdPrivHardOp, cmpOp_GtE, decide_eq_true_eq, Gen.hdPrivHardT, Nat.reducePow, ge_iff_le]
  rfl

def childHmac (p : HDPub) (i : Nat) : Option (Bytes × Bytes) :=
  (sec p.point true).bind fun a =>
    (natToBE i 4).bind fun b => (p.fingerprint h160).map fun fp => (hmac p.chainCode (a ++ b), fp)

/-- the public child for HMAC output `hf.1` and parent fingerprint `hf.2` -/
def HDPub.childOf (p : HDPub) (i : Nat) (hf : Bytes × Bytes) : HDPub :=
  { point := saddInt p.point ((beToNat (hf.1.take 32) : Nat) : Int), chainCode := hf.1.drop 32, depth := p.depth + 1,
    parentFp := hf.2, childNumber := i, network := p.network, pubVersion := p.pubVersion }

/-- the private child with secret `s` for HMAC output `hf.1` and parent fingerprint `hf.2` -/
def HDPriv.childOf (k : HDPriv) (i : Nat) (hf : Bytes × Bytes) (s : Nat) : HDPriv :=
  { secret := s, chainCode := hf.1.drop 32, depth := k.depth + 1, parentFp := hf.2, childNumber := i,
    network := k.network, privVersion := k.privVersion, pubVersion := k.pubVersion }

theorem HDPub.child_eq (p : HDPub) (i : Nat) :
    p.child hmac h160 i = if 2 ^ 31 ≤ i then none else (childHmac hmac h160 p i).map (p.childOf i) := by
  simp only [HDPub.child, Gen.hdPubHardOp, cmpOp_GtE, decide_eq_true_eq, Gen.hdPubHardT, Gen.hdPubChildIndexW, childHmac]
  by_cases h : 2 ^ 31 ≤ i
  · rw [if_pos h, if_pos (by omega)]
  · rw [if_neg h, if_neg (by omega)]
    cases sec p.point true with
    | none => rfl
    | some a =>
      cases natToBE i 4 with
      | none => rfl
      | some b =>
        simp only [Option.bind_some, HDPub.childFromData]
        cases p.fingerprint h160 <;> rfl

theorem HDPriv.child_of_lt (k : HDPriv) {i : Nat} (hi : i < 2 ^ 31) :
    k.child hmac h160 i = (childHmac hmac h160 k.pub i).bind fun hf =>
      (mkSecret ((beToNat (hf.1.take 32) + k.secret) % N)).map (k.childOf i hf) := by
  have hcc : k.pub.chainCode = k.chainCode := rfl
  rw [HDPriv.child, HDPriv.childData_eq, if_neg (by omega)]
  simp only [childHmac, hcc]
  cases sec k.pub.point true with
  | none => rfl
  | some a =>
    cases natToBE i 4 with
    | none => rfl
    | some b =>
      simp only [Option.bind_some, HDPriv.childFromData, HDPriv.fingerprint, Gen.hdPrivChildKeyHi, Gen.hdPrivChildChainLo]
      cases k.pub.fingerprint h160 with
      | none => cases mkSecret _ <;> rfl
      | some fp =>
        simp only [Option.map_some, Option.bind_some]
        cases mkSecret _ <;> rfl

end step

/-! ## the loops of traverse -/

section walk
variable (hmac : Bytes → Bytes → Bytes) (h160 : Bytes → Bytes)

theorem priv_walk_eq_foldlM (k : HDPriv) (cs : List Str) :
    k.walk hmac h160 cs = cs.foldlM (fun k c => (privIndex c).bind (k.childI hmac h160)) k := by
  induction cs generalizing k with
  | nil => simp [HDPriv.walk]
  | cons c cs ih =>
    simp only [HDPriv.walk, List.foldlM_cons, Option.bind_eq_bind, Option.bind_assoc]
    congr 1; funext i; congr 1; funext k'; exact ih k'

theorem pub_walk_eq_foldlM (p : HDPub) (cs : List Str) :
    p.walk hmac h160 cs = cs.foldlM (fun p c => (pubIndex c).bind (p.childI hmac h160)) p := by
  induction cs generalizing p with
  | nil => simp [HDPub.walk]
  | cons c cs ih =>
    simp only [HDPub.walk, List.foldlM_cons, Option.bind_eq_bind, Option.bind_assoc]
    congr 1; funext i; congr 1; funext p'; exact ih p'

theorem priv_walk_append (k : HDPriv) (cs ds : List Str) :
    k.walk hmac h160 (cs ++ ds) = (k.walk hmac h160 cs).bind (fun k' => k'.walk hmac h160 ds) := by
  simp only [priv_walk_eq_foldlM, List.foldlM_append, Option.bind_eq_bind]

theorem pub_walk_append (p : HDPub) (cs ds : List Str) :
    p.walk hmac h160 (cs ++ ds) = (p.walk hmac h160 cs).bind (fun p' => p'.walk hmac h160 ds) := by
  simp only [pub_walk_eq_foldlM, List.foldlM_append, Option.bind_eq_bind]

theorem priv_traverse_append (k : HDPriv) (p rest : Str) :
    k.traverse hmac h160 (p ++ '/' :: rest)
      = (k.traverse hmac h160 p).bind (fun k' => k'.traverse hmac h160 ('m' :: '/' :: rest)) :=
  traverseWith_append (priv_walk_append hmac h160) k p rest

theorem pub_traverse_append (k : HDPub) (p rest : Str) :
    k.traverse hmac h160 (p ++ '/' :: rest)
      = (k.traverse hmac h160 p).bind (fun k' => k'.traverse hmac h160 ('m' :: '/' :: rest)) :=
  traverseWith_append (pub_walk_append hmac h160) k p rest

theorem pubIndex_some {c : Str} {i : Int} (h : pubIndex c = some i) : privIndex c = some i := by
  unfold pubIndex at h
  unfold privIndex
  split at h
  · cases h
  · rename_i hne
    rw [if_neg hne]; exact h

theorem pub_walk_reject_of_step (p : HDPub) {c : Str} {cs : List Str} (hc : c ∈ cs)
    (hrej : ∀ q : HDPub, (pubIndex c).bind (q.childI hmac h160) = none) : p.walk hmac h160 cs = none := by
  induction cs generalizing p with
  | nil => cases hc
  | cons d cs ih =>
    rw [pub_walk_eq_foldlM, List.foldlM_cons]
    cases hq : (pubIndex d).bind (p.childI hmac h160) with
    | none => rfl
    | some p' =>
      rcases List.mem_cons.mp hc with rfl | hc
      · rw [hrej p] at hq; cases hq
      · rw [Option.bind_eq_bind, Option.bind_some, ← pub_walk_eq_foldlM]
        exact ih p' hc

end walk

/-! ## the one group-law fact public / private consistency needs
    (`groupAdd` in Buidl.Proofs.HD proves it from Buidl.Proofs.Secp256k1, and consistency from it) -/

def GroupAdd : Prop :=
  ∀ a b : Nat, smul (((a + b) % N : Nat) : Int) G = sadd (smul (b : Int) G) (smul (a : Int) G)

/-! ## byte-level facts used by the codec and the specification -/

theorem natToBE'_succ_of_lt {w n : Nat} (h : n < 256 ^ w) : natToBE' (w + 1) n = 0 :: natToBE' w n := by
  rw [natToBE'_add, Nat.div_eq_of_lt h]
  rfl

theorem sec_eq_serP (X : Pt) : sec X true = Spec.BIP32.serP X := by
  cases X with
  | inf => rfl
  | aff x y =>
    simp only [sec, Spec.BIP32.serP, Spec.BIP32.ser256, if_true]
    rcases Nat.mod_two_eq_zero_or_one y with h | h <;> simp [h]

/-! ## the model against Buidl.Spec.BIP32 -/

section spec
variable (hmac : Bytes → Bytes → Bytes) (h160 : Bytes → Bytes)

theorem spec_n_eq : Spec.BIP32.n = N := by decide

/-- the HMAC input of HDPrivateKey.child is the one of the BIP -/
theorem priv_childData_eq_spec (k : HDPriv) (i : Nat) (hs : k.secret < N) (hi : i < 2 ^ 32) :
    k.childData i
    = (if i ≥ 2 ^ 31 then some (0x00 :: Spec.BIP32.ser256 k.secret ++ Spec.BIP32.ser32 i)
       else (Spec.BIP32.serP (Spec.BIP32.point k.secret)).map (· ++ Spec.BIP32.ser32 i)) := by
  have h32 : k.secret < 256 ^ 32 := Nat.lt_trans hs N_lt_2_256
  have h33 : k.secret < 256 ^ 33 := Nat.lt_trans h32 (by decide)
  have h4 : i < 256 ^ 4 := hi
  rw [HDPriv.childData_eq]
  by_cases h : 2 ^ 31 ≤ i
  · rw [if_pos h, if_pos h]
    simp only [natToBE_some h33, natToBE_some h4, Option.bind_some]
    rw [natToBE'_succ_of_lt h32]
    rfl
  · rw [if_neg h, if_neg h]
    simp only [natToBE_some h4, Option.bind_some, sec_eq_serP, Spec.BIP32.point, HDPriv.pub]
    cases Spec.BIP32.serP (smul (↑k.secret) G) <;> rfl

theorem fingerprint_eq_spec (p : HDPub) : p.fingerprint h160 = Spec.BIP32.fingerprint h160 p.point := by
  simp only [HDPub.fingerprint, Spec.BIP32.fingerprint, sec_eq_serP]

theorem mkPriv_some_fields {s : Nat} {c fp : Bytes} {d cn : Nat} {net : String} {pv bv : Option Bytes} {k : HDPriv}
    (h : mkPriv s c d fp cn net pv bv = some k) :
    k.secret = s ∧ k.chainCode = c ∧ k.depth = d ∧ k.parentFp = fp ∧ k.childNumber = cn ∧ k.network = net := by
  simp only [mkPriv, mkPub, Option.bind_eq_bind, Option.pure_def, Option.bind_eq_some_iff] at h
  obtain ⟨v1, -, pub, ⟨v2, -, hp⟩, hk⟩ := h
  cases hp; cases hk
  exact ⟨rfl, rfl, rfl, rfl, rfl, rfl⟩

theorem mkPriv_isSome (s : Nat) (c fp : Bytes) (d cn : Nat) (net : String) (pv bv : Option Bytes)
    (hpv : (versionOr pv Gen.hdXprv net).isSome) (hbv : (versionOr bv Gen.hdXpub net).isSome) :
    (mkPriv s c d fp cn net pv bv).isSome := by
  obtain ⟨v1, h1⟩ := Option.isSome_iff_exists.mp hpv
  obtain ⟨v2, h2⟩ := Option.isSome_iff_exists.mp hbv
  simp [mkPriv, mkPub, h1, h2]

theorem from_seed_eq_spec (seed : Bytes) (net : String) (pv bv : Option Bytes)
    (hpv : (versionOr pv Gen.hdXprv net).isSome) (hbv : (versionOr bv Gen.hdXpub net).isSome) :
    (fromSeed hmac seed net pv bv).map (fun k => (k.secret, k.chainCode, k.depth, k.parentFp, k.childNumber))
      = (Spec.BIP32.master hmac seed).toOption.map (fun kc => (kc.1, kc.2, 0, [0, 0, 0, 0], 0)) := by
  have hkey : Gen.hdSeedKey = Spec.BIP32.seedKey := by decide
  simp only [fromSeed, Spec.BIP32.master, hkey, Gen.hdSeedKeyHi, Gen.hdSeedChainLo, Spec.BIP32.parse256,
    Spec.BIP32.IL, Spec.BIP32.IR, spec_n_eq, Option.bind_eq_bind, mkSecret_eq]
  generalize hmac Spec.BIP32.seedKey seed = I
  -- both sides are an `if` on `I_L`: the code's `1 ≤ I_L < n` against the BIP's `I_L = 0 ∨ I_L ≥ n`
  by_cases hz : 1 ≤ beToNat (List.take 32 I) ∧ beToNat (List.take 32 I) < N
  · rw [if_pos hz, if_neg (by omega), Option.bind_some]
    obtain ⟨k, hk⟩ := Option.isSome_iff_exists.mp
      (mkPriv_isSome (beToNat (List.take 32 I)) (List.drop 32 I) [0, 0, 0, 0] 0 0 net pv bv hpv hbv)
    obtain ⟨h1, h2, h3, h4, h5, -⟩ := mkPriv_some_fields hk
    simp [hk, h1, h2, h3, h4, h5, Spec.BIP32.Result.toOption]
  · rw [if_neg hz, if_pos (by omega)]
    rfl

end spec

/-! ## the 78-byte codec -/

theorem inSet_length {tbl : List (String × Bytes)} {n : Nat} (ht : ∀ e ∈ tbl, e.2.length = n) {v : Bytes}
    (h : inSet tbl v = true) : v.length = n := by
  simp only [inSet, List.any_eq_true, beq_iff_eq] at h
  obtain ⟨e, he, rfl⟩ := h
  exact ht e he

/-- raw_parse's choice of network when none is given: the version is in one of the two sets, the testnet set first -/
theorem netOfVersion_eq_some_iff {T M : List (String × Bytes)} {v : Bytes} {net : String} :
    netOfVersion T M v none = some net ↔
      (inSet T v = true ∨ inSet M v = true) ∧ net = if inSet T v = true then "testnet" else "mainnet" := by
  unfold netOfVersion
  by_cases ht : inSet T v = true
  · simpa [ht] using eq_comm
  · by_cases hm : inSet M v = true
    · simpa [ht, hm] using eq_comm
    · simp [ht, hm]

structure PrivSerWF (k : HDPriv) (v : Bytes) : Prop where
  depth : k.depth ≤ 255
  child : k.childNumber < 2 ^ 32
  fp : k.parentFp.length = 4
  cc : k.chainCode.length = 32
  sec1 : 1 ≤ k.secret
  sec2 : k.secret < N
  ver : inSet Gen.hdAllTestnetXprvs v = true ∨ inSet Gen.hdAllMainnetXprvs v = true

theorem priv_rawSerialize_eq (k : HDPriv) (v : Bytes) (wf : PrivSerWF k v) :
    k.rawSerialize v = some (v ++ ([UInt8.ofNat k.depth] ++ (k.parentFp ++ (natToBE' 4 k.childNumber ++
      (k.chainCode ++ (0 :: natToBE' 32 k.secret)))))) := by
  have h32 : k.secret < 256 ^ 32 := Nat.lt_trans wf.sec2 N_lt_2_256
  have h33 : k.secret < 256 ^ 33 := Nat.lt_trans h32 (by decide)
  have h4 : k.childNumber < 256 ^ 4 := wf.child
  have hd : ¬ k.depth > 255 := Nat.not_lt.mpr wf.depth
  simp only [HDPriv.rawSerialize, intToByte, hd, if_false, Gen.hdPrivSerChildW, Gen.hdPrivSerSecretW, natToBE,
    h33, h4, if_true, Option.bind_eq_bind, Option.bind_some, Option.pure_def]
  rw [natToBE'_succ_of_lt h32]
  simp

/-- what HDPrivateKey.parse returns for the serialisation of `k` with version `v`: the same key, the
    network chosen from the version bytes, `pub_version` the default of that network -/
def parsedPriv (k : HDPriv) (v : Bytes) : HDPriv :=
  if inSet Gen.hdAllTestnetXprvs v then
    { k with network := "testnet", privVersion := v, pubVersion := [4, 53, 135, 207] }
  else
    { k with network := "mainnet", privVersion := v, pubVersion := [4, 136, 178, 30] }

theorem priv_rawParse_rawSerialize (k : HDPriv) (v : Bytes) (wf : PrivSerWF k v) :
    ∃ raw, k.rawSerialize v = some raw ∧ raw.length = 78 ∧ HDPriv.rawParse raw none = some (parsedPriv k v) := by
  have hv : v.length = 4 := wf.ver.elim (inSet_length (by decide)) (inSet_length (by decide))
  refine ⟨_, priv_rawSerialize_eq k v wf, ?_, ?_⟩
  · simp [hv, wf.fp, wf.cc]
  · have h32 : k.secret < 256 ^ 32 := Nat.lt_trans wf.sec2 N_lt_2_256
    have h4 : k.childNumber < 256 ^ 4 := wf.child
    simp only [HDPriv.rawParse, sread, Gen.hdPrivParVersionW, Gen.hdPrivParDepthW, Gen.hdPrivParFpW,
      Gen.hdPrivParChildW, Gen.hdPrivParChainW, Gen.hdPrivParZeroW, Gen.hdPrivParSecretW,
      take_drop_append hv, take_drop_append (a := [UInt8.ofNat k.depth]) (n := 1) rfl, take_drop_append wf.fp,
      take_drop_append (natToBE'_length 4 k.childNumber), take_drop_append wf.cc]
    have hsec : mkSecret k.secret = some k.secret := by
      rw [mkSecret_eq, if_pos ⟨wf.sec1, wf.sec2⟩]
    have hdep : (UInt8.ofNat k.depth).toNat = k.depth := by
      rw [u8_ofNat_toNat]; have := wf.depth; omega
    have ht : List.take 32 (natToBE' 32 k.secret) = natToBE' 32 k.secret := by
      apply List.take_of_length_le; simp
    simp only [List.take, List.drop, byteToInt, List.head?_cons, Option.map_some, hdep,
      beToNat_natToBE' h4, Option.bind_eq_bind, Option.bind_some, ite_cmpOp_NotEq (op := Gen.hdPrivParseZeroOp) rfl,
      Gen.hdPrivParseZeroT, UInt8.toNat_zero, if_true, ht, beToNat_natToBE' h32, hsec,
      netOfVersion_eq_some_iff.mpr ⟨wf.ver, rfl⟩]
    -- left: the constructor on the fields of `k` with the network read off `v`, the two cases of `parsedPriv`
    unfold parsedPriv
    split <;> rfl

theorem parsedPriv_xprv (hash256 : Bytes → Bytes) (k : HDPriv) (v : Bytes) :
    (parsedPriv k v).xprv hash256 none = k.xprv hash256 (some v) := by
  unfold parsedPriv
  split <;> rfl

/-- the Base58Check round trip (C09: `Buidl.Base58.rawDecodeBase58_encodeBase58Checksum`) -/
def B58RoundTrip (hash256 : Bytes → Bytes) : Prop :=
  ∀ (p : Bytes) (s : Base58.Str), Base58.encodeBase58Checksum hash256 p = some s →
    Base58.rawDecodeBase58 hash256 s = some p

theorem HDPriv.parse_eq_some_iff {hash256 : Bytes → Bytes} {s : Str} {k : HDPriv} :
    HDPriv.parse hash256 s = some k ↔
      ∃ raw, Base58.rawDecodeBase58 hash256 s = some raw ∧ raw.length = 78 ∧ HDPriv.rawParse raw none = some k := by
  simp only [HDPriv.parse, ite_cmpOp_NotEq (op := Gen.hdPrivParseLenOp) rfl, Option.bind_eq_bind, Option.bind_eq_some_iff,
    Option.bind_none, Option.ite_none_right_eq_some, Gen.hdPrivParseLenT]

theorem HDPub.parse_eq_some_iff {hash256 : Bytes → Bytes} {s : Str} {pk : HDPub} :
    HDPub.parse hash256 s = some pk ↔
      ∃ raw, Base58.rawDecodeBase58 hash256 s = some raw ∧ raw.length = 78 ∧ HDPub.rawParse raw none = some pk := by
  simp only [HDPub.parse, ite_cmpOp_NotEq (op := Gen.hdPubParseLenOp) rfl, Option.bind_eq_bind, Option.bind_eq_some_iff,
    Option.bind_none, Option.ite_none_right_eq_some, Gen.hdPubParseLenT]

theorem priv_parse_xprv_rel (hash256 : Bytes → Bytes) (hb : B58RoundTrip hash256) (k : HDPriv) (v : Bytes)
    (wf : PrivSerWF k v) (x : Str) (hx : k.xprv hash256 (some v) = some x) :
    HDPriv.parse hash256 x = some (parsedPriv k v) := by
  obtain ⟨raw, hraw, hlen, hparse⟩ := priv_rawParse_rawSerialize k v wf
  simp only [HDPriv.xprv, Option.getD_some, hraw, Option.bind_eq_bind, Option.bind_some] at hx
  exact HDPriv.parse_eq_some_iff.mpr ⟨raw, hb raw x hx, hlen, hparse⟩

theorem priv_xprv_isSome_rel (hash256 : Bytes → Bytes) (k : HDPriv) (v : Bytes) (wf : PrivSerWF k v) :
    k.xprv hash256 (some v) = Base58.encodeBase58Checksum hash256 (v ++ ([UInt8.ofNat k.depth] ++ (k.parentFp ++
      (natToBE' 4 k.childNumber ++ (k.chainCode ++ (0 :: natToBE' 32 k.secret)))))) := by
  simp [HDPriv.xprv, priv_rawSerialize_eq k v wf]

structure PubSerWF (p : HDPub) (v : Bytes) : Prop where
  depth : p.depth ≤ 255
  child : p.childNumber < 2 ^ 32
  fp : p.parentFp.length = 4
  cc : p.chainCode.length = 32
  ver : inSet Gen.hdAllTestnetXpubs v = true ∨ inSet Gen.hdAllMainnetXpubs v = true

def parsedPub (p : HDPub) (v : Bytes) : HDPub :=
  if inSet Gen.hdAllTestnetXpubs v then { p with network := "testnet", pubVersion := v }
  else { p with network := "mainnet", pubVersion := v }

theorem pub_serialize_eq (p : HDPub) (v : Bytes) (wf : PubSerWF p v) (s : Bytes) (hs : sec p.point true = some s) :
    p.serialize v = some (v ++ ([UInt8.ofNat p.depth] ++ (p.parentFp ++ (natToBE' 4 p.childNumber ++
      (p.chainCode ++ s))))) := by
  have h4 : p.childNumber < 256 ^ 4 := wf.child
  have hd : ¬ p.depth > 255 := by have := wf.depth; omega
  simp [HDPub.serialize, intToByte, hd, Gen.hdPubSerChildW, natToBE, h4, hs]

theorem pub_rawParse_serialize (p : HDPub) (v : Bytes) (wf : PubSerWF p v) (s : Bytes)
    (hs : sec p.point true = some s) (hlen : s.length = 33) (hpp : parsePoint s = some p.point) :
    ∃ raw, p.serialize v = some raw ∧ raw.length = 78 ∧ HDPub.rawParse raw none = some (parsedPub p v) := by
  have hv : v.length = 4 := wf.ver.elim (inSet_length (by decide)) (inSet_length (by decide))
  refine ⟨_, pub_serialize_eq p v wf s hs, ?_, ?_⟩
  · simp [hv, wf.fp, wf.cc, hlen]
  · have h4 : p.childNumber < 256 ^ 4 := wf.child
    simp only [HDPub.rawParse, sread, Gen.hdPubParVersionW, Gen.hdPubParDepthW, Gen.hdPubParFpW,
      Gen.hdPubParChildW, Gen.hdPubParChainW, Gen.hdPubParSecW,
      take_drop_append hv, take_drop_append (a := [UInt8.ofNat p.depth]) (n := 1) rfl, take_drop_append wf.fp,
      take_drop_append (natToBE'_length 4 p.childNumber), take_drop_append wf.cc]
    have hdep : (UInt8.ofNat p.depth).toNat = p.depth := by
      rw [u8_ofNat_toNat]; have := wf.depth; omega
    have ht : List.take 33 s = s := by
      apply List.take_of_length_le; omega
    simp only [byteToInt, List.head?_cons, Option.map_some, hdep, beToNat_natToBE' h4, Option.bind_eq_bind,
      Option.bind_some, ht, hpp, netOfVersion_eq_some_iff.mpr ⟨wf.ver, rfl⟩]
    -- left: the constructor on the fields of `p` with the network read off `v`, the two cases of `parsedPub`
    unfold parsedPub
    split <;> rfl

theorem pub_parse_xpub_rel (hash256 : Bytes → Bytes) (hb : B58RoundTrip hash256) (p : HDPub) (v : Bytes)
    (wf : PubSerWF p v) (hsec : ∀ s, sec p.point true = some s → s.length = 33 ∧ parsePoint s = some p.point)
    (x : Str) (hx : p.xpub hash256 (some v) = some x) :
    HDPub.parse hash256 x = some (parsedPub p v) := by
  cases hs : sec p.point true with
  | none => simp [HDPub.xpub, HDPub.serialize, hs] at hx
  | some s =>
    obtain ⟨hl, hpp⟩ := hsec s hs
    obtain ⟨raw, hraw, hlen, hparse⟩ := pub_rawParse_serialize p v wf s hs hl hpp
    simp only [HDPub.xpub, Option.getD_some, hraw, Option.bind_eq_bind, Option.bind_some] at hx
    exact HDPub.parse_eq_some_iff.mpr ⟨raw, hb raw x hx, hlen, hparse⟩

theorem parsedPub_xpub (hash256 : Bytes → Bytes) (p : HDPub) (v : Bytes) :
    (parsedPub p v).xpub hash256 none = p.xpub hash256 (some v) := by
  unfold parsedPub
  split <;> rfl

end Buidl.HD
