/-
  Buidl.Proofs.RS1024Two — two-word errors.  A second error `d₂ < 1024` placed `g` positions after a first
  error `d₁ < 1024` cancels it only if `L^g(d₁) = d₂`; the kernel check `two_check` over the generated `GEN`
  shows `L^g(d₁) ≥ 1024` for all `1 ≤ d₁ < 1024`, `1 ≤ g ≤ 63`.  Hence any two wrong words at most 63 positions
  apart — every pair of positions of a 20- or 33-word share — are detected.
-/
import Buidl.Proofs.RS1024TwoCheck
namespace Buidl.Shamir
open Buidl

theorem rsLpow_combo (g d : Nat) (hd : d < 1024) : rsLpow g d = combo (basisAt g) d :=
  linear_combo (rsLpow_xor g) 10 d hd

theorem basisAt_succ (g : Nat) : basisAt (g + 1) = (basisAt g).map rsL := by
  rw [basisAt, basisAt, List.map_map]
  exact List.map_congr_left fun j _ => rsLpow_succ' g _

theorem checkFrom_spec : ∀ (n g0 : Nat), checkFrom n (basisAt g0) = true →
    ∀ g, g0 < g → g ≤ g0 + n → allCombosBig (basisAt g) = true := by
  intro n
  induction n with
  | zero => intro g0 _ g h1 h2; omega
  | succ n ih =>
    intro g0 h g h1 h2
    rw [checkFrom, Bool.and_eq_true, ← basisAt_succ] at h
    by_cases hg : g = g0 + 1
    · exact hg ▸ h.1
    · exact ih (g0 + 1) h.2 g (by omega) (by omega)

theorem rsLpow_far (d g : Nat) (hd : d < 1024) (hd0 : d ≠ 0) (h1 : 1 ≤ g) (h2 : g ≤ 63) : 1024 ≤ rsLpow g d := by
  rw [rsLpow_combo g d hd]
  exact (allCombosBig_iff _).mp (checkFrom_spec 63 0 two_check g h1 (by omega)) d hd hd0

theorem polymod_two_errors (pre mid post : List Nat) (a a' b b' : Nat) (ha : a < 1024) (ha' : a' < 1024)
    (hb : b < 1024) (hb' : b' < 1024) (hna : a ≠ a') (hmid : mid.length + 1 ≤ 63) :
    rs1024Polymod (pre ++ a :: (mid ++ b :: post)) ≠ rs1024Polymod (pre ++ a' :: (mid ++ b' :: post)) := by
  have h := checksum.foldl_double (w := 10) (N := 63) (by decide)
    (fun d hd h0 j hj => by rw [← rsLpow_eq_zeros]; exact rsLpow_far d (j + 1) hd h0 (by omega) (by omega))
    Gen.rsInit pre mid post ha ha' hb hb' hna (by omega)
  rwa [List.append_assoc, List.append_assoc] at h

end Buidl.Shamir
