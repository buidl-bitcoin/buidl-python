/-
  Lemmas about Buidl.Model.Bytes: the integer codecs, bit masks, varint, the extracted comparison operators.
-/
import Buidl.Model.Bytes
namespace Buidl

@[simp] theorem natToLE'_length (w n : Nat) : (natToLE' w n).length = w := by
  induction w generalizing n with
  | zero => rfl
  | succ w ih => simp [natToLE', ih]

theorem natToLE'_add (b a n : Nat) : natToLE' (b + a) n = natToLE' b n ++ natToLE' a (n / 256 ^ b) := by
  induction b generalizing n with
  | zero => simp [natToLE']
  | succ b ih =>
    rw [Nat.succ_add, natToLE', ih, natToLE', Nat.div_div_eq_div_mul, ← Nat.pow_succ']
    rfl

theorem u8_ofNat_toNat (n : Nat) : (UInt8.ofNat n).toNat = n % 256 := by
  simp [UInt8.toNat_ofNat']

theorem u8_toNat_ofNat_lt {n : Nat} (h : n < 256) : (UInt8.ofNat n).toNat = n := by
  rw [u8_ofNat_toNat, Nat.mod_eq_of_lt h]

theorem map_toNat_ofNat (l : List Nat) (h : ∀ d ∈ l, d < 256) : (l.map UInt8.ofNat).map (·.toNat) = l := by
  rw [List.map_map]
  exact (List.map_congr_left fun d hd => u8_toNat_ofNat_lt (h d hd)).trans (List.map_id l)

theorem leToNat_natToLE' (w n : Nat) : leToNat (natToLE' w n) = n % 256 ^ w := by
  induction w generalizing n with
  | zero => simp [natToLE', leToNat, Nat.mod_one]
  | succ w ih =>
    simp only [natToLE', leToNat, ih, u8_ofNat_toNat]
    rw [Nat.pow_succ, Nat.mul_comm (256 ^ w) 256, Nat.mod_mul, Nat.mod_mod]

theorem leToNat_natToLE'_of_lt {w n : Nat} (h : n < 256 ^ w) : leToNat (natToLE' w n) = n := by
  rw [leToNat_natToLE', Nat.mod_eq_of_lt h]

theorem leToNat_lt (b : Bytes) : leToNat b < 256 ^ b.length := by
  induction b with
  | nil => simp [leToNat]
  | cons x xs ih =>
    simp only [leToNat, List.length_cons, Nat.pow_succ]
    have := x.toNat_lt
    omega

theorem natToLE'_leToNat (b : Bytes) : natToLE' b.length (leToNat b) = b := by
  induction b with
  | nil => rfl
  | cons x xs ih =>
    simp only [List.length_cons, natToLE', leToNat]
    have hx := x.toNat_lt
    have h1 : (x.toNat + 256 * leToNat xs) % 256 = x.toNat := by omega
    have h2 : (x.toNat + 256 * leToNat xs) / 256 = leToNat xs := by omega
    rw [h1, h2, ih]
    simp

theorem natToLE_eq_some_iff {n w : Nat} {b : Bytes} : natToLE n w = some b ↔ n < 256 ^ w ∧ b = natToLE' w n := by
  unfold natToLE
  split
  · next h => simp only [Option.some.injEq, h, true_and, eq_comm]
  · next h => simp only [reduceCtorEq, h, false_and]

theorem natToLE_some {n w : Nat} (h : n < 256 ^ w) : natToLE n w = some (natToLE' w n) :=
  natToLE_eq_some_iff.mpr ⟨h, rfl⟩

/-- the range of a `w`-byte field as the protocol states it, in bits: `n < 2^32` for `w = 4` -/
theorem natToLE_some_bits {n : Nat} (w : Nat) (h : n < 2 ^ (8 * w)) : natToLE n w = some (natToLE' w n) :=
  natToLE_some (by rwa [Nat.pow_mul] at h)

theorem leToNat_natToLE'_bits {n : Nat} (w : Nat) (h : n < 2 ^ (8 * w)) : leToNat (natToLE' w n) = n :=
  leToNat_natToLE'_of_lt (by rwa [Nat.pow_mul] at h)

theorem natToLE_leToNat (b : Bytes) : natToLE (leToNat b) b.length = some b := by
  rw [natToLE_some (leToNat_lt b), natToLE'_leToNat]

theorem natToLE_length {n w : Nat} {b : Bytes} (h : natToLE n w = some b) : b.length = w := by
  rw [(natToLE_eq_some_iff.mp h).2, natToLE'_length]

theorem leToNat_of_natToLE {n w : Nat} {b : Bytes} (h : natToLE n w = some b) : leToNat b = n := by
  rw [(natToLE_eq_some_iff.mp h).2, leToNat_natToLE'_of_lt (natToLE_eq_some_iff.mp h).1]

theorem leToNat_append (a b : Bytes) : leToNat (a ++ b) = leToNat a + 256 ^ a.length * leToNat b := by
  induction a with
  | nil => simp [leToNat]
  | cons x xs ih =>
    simp only [List.cons_append, leToNat, ih, List.length_cons, Nat.pow_succ, Nat.mul_add]
    rw [Nat.add_assoc, Nat.mul_comm (256 ^ xs.length) 256, Nat.mul_assoc]

theorem leToNat_append_zeros (t : Bytes) (n : Nat) : leToNat (t ++ List.replicate n 0) = leToNat t := by
  have h0 : leToNat (List.replicate n 0) = 0 := by
    induction n with
    | zero => rfl
    | succ n ih => rw [List.replicate_succ, leToNat, ih]; rfl
  rw [leToNat_append, h0, Nat.mul_zero, Nat.add_zero]

theorem leToNat_cons_or (d : UInt8) (ds : Bytes) : leToNat (d :: ds) = d.toNat ||| (leToNat ds <<< 8) := by
  rw [leToNat, Nat.or_comm, ← Nat.shiftLeft_add_eq_or_of_lt (i := 8) d.toNat_lt, Nat.shiftLeft_eq, Nat.mul_comm,
    Nat.add_comm]

theorem and_two_pow (x k : Nat) : x &&& 2 ^ k = if x.testBit k then 2 ^ k else 0 := by
  apply Nat.eq_of_testBit_eq
  intro i
  rw [Nat.testBit_and, Nat.testBit_two_pow]
  by_cases h : k = i
  · subst h; cases x.testBit k <;> simp
  · cases x.testBit k <;> simp [h]

theorem ite_xor (p : Prop) [Decidable p] (x g : Nat) : (if p then x ^^^ g else x) = x ^^^ (if p then g else 0) := by
  split <;> simp

theorem and_pow_div (x i : Nat) : x &&& 2 ^ i = (x / 2 ^ i % 2) * 2 ^ i := by
  rw [and_two_pow, Nat.testBit_eq_decide_div_mod_eq]
  rcases Nat.mod_two_eq_zero_or_one (x / 2 ^ i) with h | h <;> simp [h]

theorem and_two_pow_ne_zero (x i : Nat) : x &&& 2 ^ i ≠ 0 ↔ x / 2 ^ i % 2 = 1 := by
  rw [and_two_pow, Nat.testBit_eq_decide_div_mod_eq]
  by_cases h : x / 2 ^ i % 2 = 1 <;> simp [h]

theorem and31 (x : Nat) : x &&& 31 = x % 32 := Nat.and_two_pow_sub_one_eq_mod x 5

theorem and3 (x : Nat) : x &&& 3 = x % 4 := Nat.and_two_pow_sub_one_eq_mod x 2

theorem and_mask (x k : Nat) : x &&& ((1 <<< k) - 1) = x % 2 ^ k := by
  rw [Nat.one_shiftLeft, Nat.and_two_pow_sub_one_eq_mod]

theorem xor_eq_zero_imp {a b : Nat} (h : a ^^^ b = 0) : a = b := by
  rw [← Nat.xor_zero a, ← h, ← Nat.xor_assoc, Nat.xor_self, Nat.zero_xor]

theorem xor_ne_zero {a b : Nat} (h : a ≠ b) : a ^^^ b ≠ 0 := fun e => h (xor_eq_zero_imp e)

theorem zipWith_xor_self (l : List Nat) : List.zipWith (· ^^^ ·) l l = List.replicate l.length 0 := by
  induction l with
  | nil => rfl
  | cons x xs ih => rw [List.zipWith_cons_cons, ih, Nat.xor_self, List.length_cons, List.replicate_succ]

theorem beToNatAux_append (acc : Nat) (a b : Bytes) :
    beToNatAux acc (a ++ b) = beToNatAux (beToNatAux acc a) b := by
  induction a generalizing acc with
  | nil => rfl
  | cons x xs ih => simp [beToNatAux, ih]

theorem beToNat_reverse (b : Bytes) : beToNat b.reverse = leToNat b := by
  induction b with
  | nil => rfl
  | cons x xs ih =>
    simp only [List.reverse_cons, beToNat, beToNatAux_append, beToNatAux, leToNat]
    unfold beToNat at ih
    rw [ih]; omega

theorem beToNat_natToBE' {w n : Nat} (h : n < 256 ^ w) : beToNat (natToBE' w n) = n := by
  unfold natToBE'
  rw [beToNat_reverse, leToNat_natToLE'_of_lt h]

@[simp] theorem natToBE'_length (w n : Nat) : (natToBE' w n).length = w := by
  simp [natToBE']

theorem natToBE'_add (b a n : Nat) : natToBE' (b + a) n = natToBE' a (n / 256 ^ b) ++ natToBE' b n := by
  rw [natToBE', natToLE'_add, List.reverse_append]
  rfl

theorem natToBE'_beToNat (b : Bytes) : natToBE' b.length (beToNat b) = b := by
  have := natToLE'_leToNat b.reverse
  unfold natToBE'
  rw [← beToNat_reverse, List.reverse_reverse, List.length_reverse] at this
  rw [this, List.reverse_reverse]

theorem natToBE'_beToNat_of_length {b : Bytes} {n : Nat} (h : b.length = n) : natToBE' n (beToNat b) = b :=
  h ▸ natToBE'_beToNat b

theorem beToNatAux_eq (acc : Nat) (b : Bytes) : beToNatAux acc b = acc * 256 ^ b.length + beToNat b := by
  induction b generalizing acc with
  | nil => simp [beToNatAux, beToNat]
  | cons x xs ih =>
    simp only [beToNatAux, beToNat, List.length_cons, Nat.pow_succ]
    rw [ih, ih (0 * 256 + x.toNat)]
    simp only [Nat.zero_mul, Nat.zero_add, Nat.add_mul, Nat.mul_assoc, Nat.mul_comm 256 (256 ^ xs.length)]
    omega

theorem beToNat_append (a b : Bytes) : beToNat (a ++ b) = beToNat a * 256 ^ b.length + beToNat b := by
  rw [beToNat, beToNatAux_append, beToNatAux_eq]; rfl

theorem beToNat_cons (v : UInt8) (rest : Bytes) : beToNat (v :: rest) = v.toNat * 256 ^ rest.length + beToNat rest := by
  rw [← List.singleton_append, beToNat_append]
  exact congrArg (· * _ + _) (Nat.zero_add v.toNat)

theorem beToNat_cons_zero (b0 : UInt8) (rest : Bytes) (h : b0.toNat = 0) :
    beToNat (b0 :: rest) = beToNat rest := by
  rw [beToNat_cons, h, Nat.zero_mul, Nat.zero_add]

theorem beToNat_lt (b : Bytes) : beToNat b < 256 ^ b.length := by
  have := leToNat_lt b.reverse
  rwa [← beToNat_reverse, List.reverse_reverse, List.length_reverse] at this

theorem natToBE_beToNat (b : Bytes) : natToBE (beToNat b) b.length = some b := by
  rw [natToBE, if_pos (beToNat_lt b), natToBE'_beToNat]

theorem natToBE_eq_some_iff {n w : Nat} {b : Bytes} : natToBE n w = some b ↔ n < 256 ^ w ∧ b = natToBE' w n := by
  unfold natToBE
  split
  · next h => simp only [Option.some.injEq, h, true_and, eq_comm]
  · next h => simp only [reduceCtorEq, h, false_and]

theorem natToBE_some {n w : Nat} (h : n < 256 ^ w) : natToBE n w = some (natToBE' w n) :=
  natToBE_eq_some_iff.mpr ⟨h, rfl⟩

theorem natToBE_length {n w : Nat} {b : Bytes} (h : natToBE n w = some b) : b.length = w := by
  rw [(natToBE_eq_some_iff.mp h).2, natToBE'_length]

/-! ### varint -/

/-- a conjunction so that, given to `simp`, it rewrites both the `take` and the `drop` of a parser step -/
theorem take_drop_append {α} {a b : List α} {n : Nat} (h : a.length = n) : (a ++ b).take n = a ∧ (a ++ b).drop n = b :=
  ⟨List.take_left' h, List.drop_left' h⟩

theorem sread_append (n : Nat) (a b : Bytes) (h : a.length = n) : sread n (a ++ b) = (a, b) :=
  Prod.ext (List.take_left' h) (List.drop_left' h)

/-- `encode_varint` with the extracted thresholds, widths and prefix bytes (`Gen.varintEnc…`) evaluated -/
theorem encodeVarint_eq (n : Nat) : encodeVarint n =
    if n < 0xFD then some [UInt8.ofNat n]
    else if n < 0x10000 then some (0xFD :: natToLE' 2 n)
    else if n < 0x100000000 then some (0xFE :: natToLE' 4 n)
    else if n < 2 ^ 64 then some (0xFF :: natToLE' 8 n) else none := by
  have w (k : Nat) (h : n < 256 ^ k) : natToLE n k = some (natToLE' k n) := natToLE_some h
  simp only [encodeVarint, Gen.varintEncT0, Gen.varintEncT1, Gen.varintEncT2, Gen.varintEncT3, Gen.varintEncW0,
    Gen.varintEncW1, Gen.varintEncW2, Gen.varintEncP0, Gen.varintEncP1, Gen.varintEncP2]
  split
  · rw [w 1 (by omega)]
    simp [natToLE', Nat.mod_eq_of_lt (by omega : n < 256)]
  · split
    · rw [w 2 (by omega)]; rfl
    · split
      · rw [w 4 (by omega)]; rfl
      · split
        · rw [w 8 (by omega)]; rfl
        · rfl

theorem readVarint_encodeVarint (n : Nat) (rest : Bytes) (e : Bytes)
    (h : encodeVarint n = some e) : readVarint (e ++ rest) = some (n, rest) := by
  have rd (w : Nat) (hl : n < 256 ^ w) : leToNat (natToLE' w n) = n := leToNat_natToLE'_of_lt hl
  rw [encodeVarint_eq] at h
  repeat' split at h
  all_goals cases h
  · have hm : n % 256 = n := by omega
    have a : ¬ n = 253 ∧ ¬ n = 254 ∧ ¬ n = 255 := by omega
    simp [readVarint, Gen.varintDecM0, Gen.varintDecM1, Gen.varintDecM2, hm, a]
  · simp [readVarint, Gen.varintDecM0, Gen.varintDecW0, rd 2 (by omega)]
  · simp [readVarint, Gen.varintDecM0, Gen.varintDecM1, Gen.varintDecW1, rd 4 (by omega)]
  · simp [readVarint, Gen.varintDecM0, Gen.varintDecM1, Gen.varintDecM2, Gen.varintDecW2, rd 8 (by omega)]

theorem encodeVarint_isSome_iff (n : Nat) : (encodeVarint n).isSome ↔ n < 2 ^ 64 := by
  rw [encodeVarint_eq]
  repeat' split
  all_goals simp only [Option.isSome_some, Option.isSome_none, true_iff, Bool.false_eq_true, false_iff]
  all_goals omega

theorem encodeVarint_length (n : Nat) (e : Bytes) (h : encodeVarint n = some e) :
    e.length = if n < 0xFD then 1 else if n < 0x10000 then 3 else if n < 0x100000000 then 5 else 9 := by
  rw [encodeVarint_eq] at h
  repeat' split at h
  all_goals cases h
  all_goals simp [*]

theorem encodeVarint_head_ne_zero {n : Nat} {e : Bytes} (h : encodeVarint n = some e) (hn : 1 ≤ n) :
    ∃ x t, e = x :: t ∧ x ≠ 0 := by
  rw [encodeVarint_eq] at h
  split at h
  · cases h
    refine ⟨_, [], rfl, fun hx => ?_⟩
    have : (UInt8.ofNat n).toNat = 0 := by rw [hx]; rfl
    rw [u8_ofNat_toNat] at this
    omega
  · repeat' split at h
    all_goals cases h
    all_goals exact ⟨_, _, rfl, by decide⟩

theorem readVarstr_encodeVarstr (b rest e : Bytes) (hb : b.length < 2 ^ 63) (h : encodeVarstr b = some e) :
    readVarstr (e ++ rest) = some (b, rest) := by
  unfold encodeVarstr at h
  obtain ⟨v, hv, rfl⟩ := Option.map_eq_some_iff.mp h
  unfold readVarstr
  rw [List.append_assoc, readVarint_encodeVarint _ _ _ hv]
  simp [hb]

/-! ### the extracted comparison operators, evaluated -/

theorem cmpOp_Lt (a b : Nat) : cmpOp "Lt" a b = decide (a < b) := rfl
theorem cmpOp_LtE (a b : Nat) : cmpOp "LtE" a b = decide (a ≤ b) := rfl
theorem cmpOp_Gt (a b : Nat) : cmpOp "Gt" a b = decide (a > b) := rfl
theorem cmpOp_GtE (a b : Nat) : cmpOp "GtE" a b = decide (a ≥ b) := rfl
theorem cmpOp_Eq (a b : Nat) : cmpOp "Eq" a b = (a == b) := rfl
theorem cmpOp_NotEq (a b : Nat) : cmpOp "NotEq" a b = (a != b) := rfl

/-- `if a != b: raise` read as a guard `a = b` on what follows -/
theorem ite_cmpOp_NotEq {α} {op : String} (hop : op = "NotEq") (a b : Nat) (x y : α) :
    (if cmpOp op a b = true then x else y) = if a = b then y else x := by
  subst hop
  by_cases h : a = b
  · rw [if_neg (by simp [cmpOp_NotEq, h]), if_pos h]
  · rw [if_pos (by simpa [cmpOp_NotEq] using h), if_neg h]

end Buidl
