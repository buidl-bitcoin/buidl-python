/-
  The library model of the signature hashes (Buidl.Model.Tx) against the specification (Buidl.Spec.Sighash), for
  C05: a library transaction is related to a raw-bytes one (`Rep`), each field of each preimage is shown to be the
  specification's, and the preimages are compared field by field; then that the repaired code reads only the
  current fields (`Framed`), the dispatcher, OP_CODESEPARATOR, and the signature search of finalize_p2tr_multisig.
-/
import Buidl.Proofs.Tx
import Buidl.Spec.Sighash
namespace Buidl.Tx
open Buidl Buidl.Script

theorem le_eq (w n : Nat) : Spec.Sighash.le w n = natToLE' w n := by
  induction w generalizing n with
  | zero => rfl
  | succ w ih => simp [Spec.Sighash.le, natToLE', ih]

theorem natToLE_spec {n w : Nat} (h : n < 256 ^ w) : natToLE n w = some (Spec.Sighash.le w n) := by
  rw [le_eq, natToLE_some h]

theorem le4_spec {n : Nat} (h : n < 2 ^ 32) : natToLE n 4 = some (Spec.Sighash.le 4 n) := natToLE_spec h

theorem le8_spec {n : Nat} (h : n < 2 ^ 64) : natToLE n 8 = some (Spec.Sighash.le 8 n) := natToLE_spec h

theorem compactSize_eq {n : Nat} (h : n < 2 ^ 64) : encodeVarint n = some (Spec.Sighash.compactSize n) := by
  rw [encodeVarint_eq, Spec.Sighash.compactSize]
  -- Core tests `≤ 0xFFFF`, the library `< 0x10000`: the same chain of tests
  simp only [le_eq, h, if_true, ← Nat.lt_succ_iff, apply_ite some]

theorem encodeVarstr_spec {b : Bytes} (h : b.length < 2 ^ 64) : encodeVarstr b = some (Spec.Sighash.serScript b) := by
  simp [encodeVarstr, compactSize_eq h, Spec.Sighash.serScript]

theorem script_serialize_spec {s : Script} {b : Bytes} (h : rawSerialize s = some b) (hl : b.length < 2 ^ 64) :
    Script.serialize s = some (Spec.Sighash.serScript b) := by
  simp [Script.serialize, h, encodeVarstr_spec hl]

/-! ### representation of a library transaction by a specification transaction -/

inductive All₂ {α β} (R : α → β → Prop) : List α → List β → Prop
  | nil : All₂ R [] []
  | cons {a b l₁ l₂} : R a b → All₂ R l₁ l₂ → All₂ R (a :: l₁) (b :: l₂)

/-- the specification keeps the outpoint hash in wire order: `prev_tx` reversed -/
def RepIn (i : TxIn) (si : Spec.Sighash.TxIn) : Prop :=
  si.prevout.hash = i.prevTx.reverse ∧ si.prevout.n = i.prevIndex ∧ si.nSequence = i.sequence ∧
  i.prevIndex < 2 ^ 32 ∧ i.sequence < 2 ^ 32

def RepOut (o : TxOut) (so : Spec.Sighash.TxOut) : Prop :=
  so.nValue = o.amount ∧ rawSerialize o.scriptPubkey = some so.scriptPubKey ∧
  o.amount < 2 ^ 64 ∧ so.scriptPubKey.length < 2 ^ 64

/-- the scriptSigs of `st` are not constrained: no signature message reads them -/
def Rep (t : Tx) (st : Spec.Sighash.Tx) : Prop :=
  st.nVersion = t.version ∧ st.nLockTime = t.locktime ∧ t.version < 2 ^ 32 ∧ t.locktime < 2 ^ 32 ∧
  t.ins.length < 2 ^ 64 ∧ t.outs.length < 2 ^ 64 ∧
  All₂ RepIn t.ins st.vin ∧ All₂ RepOut t.outs st.vout

/-- the spent outputs, as preset in `_value` / `_script_pubkey` -/
def RepSpent (i : TxIn) (so : Spec.Sighash.TxOut) : Prop :=
  i.value = some so.nValue ∧ so.nValue < 2 ^ 64 ∧ so.scriptPubKey.length < 2 ^ 64 ∧
  ∃ spk, i.scriptPubkey = some spk ∧ rawSerialize spk = some so.scriptPubKey

theorem Rep.version {t : Tx} {st : Spec.Sighash.Tx} (h : Rep t st) :
    natToLE t.version 4 = some (Spec.Sighash.le 4 st.nVersion) := by rw [h.1]; exact le4_spec h.2.2.1

theorem Rep.locktime {t : Tx} {st : Spec.Sighash.Tx} (h : Rep t st) :
    natToLE t.locktime 4 = some (Spec.Sighash.le 4 st.nLockTime) := by rw [h.2.1]; exact le4_spec h.2.2.2.1

theorem Rep.ins {t : Tx} {st : Spec.Sighash.Tx} (h : Rep t st) : All₂ RepIn t.ins st.vin := h.2.2.2.2.2.2.1

theorem Rep.outs {t : Tx} {st : Spec.Sighash.Tx} (h : Rep t st) : All₂ RepOut t.outs st.vout := h.2.2.2.2.2.2.2

theorem RepIn.index {i : TxIn} {si : Spec.Sighash.TxIn} (h : RepIn i si) :
    natToLE i.prevIndex 4 = some (Spec.Sighash.le 4 si.prevout.n) := by rw [h.2.1]; exact le4_spec h.2.2.2.1

theorem RepIn.seq {i : TxIn} {si : Spec.Sighash.TxIn} (h : RepIn i si) :
    natToLE i.sequence 4 = some (Spec.Sighash.le 4 si.nSequence) := by rw [h.2.2.1]; exact le4_spec h.2.2.2.2

theorem All₂.getElem? {α β} {R : α → β → Prop} {l₁ : List α} {l₂ : List β} (h : All₂ R l₁ l₂) (k : Nat) :
    (l₁[k]? = none ∧ l₂[k]? = none) ∨ ∃ a b, l₁[k]? = some a ∧ l₂[k]? = some b ∧ R a b := by
  induction h generalizing k with
  | nil => left; simp
  | cons hab _ ih =>
    cases k with
    | zero => right; exact ⟨_, _, by simp, by simp, hab⟩
    | succ k => simpa using ih k

theorem All₂.length {α β} {R : α → β → Prop} {l₁ : List α} {l₂ : List β} (h : All₂ R l₁ l₂) :
    l₁.length = l₂.length := by
  induction h with
  | nil => rfl
  | cons _ _ ih => simp [ih]

theorem All₂.of_getElem? {α β} {R : α → β → Prop} {l₁ : List α} {l₂ : List β} (h : All₂ R l₁ l₂) {k : Nat} {a : α}
    (ha : l₁[k]? = some a) : ∃ b, l₂[k]? = some b ∧ R a b := by
  rcases h.getElem? k with ⟨h1, _⟩ | ⟨a', b, h1, h2, hr⟩
  · rw [ha] at h1; cases h1
  · rw [ha] at h1; cases h1; exact ⟨b, h2, hr⟩

theorem txout_serialize_spec {o : TxOut} {so : Spec.Sighash.TxOut} (r : RepOut o so) :
    o.serialize = some (Spec.Sighash.serTxOut so) := by
  obtain ⟨hv, hs, ha, hl⟩ := r
  simp [TxOut.serialize, Gen.txoutSerAmountW, le8_spec ha, script_serialize_spec hs hl, Spec.Sighash.serTxOut, hv]

theorem serOuts_spec {outs : List TxOut} {vout : List Spec.Sighash.TxOut} (h : All₂ RepOut outs vout) :
    serOuts outs = some (vout.map Spec.Sighash.serTxOut).flatten := by
  induction h with
  | nil => rfl
  | cons hab _ ih => simp [serOuts, txout_serialize_spec hab, ih]

theorem prevoutsBytes_spec {ins : List TxIn} {vin : List Spec.Sighash.TxIn} (h : All₂ RepIn ins vin) :
    prevoutsBytes ins = some (vin.map fun i => Spec.Sighash.serOutPoint i.prevout).flatten := by
  induction h with
  | nil => rfl
  | cons hab _ ih => simp [prevoutsBytes, hab.index, ih, Spec.Sighash.serOutPoint, hab.1]

theorem sequencesBytes_spec {ins : List TxIn} {vin : List Spec.Sighash.TxIn} (h : All₂ RepIn ins vin) :
    sequencesBytes ins = some (vin.map fun i => Spec.Sighash.le 4 i.nSequence).flatten := by
  induction h with
  | nil => rfl
  | cons hab _ ih => simp [sequencesBytes, Gen.sequenceSerW, hab.seq, ih]

theorem amountsBytes_spec {ins : List TxIn} {spent : List Spec.Sighash.TxOut} (h : All₂ RepSpent ins spent) :
    amountsBytes ins = some (spent.map fun o => Spec.Sighash.le 8 o.nValue).flatten := by
  induction h with
  | nil => rfl
  | @cons i so _ _ hab _ ih =>
    obtain ⟨h1, h2, _, _⟩ := hab
    simp [amountsBytes, h1, le8_spec h2, ih]

theorem spksBytes_spec {ins : List TxIn} {spent : List Spec.Sighash.TxOut} (h : All₂ RepSpent ins spent) :
    spksBytes ins = some (spent.map fun o => Spec.Sighash.serScript o.scriptPubKey).flatten := by
  induction h with
  | nil => rfl
  | @cons i so _ _ hab _ ih =>
    obtain ⟨_, _, h3, spk, h4, h5⟩ := hab
    simp [spksBytes, h4, script_serialize_spec h5 h3, ih]

/-! ### hash types -/

theorem zero32_eq : zero32 = Spec.Sighash.zero32 := rfl

/-- what the legacy / BIP143 proofs need of a hash type: the library's decoding (`& 0x80`, `& 3`) agrees with
    Core's (`& 0x80`, `& 0x1f`), and the value is one byte, as the hash type at the end of a signature is (the
    4-byte field it is serialised into would admit any `ht < 2 ^ 32`, and the proofs use no more) -/
def HtOK (ht : Nat) : Prop :=
  acp ht = Spec.Sighash.anyoneCanPay ht ∧
  (decide (base ht = Gen.sighashSingle) = Spec.Sighash.isSingle ht) ∧
  (decide (base ht = Gen.sighashNone) = Spec.Sighash.isNone ht) ∧ ht < 256

theorem htOK_std : ∀ ht ∈ Spec.Sighash.stdHashTypes, HtOK ht := by
  unfold HtOK; decide

/-- `HtOK` as rewrite rules: they turn the specification's side into the library's decoding, after which both
    sides branch on the same tests and the fields are compared without a hypothesis on the hash type -/
theorem HtOK.decode {ht : Nat} (h : HtOK ht) :
    Spec.Sighash.anyoneCanPay ht = acp ht ∧
    (Spec.Sighash.isSingle ht = true ↔ base ht = Gen.sighashSingle) ∧
    (Spec.Sighash.isNone ht = true ↔ base ht = Gen.sighashNone) := by
  obtain ⟨ha, hs, hn, _⟩ := h
  rw [← ha, ← hs, ← hn]
  simp only [decide_eq_true_eq, and_self]

theorem HtOK.le4 {ht : Nat} (h : HtOK ht) : natToLE ht 4 = some (Spec.Sighash.le 4 ht) :=
  le4_spec (Nat.lt_trans h.2.2.2 (by decide))

/-! ### BIP143 -/

theorem bip143Prevouts_spec (H : Hashes) (t : Tx) (st : Spec.Sighash.Tx) (ht : Nat) (hins : All₂ RepIn t.ins st.vin) :
    bip143Prevouts Cfg.repaired H { tx := t } ht =
      some (if ¬ acp ht = true then H.hash256 (st.vin.map fun i => Spec.Sighash.serOutPoint i.prevout).flatten
            else Spec.Sighash.zero32, { tx := t }) := by
  cases h : acp ht <;>
    simp [bip143Prevouts, h, hashPrevouts, Cfg.repaired, prevoutsBytes_spec hins, zero32_eq]

theorem bip143Sequence_spec (H : Hashes) (t : Tx) (st : Spec.Sighash.Tx) (ht : Nat) (hins : All₂ RepIn t.ins st.vin) :
    bip143Sequence Cfg.repaired H { tx := t } ht =
      some (if ¬ acp ht = true ∧ ¬ base ht = Gen.sighashSingle ∧ ¬ base ht = Gen.sighashNone then
              H.hash256 (st.vin.map fun i => Spec.Sighash.le 4 i.nSequence).flatten
            else Spec.Sighash.zero32, { tx := t }) := by
  unfold bip143Sequence
  simp only [Bool.not_eq_true', Bool.not_eq_true, ne_eq]
  split
  · simp [hashSequence, Cfg.repaired, sequencesBytes_spec hins]
  · rw [zero32_eq]

theorem bip143Outputs_spec (H : Hashes) (t : Tx) (st : Spec.Sighash.Tx) (i ht : Nat)
    (houts : All₂ RepOut t.outs st.vout) :
    bip143Outputs Cfg.repaired H { tx := t } i ht =
      some (if ¬ base ht = Gen.sighashSingle ∧ ¬ base ht = Gen.sighashNone then H.hash256 (st.vout.map Spec.Sighash.serTxOut).flatten
            else if base ht = Gen.sighashSingle ∧ i < st.vout.length then
              (match st.vout[i]? with | some o => H.hash256 (Spec.Sighash.serTxOut o) | none => Spec.Sighash.zero32)
            else Spec.Sighash.zero32, { tx := t }) := by
  unfold bip143Outputs
  simp only [ne_eq, ← houts.length]
  split
  · simp [hashOutputs, Cfg.repaired, serOuts_spec houts]
  · split
    · next d =>
      have h1 := List.getElem?_eq_getElem d.2
      obtain ⟨so, h2, hr⟩ := houts.of_getElem? h1
      simp [h1, h2, txout_serialize_spec hr]
    · rw [zero32_eq]

theorem bip143Input_spec (txin : TxIn) (si : Spec.Sighash.TxIn) (redeem ws : Option Script) (code : Script)
    (codeRaw : Bytes) (amount : Nat) (hr : RepIn txin si)
    (hcode : scriptCode143 txin redeem ws = some code) (hraw : rawSerialize code = some codeRaw)
    (hlen : codeRaw.length < 2 ^ 64) (hval : txin.value = some amount) (hamt : amount < 2 ^ 64) :
    bip143Input txin redeem ws = some (Spec.Sighash.serOutPoint si.prevout ++ Spec.Sighash.serScript codeRaw
      ++ Spec.Sighash.le 8 amount ++ Spec.Sighash.le 4 si.nSequence) := by
  simp [bip143Input, Gen.bip143IndexW, Gen.bip143AmountW, Gen.sequenceSerW, hr.index, hr.seq, le8_spec hamt, hcode, hval,
    script_serialize_spec hraw hlen, Spec.Sighash.serOutPoint, hr.1]

theorem bip143_pre_spec (H : Hashes) (t : Tx) (st : Spec.Sighash.Tx) (i ht amount : Nat) (txin : TxIn)
    (redeem ws : Option Script) (code : Script) (codeRaw : Bytes)
    (rep : Rep t st) (hht : HtOK ht)
    (hin : t.ins[i]? = some txin) (hcode : scriptCode143 txin redeem ws = some code)
    (hraw : rawSerialize code = some codeRaw) (hlen : codeRaw.length < 2 ^ 64)
    (hval : txin.value = some amount) (hamt : amount < 2 ^ 64) :
    sigHashBip143Pre Cfg.repaired H { tx := t } i redeem ws ht =
      (Spec.Sighash.bip143 H.hash256 st i codeRaw amount ht).map fun p => (p, { tx := t }) := by
  obtain ⟨da, ds, dn⟩ := hht.decode
  obtain ⟨si, h2, hr⟩ := rep.ins.of_getElem? hin
  simp only [sigHashBip143Pre, hin, Gen.bip143VersionW, Gen.locktimeSerW, Gen.bip143HashTypeW, rep.version, rep.locktime,
    hht.le4, bip143Prevouts_spec H t st ht rep.ins, bip143Sequence_spec H t st ht rep.ins,
    bip143Input_spec txin si redeem ws code codeRaw amount hr hcode hraw hlen hval hamt,
    bip143Outputs_spec H t st i ht rep.outs, Option.pure_def, Option.bind_eq_bind, Option.bind_some,
    Spec.Sighash.bip143, h2, Option.map_some, List.append_assoc, da, ds, dn]
  rfl

/-! ### BIP341 -/

/-- BIP341's decoding of a standard hash type (`hash_type & 3` with DEFAULT read as ALL, `hash_type & 0x80`)
    in the library's terms -/
theorem ht_facts341 : ∀ ht ∈ Spec.Sighash.stdHashTypes,
    ((if ht = 0 then 1 else ht % 4) = 3 ↔ base ht = Gen.sighashSingle) ∧
    ((if ht = 0 then 1 else ht % 4) = 2 ↔ base ht = Gen.sighashNone) ∧
    (ht / 128 % 2 = 1 ↔ acp ht = true) ∧ Spec.Sighash.stdHashTypes.contains ht = true ∧ ht < 256 := by
  decide

/-- the annex the code feeds into the message: `witness[-1]` when `has_annex()` -/
def modelAnnex (cfg : Cfg) (w : Witness) : Option (Option Bytes) := do
  let a ← w.hasAnnex cfg
  if a then (fromEnd w.items 1).map some else pure none

/-! the fields of BIP341's `SigMsg`, with the hash type decoded as the library decodes it -/

def specMid (sha : Bytes → Bytes) (st : Spec.Sighash.Tx) (spent : List Spec.Sighash.TxOut) (ht : Nat) : Bytes :=
  if ¬ acp ht then
    sha (st.vin.map fun i => Spec.Sighash.serOutPoint i.prevout).flatten
    ++ sha (spent.map fun o => Spec.Sighash.le 8 o.nValue).flatten
    ++ sha (spent.map fun o => Spec.Sighash.serScript o.scriptPubKey).flatten
    ++ sha (st.vin.map fun i => Spec.Sighash.le 4 i.nSequence).flatten
  else []

def specOuts (sha : Bytes → Bytes) (st : Spec.Sighash.Tx) (ht : Nat) : Bytes :=
  if base ht ≠ Gen.sighashNone ∧ base ht ≠ Gen.sighashSingle then sha (st.vout.map Spec.Sighash.serTxOut).flatten else []

def specInput (si : Spec.Sighash.TxIn) (sp : Spec.Sighash.TxOut) (i ht : Nat) : Bytes :=
  if acp ht then Spec.Sighash.serOutPoint si.prevout ++ Spec.Sighash.le 8 sp.nValue
    ++ Spec.Sighash.serScript sp.scriptPubKey ++ Spec.Sighash.le 4 si.nSequence
  else Spec.Sighash.le 4 i

def specAnnex (sha : Bytes → Bytes) (annex : Option Bytes) : Bytes :=
  match annex with | some x => sha (Spec.Sighash.compactSize x.length ++ x) | none => []

def specSingle (sha : Bytes → Bytes) (st : Spec.Sighash.Tx) (i ht : Nat) : Option Bytes :=
  if base ht = Gen.sighashSingle then (st.vout[i]?).map fun o => sha (Spec.Sighash.serTxOut o) else some []

theorem bip341Mid_spec (H : Hashes) (t : Tx) (st : Spec.Sighash.Tx) (spent : List Spec.Sighash.TxOut) (ht : Nat)
    (hins : All₂ RepIn t.ins st.vin) (hsp : All₂ RepSpent t.ins spent) :
    bip341Mid Cfg.repaired H { tx := t } ht = some (specMid H.sha256 st spent ht, { tx := t }) := by
  cases h : acp ht <;>
    simp [bip341Mid, specMid, h, shaPrevouts, shaAmounts, shaScriptPubkeys, shaSequences, Cfg.repaired,
      prevoutsBytes_spec hins, sequencesBytes_spec hins, amountsBytes_spec hsp, spksBytes_spec hsp]

theorem bip341Outs_spec (H : Hashes) (t : Tx) (st : Spec.Sighash.Tx) (ht : Nat) (houts : All₂ RepOut t.outs st.vout) :
    bip341Outs Cfg.repaired H { tx := t } ht = some (specOuts H.sha256 st ht, { tx := t }) := by
  unfold bip341Outs specOuts
  by_cases c : base ht ≠ Gen.sighashNone ∧ base ht ≠ Gen.sighashSingle
  · rw [if_pos c, if_pos c]; simp [shaOutputs, Cfg.repaired, serOuts_spec houts]
  · rw [if_neg c, if_neg c]

theorem bip341Input_spec (txin : TxIn) (si : Spec.Sighash.TxIn) (sp : Spec.Sighash.TxOut) (i ht : Nat)
    (hi : i < 2 ^ 32) (hr : RepIn txin si) (hs : RepSpent txin sp) :
    bip341Input txin i ht = some (specInput si sp i ht) := by
  obtain ⟨s1, s2, s3, spk, s4, s5⟩ := hs
  cases h : acp ht <;>
    simp [bip341Input, specInput, h, Gen.bip341PrevIndexW, Gen.bip341AmountW, Gen.sequenceSerW, Gen.bip341InputIndexW,
      hr.index, hr.seq, le8_spec s2, le4_spec hi, s1, s4, script_serialize_spec s5 s3, Spec.Sighash.serOutPoint, hr.1]

theorem bip341Single_spec (H : Hashes) (t : Tx) (st : Spec.Sighash.Tx) (i ht : Nat) (houts : All₂ RepOut t.outs st.vout) :
    bip341Single H t i ht = specSingle H.sha256 st i ht := by
  unfold bip341Single specSingle
  by_cases c : base ht = Gen.sighashSingle
  · rw [if_pos c, if_pos c]
    rcases houts.getElem? i with ⟨h1, h2⟩ | ⟨o, so, h1, h2, hr⟩
    · simp [h1, h2]
    · simp [h1, h2, txout_serialize_spec hr]
  · rw [if_neg c, if_neg c]

theorem modelAnnex_inv {cfg : Cfg} {w : Witness} {annex : Option Bytes} (h : modelAnnex cfg w = some annex) :
    w.hasAnnex cfg = some annex.isSome ∧ (annex.isSome = true → fromEnd w.items 1 = annex) := by
  simp only [modelAnnex, Option.pure_def, Option.bind_eq_bind, Option.bind_eq_some_iff] at h
  obtain ⟨a, h1, h2⟩ := h
  cases a with
  | false => simp at h2; subst h2; exact ⟨h1, nofun⟩
  | true =>
    simp only [if_true, Option.map_eq_some_iff] at h2
    obtain ⟨l, h3, rfl⟩ := h2
    exact ⟨h1, fun _ => h3⟩

theorem bip341Annex_spec (H : Hashes) (txin : TxIn) (annex : Option Bytes)
    (hl : annex.isSome = true → fromEnd txin.witness.items 1 = annex)
    (hlen : ∀ x, annex = some x → x.length < 2 ^ 64) :
    bip341Annex H txin annex.isSome = some (specAnnex H.sha256 annex) := by
  cases annex with
  | none => simp [bip341Annex, specAnnex]
  | some x => simp [bip341Annex, specAnnex, hl rfl, encodeVarstr_spec (hlen x rfl), Spec.Sighash.serScript]

/-- the extension the code appends for `ext_flag == 1`, as the specification's `Ext` -/
def modelExt (cfg : Cfg) (H : Hashes) (xonlyOK : Bytes → Bool) (w : Witness) (extFlag : Nat) : Option (Option Spec.Sighash.Ext) :=
  if extFlag = 1 then (tapLeafHash cfg H.sha256 xonlyOK w).map fun lh => some { tapleafHash := lh }
  else if extFlag = 0 then some none else none

theorem sigMsg_std (sha : Bytes → Bytes) (st : Spec.Sighash.Tx) (spent : List Spec.Sighash.TxOut) (i ht extF : Nat)
    (annex : Option Bytes) (si : Spec.Sighash.TxIn) (sp : Spec.Sighash.TxOut) (hht : ht ∈ Spec.Sighash.stdHashTypes)
    (hlen : spent.length = st.vin.length) (h2 : st.vin[i]? = some si) (h3 : spent[i]? = some sp) :
    Spec.Sighash.sigMsg sha st spent i ht extF annex =
      (specSingle sha st i ht).map fun sg =>
        [UInt8.ofNat ht] ++ (Spec.Sighash.le 4 st.nVersion ++ Spec.Sighash.le 4 st.nLockTime ++ specMid sha st spent ht
          ++ specOuts sha st ht)
        ++ ([UInt8.ofNat (extF * 2 + (if annex.isSome then 1 else 0))] ++ specInput si sp i ht ++ specAnnex sha annex)
        ++ sg := by
  obtain ⟨g3, g2, gacp, f4, _⟩ := ht_facts341 ht hht
  simp only [Spec.Sighash.sigMsg, f4, hlen, h2, h3, not_true_eq_false, ne_eq, if_false, gacp, specMid, specOuts,
    specInput, specAnnex, specSingle, Bool.not_eq_true]
  generalize (if ht = 0 then 1 else ht % 4) = ot at g2 g3
  by_cases c : base ht = Gen.sighashSingle
  · rw [if_pos (g3.mpr c), if_pos c]
    cases st.vout[i]? with
    | none => rfl
    | some o => simp only [g2, g3, Option.map_some]; rfl
  · rw [if_neg (fun h => c (g3.mp h)), if_neg c]
    simp only [g2, g3, Option.map_some, List.append_nil]
    rfl

/-! ### annex, ext_flag, tap leaf -/

theorem u8_eq_iff_toNat (b : UInt8) (n : Nat) (h : n < 256) : (b.toNat == n) = decide (b = UInt8.ofNat n) := by
  by_cases hb : b = UInt8.ofNat n
  · subst hb; simp [Nat.mod_eq_of_lt h]
  · have : ¬ b.toNat = n := by
      intro e; apply hb; rw [← e]; simp
    simp [hb, this]

theorem fromEnd_one (items : List Bytes) : fromEnd items 1 = items.getLast? := by
  unfold fromEnd
  cases items with
  | nil => rfl
  | cons a l => simp [List.getLast?_eq_getElem?]

/-- `hlast`: the code raises IndexError on an empty last element of a stack of two or more -/
theorem modelAnnex_spec (w : Witness) (hlast : w.items.length < 2 ∨ w.items.getLast? ≠ some []) :
    modelAnnex Cfg.repaired w = some (Spec.Sighash.annexOf w.items) := by
  unfold modelAnnex Witness.hasAnnex Spec.Sighash.annexOf
  simp only [Cfg.repaired]
  by_cases h2 : w.items.length < 2
  · have : ¬ w.items.length ≥ 2 := by omega
    simp [h2, this]
  · have h2' : w.items.length ≥ 2 := by omega
    simp only [h2, if_false, h2', if_true]
    cases hl : w.items.getLast? with
    | none => simp
    | some last =>
      cases last with
      | nil =>
        rcases hlast with h | h
        · omega
        · exact absurd hl h
      | cons b r =>
        simp only [Option.pure_def, Option.bind_eq_bind, Option.bind_some, Gen.annexTag, fromEnd_one, hl]
        rw [u8_eq_iff_toNat b 80 (by omega)]
        by_cases hb : b = 0x50
        · subst hb; simp
        · simp [hb]

theorem hasAnnex_spec (w : Witness) (hlast : w.items.length < 2 ∨ w.items.getLast? ≠ some []) :
    w.hasAnnex Cfg.repaired = some (Spec.Sighash.annexOf w.items).isSome :=
  (modelAnnex_inv (modelAnnex_spec w hlast)).1

theorem extFlagOf_spec (w : Witness) (hlast : w.items.length < 2 ∨ w.items.getLast? ≠ some []) :
    extFlagOf Cfg.repaired w = some (Spec.Sighash.extFlagOf w.items) := by
  simp only [extFlagOf, hasAnnex_spec w hlast, Option.pure_def, Option.bind_eq_bind, Option.bind_some,
    Spec.Sighash.extFlagOf, Spec.Sighash.scriptPath, Spec.Sighash.withoutAnnex]
  by_cases hsome : (Spec.Sighash.annexOf w.items).isSome = true
  · simp only [hsome, if_true, decide_eq_true_eq, List.length_dropLast]
    rfl  -- `n > 1` unfolds to `2 ≤ n`
  · simp only [hsome, decide_eq_true_eq]
    rfl

theorem tapLeafTag_eq : Gen.tapLeafTag = Spec.Sighash.tagTapLeaf := by decide
theorem tapSighashTag_eq : Gen.tapSighashTag = Spec.Sighash.tagTapSighash := by decide

/-- `Witness.tap_script()` keeps the witness element in `raw`, so it serialises to exactly those bytes -/
theorem tapScript_serialize (raw : Bytes) (hl : raw.length < 2 ^ 63) :
    Script.serialize { parseRaw raw with raw := some raw } = some (Spec.Sighash.serScript raw) := by
  have hr : rawSerialize { parseRaw raw with raw := some raw } = some raw := by
    cases raw with
    | nil => decide
    | cons a l => simp [rawSerialize]
  exact script_serialize_spec hr (by omega)

/-! ### legacy -/

theorem blank_eq : Gen.legacyBlankOut = Spec.Sighash.nullTxOut := by decide

theorem emptyScript_serialize : Script.serialize { cmds := [] } = some (Spec.Sighash.compactSize 0) := by decide

theorem flatten_only_at {α} (g : Nat → α → Bytes) (l : List α) (k i : Nat) :
    ((l.zipIdx k).map fun (p : α × Nat) => if p.2 ≠ i then [] else g p.2 p.1).flatten =
      if k ≤ i then (match l[i - k]? with | some a => g i a | none => []) else [] := by
  induction l generalizing k with
  | nil => by_cases h : k ≤ i <;> simp only [h, if_true, if_false] <;> rfl
  | cons a l ih =>
    simp only [List.zipIdx_cons, List.map_cons, List.flatten_cons, ih]
    by_cases h : k = i
    · subst h
      rw [if_neg (fun hne => hne rfl), if_neg (by omega), if_pos (Nat.le_refl _), Nat.sub_self, List.append_nil]
      rfl
    · rw [if_pos h, List.nil_append]
      by_cases h2 : k ≤ i
      · rw [if_pos (by omega), if_pos h2, show i - k = (i - (k + 1)) + 1 by omega, List.getElem?_cons_succ]
      · rw [if_neg (by omega), if_neg h2]

theorem txin_serialize_spec {p : Bytes} {idx sq : Nat} {sc : Script} {b : Bytes} (hi : idx < 2 ^ 32) (hq : sq < 2 ^ 32)
    (hs : Script.serialize sc = some b) :
    ({ prevTx := p, prevIndex := idx, scriptSig := sc, sequence := sq } : TxIn).serialize =
      some (p.reverse ++ Spec.Sighash.le 4 idx ++ b ++ Spec.Sighash.le 4 sq) := by
  rw [txin_serialize_eq hi hq hs, le_eq, le_eq]

/-- the input loop of `sig_hash_legacy` against Core's `SerializeInput`, input by input -/
theorem legacyIns_spec (i ht : Nat) (redeem : Option Script) (codeS : Script) (codeRaw : Bytes)
    (hraw : rawSerialize codeS = some codeRaw) (hlen : codeRaw.length < 2 ^ 64)
    (hssc : Spec.Sighash.serializeScriptCode codeRaw = Spec.Sighash.serScript codeRaw)
    (hht : HtOK ht) {ins : List TxIn} {vin : List Spec.Sighash.TxIn} (h : All₂ RepIn ins vin) (k : Nat)
    (hcode : ∀ txin, (txin, i) ∈ ins.zipIdx k → legacyCode redeem txin = some codeS) :
    legacyIns i ht redeem k ins =
      some ((vin.zipIdx k).map fun (p : Spec.Sighash.TxIn × Nat) =>
        if acp ht ∧ p.2 ≠ i then [] else Spec.Sighash.legacyInput i ht codeRaw p.2 p.1).flatten := by
  obtain ⟨_, ds, dn⟩ := hht.decode
  induction h generalizing k with
  | nil => rfl
  | @cons txin si r vr hab _ ih =>
    obtain ⟨r1, r2, r3, r4, r5⟩ := hab
    have ihk := ih (k + 1) fun txin' hm => hcode txin' (List.mem_cons_of_mem _ hm)
    show _ = some ((if acp ht ∧ k ≠ i then [] else Spec.Sighash.legacyInput i ht codeRaw k si) ++ _)
    -- the sequence written is 0 for the other inputs under NONE / SINGLE; either way it passes `Sequence(…)`
    have hseq : (if k ≠ i ∧ (Spec.Sighash.isSingle ht ∨ Spec.Sighash.isNone ht) then 0 else si.nSequence) =
        (if k ≠ i ∧ (base ht = Gen.sighashNone ∨ base ht = Gen.sighashSingle) then 0 else txin.sequence) := by
      simp only [ds, dn, r3, or_comm]
    have hsq : (if k ≠ i ∧ (base ht = Gen.sighashNone ∨ base ht = Gen.sighashSingle) then 0 else txin.sequence) < 2 ^ 32 := by
      split <;> omega
    rw [legacyIns, ihk]
    simp only [Spec.Sighash.legacyInput, hseq, hssc, Spec.Sighash.serOutPoint, r1, r2]
    generalize (if k ≠ i ∧ (base ht = Gen.sighashNone ∨ base ht = Gen.sighashSingle) then 0 else txin.sequence) = sq at hsq ⊢
    have hrange : inRange sq Gen.maxSequence = true := decide_eq_true (by show sq ≤ 4294967295; omega)
    by_cases hk : k = i
    · have e := txin_serialize_spec (p := txin.prevTx) r4 hsq (script_serialize_spec hraw hlen)
      have hc := hcode txin (hk ▸ List.mem_cons_self)
      simp only [hk, hc, if_true, ne_eq, not_true_eq_false, and_false, if_false, hrange, Bool.not_true,
        Bool.false_eq_true, Option.bind_eq_bind, Option.bind_some, Option.pure_def, e, List.append_assoc]
    · have e := txin_serialize_spec (p := txin.prevTx) r4 hsq emptyScript_serialize
      by_cases ha : acp ht = true
      · simp only [hk, ha, if_false, ne_eq, not_false_eq_true, and_self, if_true, hrange, Bool.not_true,
          Bool.false_eq_true, Option.bind_eq_bind, Option.bind_some, Option.pure_def]
      · simp only [hk, ha, if_false, ne_eq, not_false_eq_true, and_true, hrange, Bool.not_true,
          Bool.false_eq_true, Option.bind_eq_bind, Option.bind_some, Option.pure_def, e, List.append_assoc]

/-- the output loop of `sig_hash_legacy` (`continue` for NONE, blanks and `break` for SINGLE) against Core's
    `SerializeOutput` over the first `nOutputs` outputs, from position `j` on -/
theorem legacyOuts_spec (i ht : Nat) (hht : HtOK ht) {outs : List TxOut} {vout : List Spec.Sighash.TxOut}
    (houts : All₂ RepOut outs vout) (j : Nat) (hsg : base ht = Gen.sighashSingle → j ≤ i ∧ i - j < outs.length) :
    legacyOuts i ht j outs =
      some (((vout.take (if base ht = Gen.sighashNone then 0 else if base ht = Gen.sighashSingle then i + 1 - j
          else vout.length)).zipIdx j).map fun (p : Spec.Sighash.TxOut × Nat) => Spec.Sighash.legacyOutput i ht p.2 p.1).flatten := by
  obtain ⟨_, ds, _⟩ := hht.decode
  induction houts generalizing j with
  | nil => simp only [legacyOuts, List.take_nil, List.zipIdx_nil, List.map_nil, List.flatten_nil]
  | @cons o so r vr hab _ ih =>
    rw [legacyOuts]
    by_cases n : base ht = Gen.sighashNone
    · have := ih (j + 1) (fun s => absurd (s.symm.trans n) (by decide))
      simp only [if_pos n, List.take_zero] at this ⊢
      exact this
    · by_cases s : base ht = Gen.sighashSingle
      · obtain ⟨hj, hi⟩ := hsg s
        simp only [eq_false n, eq_true s, if_false, if_true, Spec.Sighash.legacyOutput, ds, true_and] at ih ⊢
        by_cases hk : j = i
        · subst hk
          rw [if_pos rfl, txout_serialize_spec hab, show j + 1 - j = 1 by omega]
          simp only [List.take_succ_cons, List.take_zero, List.zipIdx_cons, List.zipIdx_nil, List.map_cons, List.map_nil,
            ne_eq, not_true_eq_false, if_false, List.flatten_cons, List.flatten_nil, List.append_nil]
        · rw [if_neg hk, ih (j + 1) (fun _ => ⟨by omega, by rw [List.length_cons] at hi; omega⟩),
            show i + 1 - j = (i + 1 - (j + 1)) + 1 by omega]
          simp only [Option.pure_def, Option.bind_eq_bind, Option.bind_some, List.take_succ_cons, List.zipIdx_cons,
            List.map_cons, ne_eq, hk, not_false_eq_true, if_true, List.flatten_cons, blank_eq]
      · have := ih (j + 1) (fun s' => absurd s' s)
        simp only [n, s, if_false, Spec.Sighash.legacyOutput, ds, false_and, List.take_length, List.length_cons,
          List.take_succ_cons, List.zipIdx_cons, List.map_cons, List.flatten_cons] at this ⊢
        simp only [txout_serialize_spec hab, this, Option.pure_def, Option.bind_eq_bind, Option.bind_some]

def legacyOfSpec : Spec.Sighash.LegacyResult → LegacyPre
  | .one => .one
  | .preimage b => .pre b

theorem legacy_pre_spec (t : Tx) (st : Spec.Sighash.Tx) (i ht : Nat) (redeem : Option Script) (codeS : Script)
    (codeRaw : Bytes) (rep : Rep t st) (hht : HtOK ht)
    (hcode : ∀ txin, t.ins[i]? = some txin → legacyCode redeem txin = some codeS)
    (hraw : rawSerialize codeS = some codeRaw) (hlen : codeRaw.length < 2 ^ 64)
    (hsep : Spec.Sighash.stripCodeSep codeRaw.length codeRaw = codeRaw) :
    sigHashLegacyPre t i redeem ht = some (legacyOfSpec (Spec.Sighash.legacy st i codeRaw ht)) := by
  have e1 := rep.version
  have e2 := rep.locktime
  obtain ⟨_, _, _, _, nin, nout, hins, houts⟩ := rep
  obtain ⟨da, ds, dn⟩ := hht.decode
  have len1 := hins.length
  have len2 := houts.length
  unfold sigHashLegacyPre Spec.Sighash.legacy
  simp only [da, ds, dn, ← len1, ← len2]
  by_cases c1 : i ≥ t.ins.length
  · rw [if_pos c1, if_pos c1]; rfl
  by_cases c2 : base ht = Gen.sighashSingle ∧ i ≥ t.outs.length
  · rw [if_neg c1, if_neg c1, if_pos c2, if_pos c2]; rfl
  rw [if_neg c1, if_neg c1, if_neg c2, if_neg c2]
  have ssc : Spec.Sighash.serializeScriptCode codeRaw = Spec.Sighash.serScript codeRaw := by
    rw [Spec.Sighash.serializeScriptCode, hsep]
  have insEq := legacyIns_spec i ht redeem codeS codeRaw hraw hlen ssc hht hins 0
    (fun txin hm => hcode txin (List.mem_zipIdx_iff_getElem?.mp hm))
  have inCount : legacyInCount t ht = some (Spec.Sighash.compactSize (if acp ht = true then 1 else t.ins.length)) := by
    rw [legacyInCount, ← apply_ite encodeVarint]
    exact compactSize_eq (by split <;> omega)
  have outCount : legacyOutCount t i ht = some (Spec.Sighash.compactSize
      (if base ht = Gen.sighashNone then 0 else if base ht = Gen.sighashSingle then i + 1 else t.outs.length)) := by
    simp only [legacyOutCount, ← apply_ite encodeVarint]
    exact compactSize_eq (by (repeat' split) <;> omega)
  have outsEq := legacyOuts_spec i ht hht houts 0 fun s =>
    ⟨Nat.zero_le _, Nat.lt_of_not_le fun h => c2 ⟨s, h⟩⟩
  simp only [legacyBody, Gen.legacyVersionW, Gen.locktimeSerW, Gen.legacyHashTypeW, e1, e2, hht.le4, inCount, insEq,
    outCount, outsEq, Option.pure_def, Option.bind_eq_bind, Option.bind_some, Option.map_some, legacyOfSpec,
    Spec.Sighash.concatIdx, Nat.sub_zero, len2]
  cases acp ht
  · simp only [Bool.false_eq_true, false_and, if_false, List.append_assoc]
  · have only := flatten_only_at (fun j (a : Spec.Sighash.TxIn) => Spec.Sighash.legacyInput i ht codeRaw j a) st.vin 0 i
    simp only [Nat.zero_le, if_true, Nat.sub_zero] at only
    simp only [true_and, if_true, only, List.append_assoc]
    cases st.vin[i]? <;> rfl

/-! ### history independence of the repaired code -/

/-- `f` reads only the fields `o.tx`, none of the memo attributes, and returns the object unchanged -/
def Framed {α} (f : TxObj → Option (α × TxObj)) : Prop :=
  ∀ o, f o = (f { tx := o.tx }).map fun r => (r.1, o)

theorem framed_of_pure {α} (g : Tx → Option α) : Framed (fun o => (g o.tx).map fun a => (a, o)) := by
  intro o; show (g o.tx).map _ = ((g o.tx).map _).map _; cases g o.tx <;> rfl

theorem framed_const {α} (a : α) : Framed (fun o => some (a, o)) := fun _ => rfl

theorem frame_step {α} {f : TxObj → Option (α × TxObj)} (hf : Framed f) (o : TxObj) :
    (f o = none ∧ f { tx := o.tx } = none) ∨
    ∃ a, f o = some (a, o) ∧ f { tx := o.tx } = some (a, { tx := o.tx }) := by
  have h1 := hf o
  have h2 := hf { tx := o.tx }
  cases h : f { tx := o.tx } with
  | none => left; rw [h] at h1; exact ⟨h1, rfl⟩
  | some r =>
    right
    rw [h] at h1 h2
    simp only [Option.map_some, Option.some.injEq] at h1 h2
    refine ⟨r.1, h1, ?_⟩
    rw [h2]

theorem framed_bind {α β} {f : TxObj → Option (α × TxObj)} {k : α → TxObj → Option (β × TxObj)}
    (hf : Framed f) (hk : ∀ a, Framed (k a)) :
    Framed (fun o => (f o).bind fun r => k r.1 r.2) := by
  intro o
  rcases frame_step hf o with ⟨h1, h2⟩ | ⟨a, h1, h2⟩
  · simp only [h1, h2, Option.bind_none, Option.map_none]
  · simp only [h1, h2, Option.bind_some]
    exact hk a o

theorem framed_bind_pure {α β} (x : Tx → Option α) {k : α → TxObj → Option (β × TxObj)} (hk : ∀ a, Framed (k a)) :
    Framed (fun o => (x o.tx).bind fun a => k a o) := by
  intro o
  simp only
  cases x o.tx with
  | none => rfl
  | some a => simp only [Option.bind_some]; exact hk a o

theorem framed_ite {α} (c : Prop) [Decidable c] {f g : TxObj → Option (α × TxObj)} (hf : Framed f) (hg : Framed g) :
    Framed (fun o => if c then f o else g o) := by
  intro o
  by_cases h : c
  · simp only [h, if_true]; exact hf o
  · simp only [h, if_false]; exact hg o

/-- `framed_bind` in the form the `do` blocks of the model unfold to (`let (a, o) ← f o; …`) -/
theorem framed_bind_pair {α β} {f : TxObj → Option (α × TxObj)} {k : α × TxObj → Option (β × TxObj)}
    (hf : Framed f) (hk : ∀ a, Framed (fun o => k (a, o))) : Framed (fun o => (f o).bind k) :=
  framed_bind (k := fun a o => k (a, o)) hf hk

theorem framed_map {α β} {f : TxObj → Option (α × TxObj)} (hf : Framed f) (g : α → β) :
    Framed (fun o => (f o).map fun r => (g r.1, r.2)) := by
  intro o
  rcases frame_step hf o with ⟨h1, h2⟩ | ⟨a, h1, h2⟩ <;> simp only [h1, h2, Option.map_none, Option.map_some]

/-- a midstate of the repaired code: a function of the fields, hashed; the object is handed back -/
theorem framed_lift {α β} (g : Tx → Option α) (h : α → β) : Framed (fun o => (g o.tx).bind fun p => some (h p, o)) :=
  framed_bind_pure g fun _ => framed_const _

theorem bip143Prevouts_framed (H : Hashes) (ht : Nat) : Framed (fun o => bip143Prevouts Cfg.repaired H o ht) := by
  unfold bip143Prevouts
  exact framed_ite _ (framed_lift (fun t => prevoutsBytes t.ins) H.hash256) (framed_const _)
theorem bip143Sequence_framed (H : Hashes) (ht : Nat) : Framed (fun o => bip143Sequence Cfg.repaired H o ht) := by
  unfold bip143Sequence
  exact framed_ite _ (framed_lift (fun t => sequencesBytes t.ins) H.hash256) (framed_const _)
theorem bip143Outputs_framed (H : Hashes) (i ht : Nat) : Framed (fun o => bip143Outputs Cfg.repaired H o i ht) := by
  intro o
  show bip143Outputs _ _ o _ _ = (bip143Outputs _ _ { tx := o.tx } _ _).map _
  unfold bip143Outputs
  by_cases c : base ht ≠ Gen.sighashSingle ∧ base ht ≠ Gen.sighashNone
  · rw [if_pos c, if_pos c]; exact framed_lift (fun t => serOuts t.outs) H.hash256 o
  · rw [if_neg c, if_neg c]
    by_cases d : base ht = Gen.sighashSingle ∧ i < o.tx.outs.length
    · rw [if_pos d, if_pos d]
      cases h : o.tx.outs[i]? with
      | none => rfl
      | some out => cases hs : out.serialize <;> simp [hs]
    · rw [if_neg d, if_neg d]; rfl

theorem sigHashBip143Pre_framed (H : Hashes) (i : Nat) (r w : Option Script) (ht : Nat) :
    Framed (fun o => sigHashBip143Pre Cfg.repaired H o i r w ht) := by
  simp only [sigHashBip143Pre, Option.pure_def, Option.bind_eq_bind]
  refine framed_bind_pure (fun t => t.ins[i]?) fun txin => ?_
  refine framed_bind_pure (fun t => natToLE t.version Gen.bip143VersionW) fun _ => ?_
  refine framed_bind_pair (bip143Prevouts_framed H ht) fun _ => ?_
  dsimp only
  refine framed_bind_pair (bip143Sequence_framed H ht) fun _ => ?_
  dsimp only
  refine framed_bind_pure (fun _ => bip143Input txin r w) fun _ => ?_
  refine framed_bind_pair (bip143Outputs_framed H i ht) fun _ => ?_
  dsimp only
  refine framed_bind_pure (fun t => natToLE t.locktime Gen.locktimeSerW) fun _ => ?_
  exact framed_bind_pure (fun _ => natToLE ht Gen.bip143HashTypeW) fun _ => framed_const _

theorem bip341Mid_framed (H : Hashes) (ht : Nat) : Framed (fun o => bip341Mid Cfg.repaired H o ht) := by
  simp only [bip341Mid, Option.pure_def, Option.bind_eq_bind]
  refine framed_ite _ ?_ (framed_const _)
  refine framed_bind_pair (framed_lift (fun t => prevoutsBytes t.ins) H.sha256) fun _ => ?_
  dsimp only
  refine framed_bind_pair (framed_lift (fun t => amountsBytes t.ins) H.sha256) fun _ => ?_
  dsimp only
  refine framed_bind_pair (framed_lift (fun t => spksBytes t.ins) H.sha256) fun _ => ?_
  dsimp only
  refine framed_bind_pair (framed_lift (fun t => sequencesBytes t.ins) H.sha256) fun _ => ?_
  dsimp only
  exact framed_const _

theorem bip341Outs_framed (H : Hashes) (ht : Nat) : Framed (fun o => bip341Outs Cfg.repaired H o ht) := by
  unfold bip341Outs
  exact framed_ite _ (framed_lift (fun t => serOuts t.outs) H.sha256) (framed_const _)

theorem sigHashBip341Pre_framed (H : Hashes) (x : Bytes → Bool) (i e ht : Nat) :
    Framed (fun o => sigHashBip341Pre Cfg.repaired H x o i e ht) := by
  simp only [sigHashBip341Pre, Option.pure_def, Option.bind_eq_bind]
  refine framed_bind_pure (fun t => t.ins[i]?) fun txin => ?_
  refine framed_bind_pure (fun _ => byteOf ht) fun _ => ?_
  refine framed_bind_pure (fun t => natToLE t.version Gen.bip341VersionW) fun _ => ?_
  refine framed_bind_pure (fun t => natToLE t.locktime Gen.locktimeSerW) fun _ => ?_
  refine framed_bind_pair (bip341Mid_framed H ht) fun _ => ?_
  dsimp only
  refine framed_bind_pair (bip341Outs_framed H ht) fun _ => ?_
  dsimp only
  refine framed_bind_pure (fun _ => txin.witness.hasAnnex Cfg.repaired) fun an => ?_
  refine framed_bind_pure (fun _ => byteOf (e * 2 + if an = true then 1 else 0)) fun _ => ?_
  refine framed_bind_pure (fun _ => bip341Input txin i ht) fun _ => ?_
  refine framed_bind_pure (fun _ => bip341Annex H txin an) fun _ => ?_
  refine framed_bind_pure (fun t => bip341Single H t i ht) fun _ => ?_
  exact framed_bind_pure (fun _ => bip341Ext Cfg.repaired H x txin e) fun _ => framed_const _

theorem sigHashBip143_framed (H : Hashes) (i : Nat) (r w : Option Script) (ht : Nat) :
    Framed (fun o => (sigHashBip143 Cfg.repaired H o i r w ht).map fun p => (SigHash.int p.1, p.2)) :=
  framed_map (framed_map (sigHashBip143Pre_framed H i r w ht) (fun p => beToNat (H.hash256 p))) SigHash.int

theorem sigHashBip341_framed (H : Hashes) (x : Bytes → Bool) (i e ht : Nat) :
    Framed (fun o => (sigHashBip341 Cfg.repaired H x o i e ht).map fun p => (SigHash.bytes p.1, p.2)) :=
  framed_map (framed_map (sigHashBip341Pre_framed H x i e ht) _) _

theorem runQuery_framed (H : Hashes) (x : Bytes → Bool) (q : Query) :
    Framed (fun o => runQuery Cfg.repaired H x o q) := by
  cases q with
  | legacy i r ht =>
    intro o
    simp only [runQuery]
    cases sigHashLegacy H.hash256 o.tx i r ht <;> rfl
  | bip143 i r w ht => exact sigHashBip143_framed H i r w ht
  | bip341 i e ht => exact sigHashBip341_framed H x i e ht
  | auto i ht =>
    intro o
    simp only [runQuery, sigHash, Option.bind_eq_bind]
    cases o.tx.ins[i]? with
    | none => rfl
    | some txin =>
      simp only [Option.bind_some]
      cases route Cfg.repaired txin with
      | none => rfl
      | some rt =>
        simp only [Option.bind_some]
        cases rt with
        | legacy r => simp only []; cases sigHashLegacy H.hash256 o.tx i r ht <;> rfl
        | bip143 r w => exact sigHashBip143_framed H i r w ht o
        | bip341 e => exact sigHashBip341_framed H x i e ht o

def freshAnswer (H : Hashes) (x : Bytes → Bool) (t : Tx) (q : Query) : Option SigHash :=
  (runQuery Cfg.repaired H x { tx := t } q).map (·.1)

/-- the answers an operation list must produce: each query is answered for the fields as they are
    at that moment (after the edits that precede it), by a fresh object -/
def expectedAnswers (H : Hashes) (x : Bytes → Bool) : Tx → List Op → List (Option SigHash)
  | _, [] => []
  | t, .edit f :: r => expectedAnswers H x (f t) r
  | t, .query q :: r => freshAnswer H x t q :: expectedAnswers H x t r

/-- any in-place mutation of the `witness.items` of input `j` -/
def editWitness (j : Nat) (g : List Bytes → List Bytes) (t : Tx) : Tx :=
  { t with ins := t.ins.zipIdx.map fun (p : TxIn × Nat) =>
      if p.2 = j then { p.1 with witness := { items := g p.1.witness.items } } else p.1 }

/-! ### the dispatcher on the standard output kinds -/

theorem is_p2pkh_shape {s : Script} {h : Bytes} (hc : s.cmds = [.op 0x76, .op 0xA9, .push h, .op 0x88, .op 0xAC]) :
    isP2sh s = false ∧ isP2wpkh s = false ∧ isP2wsh s = false ∧ isP2tr s = false := by
  unfold isP2sh isP2wpkh isP2wsh isP2tr
  rw [hc]
  exact ⟨rfl, rfl, rfl, rfl⟩

theorem is_p2sh_shape {s : Script} {h : Bytes} (hc : s.cmds = [.op 0xA9, .push h, .op 0x87]) (hl : h.length = 20) :
    isP2sh s = true ∧ isP2wpkh s = false ∧ isP2wsh s = false ∧ isP2tr s = false := by
  unfold isP2sh isP2wpkh isP2wsh isP2tr
  rw [hc]
  exact ⟨beq_iff_eq.mpr hl, rfl, rfl, rfl⟩

theorem is_v0_shape {s : Script} {h : Bytes} (hc : s.cmds = [.op 0, .push h]) :
    isP2sh s = false ∧ isP2wpkh s = (h.length == 20) ∧ isP2wsh s = (h.length == 32) ∧ isP2tr s = false := by
  unfold isP2sh isP2wpkh isP2wsh isP2tr
  rw [hc]
  exact ⟨rfl, rfl, rfl, rfl⟩

theorem is_p2tr_shape {s : Script} {h : Bytes} (hc : s.cmds = [.op 0x51, .push h]) (hl : h.length = 32) :
    isP2sh s = false ∧ isP2wpkh s = false ∧ isP2wsh s = false ∧ isP2tr s = true := by
  unfold isP2sh isP2wpkh isP2wsh isP2tr
  rw [hc]
  exact ⟨rfl, rfl, rfl, beq_iff_eq.mpr hl⟩

theorem convertScript_lt {raw : Bytes} (h : raw.length < 2 ^ 63) : convertScript raw = some (parseRaw raw) :=
  if_pos h

theorem route_native {cfg : Cfg} {txin : TxIn} {spk : Script} (hspk : txin.scriptPubkey = some spk)
    (h : isP2sh spk = false) :
    route cfg txin =
      (if isP2wsh spk then
        (match txin.witness.items.getLast? with
         | some raw => (convertScript raw).map some
         | none => none)
       else some none).bind fun ws =>
      if isP2wpkh spk || isP2wsh spk then some (.bip143 none ws)
      else if isP2tr spk then (extFlagOf cfg txin.witness).bind fun e => some (.bip341 e)
      else some (.legacy none) := by
  simp only [route, hspk, h, Option.pure_def, Option.bind_eq_bind, Option.bind_some, Bool.false_eq_true, if_false,
    Bool.or_false]
  cases isP2wsh spk <;> rfl

theorem route_p2pkh (txin : TxIn) (spk : Script) (h : Bytes) (hspk : txin.scriptPubkey = some spk)
    (hc : spk.cmds = [.op 0x76, .op 0xA9, .push h, .op 0x88, .op 0xAC]) :
    route Cfg.repaired txin = some (.legacy none) ∧ legacyCode none txin = some spk := by
  obtain ⟨f1, f2, f3, f4⟩ := is_p2pkh_shape hc
  refine ⟨?_, hspk⟩
  rw [route_native hspk f1, f2, f3, f4]
  rfl

theorem route_p2wpkh (txin : TxIn) (spk : Script) (h : Bytes) (hspk : txin.scriptPubkey = some spk)
    (hc : spk.cmds = [.op 0, .push h]) (hl : h.length = 20) :
    route Cfg.repaired txin = some (.bip143 none none) ∧ scriptCode143 txin none none = some (p2pkhScript h) := by
  obtain ⟨f1, f2, f3, f4⟩ := is_v0_shape hc
  rw [hl] at f2 f3
  constructor
  · rw [route_native hspk f1, f2, f3]
    rfl
  · simp only [scriptCode143, hspk, Option.bind_eq_bind, Option.bind_some, p2pkhOfSecond, hc, List.getElem?_cons_succ,
      List.getElem?_cons_zero]

theorem route_p2wsh (txin : TxIn) (spk : Script) (h raw : Bytes) (hspk : txin.scriptPubkey = some spk)
    (hc : spk.cmds = [.op 0, .push h]) (hl : h.length = 32)
    (hw : txin.witness.items.getLast? = some raw) (hr : raw.length < 2 ^ 63) :
    route Cfg.repaired txin = some (.bip143 none (some (parseRaw raw))) ∧
    scriptCode143 txin none (some (parseRaw raw)) = some (parseRaw raw) := by
  obtain ⟨f1, f2, f3, f4⟩ := is_v0_shape hc
  rw [hl] at f2 f3
  refine ⟨?_, rfl⟩
  rw [route_native hspk f1, f2, f3, hw]
  simp only [convertScript_lt hr]
  rfl

theorem route_p2tr (txin : TxIn) (spk : Script) (h : Bytes) (hspk : txin.scriptPubkey = some spk)
    (hc : spk.cmds = [.op 0x51, .push h]) (hl : h.length = 32)
    (hlast : txin.witness.items.length < 2 ∨ txin.witness.items.getLast? ≠ some []) :
    route Cfg.repaired txin = some (.bip341 (Spec.Sighash.extFlagOf txin.witness.items)) := by
  obtain ⟨f1, f2, f3, f4⟩ := is_p2tr_shape hc hl
  rw [route_native hspk f1, f2, f3, f4, extFlagOf_spec txin.witness hlast]
  rfl

theorem route_p2sh {cfg : Cfg} {txin : TxIn} {spk : Script} {raw : Bytes} (hspk : txin.scriptPubkey = some spk)
    (h : isP2sh spk = true) (hs : txin.scriptSig.cmds.getLast? = some (.push raw)) (hr : raw.length < 2 ^ 63) :
    route cfg txin =
      (if isP2wsh spk || isP2wsh (parseRaw raw) then
        (match txin.witness.items.getLast? with
         | some raw => (convertScript raw).map some
         | none => none)
       else some none).bind fun ws =>
      if isP2wpkh spk || isP2wpkh (parseRaw raw) || isP2wsh spk || isP2wsh (parseRaw raw) then
        some (.bip143 (some (parseRaw raw)) ws)
      else if isP2tr spk then (extFlagOf cfg txin.witness).bind fun e => some (.bip341 e)
      else some (.legacy (some (parseRaw raw))) := by
  simp only [route, hspk, h, hs, convertScript_lt hr, Option.map_some, Option.pure_def, Option.bind_eq_bind,
    Option.bind_some, if_true]
  cases (isP2wsh spk || isP2wsh (parseRaw raw)) <;> rfl

theorem route_p2sh_legacy (txin : TxIn) (spk : Script) (h raw : Bytes) (hspk : txin.scriptPubkey = some spk)
    (hc : spk.cmds = [.op 0xA9, .push h, .op 0x87]) (hl : h.length = 20)
    (hs : txin.scriptSig.cmds.getLast? = some (.push raw)) (hr : raw.length < 2 ^ 63)
    (hn1 : isP2wpkh (parseRaw raw) = false) (hn2 : isP2wsh (parseRaw raw) = false) :
    route Cfg.repaired txin = some (.legacy (some (parseRaw raw))) ∧
    legacyCode (some (parseRaw raw)) txin = some (parseRaw raw) := by
  obtain ⟨f1, f2, f3, f4⟩ := is_p2sh_shape hc hl
  refine ⟨?_, rfl⟩
  rw [route_p2sh hspk f1 hs hr, f2, f3, f4, hn1, hn2]
  rfl

theorem route_p2sh_p2wpkh (txin : TxIn) (spk : Script) (h raw h' : Bytes) (hspk : txin.scriptPubkey = some spk)
    (hc : spk.cmds = [.op 0xA9, .push h, .op 0x87]) (hl : h.length = 20)
    (hs : txin.scriptSig.cmds.getLast? = some (.push raw)) (hr : raw.length < 2 ^ 63)
    (hrc : (parseRaw raw).cmds = [.op 0, .push h']) (hl' : h'.length = 20) :
    route Cfg.repaired txin = some (.bip143 (some (parseRaw raw)) none) ∧
    scriptCode143 txin (some (parseRaw raw)) none = some (p2pkhScript h') := by
  obtain ⟨f1, f2, f3, f4⟩ := is_p2sh_shape hc hl
  obtain ⟨_, g2, g3, _⟩ := is_v0_shape hrc
  rw [hl'] at g2 g3
  constructor
  · rw [route_p2sh hspk f1 hs hr, f2, f3, g2, g3]
    rfl
  · simp only [scriptCode143, p2pkhOfSecond, hrc, List.getElem?_cons_succ, List.getElem?_cons_zero]

theorem route_p2sh_p2wsh (txin : TxIn) (spk : Script) (h raw h' wraw : Bytes) (hspk : txin.scriptPubkey = some spk)
    (hc : spk.cmds = [.op 0xA9, .push h, .op 0x87]) (hl : h.length = 20)
    (hs : txin.scriptSig.cmds.getLast? = some (.push raw)) (hr : raw.length < 2 ^ 63)
    (hrc : (parseRaw raw).cmds = [.op 0, .push h']) (hl' : h'.length = 32)
    (hw : txin.witness.items.getLast? = some wraw) (hwr : wraw.length < 2 ^ 63) :
    route Cfg.repaired txin = some (.bip143 (some (parseRaw raw)) (some (parseRaw wraw))) ∧
    scriptCode143 txin (some (parseRaw raw)) (some (parseRaw wraw)) = some (parseRaw wraw) := by
  obtain ⟨f1, f2, f3, f4⟩ := is_p2sh_shape hc hl
  obtain ⟨_, g2, g3, _⟩ := is_v0_shape hrc
  rw [hl'] at g2 g3
  refine ⟨?_, rfl⟩
  rw [route_p2sh hspk f1 hs hr, f2, f3, g2, g3, hw]
  simp only [convertScript_lt hwr]
  rfl

/-! ### OP_CODESEPARATOR -/

/-- where Core's `GetOp` finds a complete command (opcode byte `c`, then `h` length bytes and `d` data bytes, all
    there), the library's loop reads the same bytes -/
theorem readCmd_pushHeader {c : UInt8} {r : Bytes} {h d : Nat}
    (hh : Spec.Sighash.pushHeader c.toNat r = some (h, d)) (hl : ¬ r.length < h + d) :
    (readCmd c r).2 = (r.drop (h + d), true) := by
  have pd (k : Nat) (l r' : Bytes) (hk : l.length = k) (hl : ¬ (l ++ r').length < k + d) :
      (readData k d (l ++ r')).2 = ((l ++ r').drop (k + d), true) := by
    rw [List.length_append, hk] at hl
    rw [readData_complete k d l r' hk (by omega), ← List.drop_drop, List.drop_left' hk]
  unfold Spec.Sighash.pushHeader at hh
  unfold readCmd
  -- the two chains test the same opcodes; case by case with `rw … at hh` (`split at hh` on this goal is dear to check)
  by_cases h0 : c.toNat ≤ 75
  · rw [if_pos h0] at hh
    cases hh
    by_cases h1 : 1 ≤ c.toNat
    · rw [if_pos ⟨h1, h0⟩]
      exact pd 0 [] r rfl hl
    · rw [show c.toNat = 0 by omega]
      rfl
  rw [if_neg h0] at hh
  rw [if_neg fun h => h0 h.2]
  by_cases h1 : c.toNat = 76
  · rw [if_pos h1] at hh
    rw [if_pos h1]
    match r, hh with
    | a :: r', hh => cases hh; simpa [leToNat] using pd 1 [a] r' rfl hl
  rw [if_neg h1] at hh
  rw [if_neg h1]
  by_cases h2 : c.toNat = 77
  · rw [if_pos h2] at hh
    rw [if_pos h2]
    match r, hh with
    | a :: b :: r', hh => cases hh; simpa [leToNat] using pd 2 [a, b] r' rfl hl
  rw [if_neg h2] at hh
  rw [if_neg h2]
  by_cases h3 : c.toNat = 78
  · rw [if_pos h3] at hh
    rw [if_pos h3]
    match r, hh with
    | a :: b :: c' :: e :: r', hh => cases hh; simpa [leToNat] using pd 4 [a, b, c', e] r' rfl hl
  rw [if_neg h3] at hh
  cases hh
  rw [if_neg h3]
  rfl

/-- whatever the bytes: where the library's parse finds no OP_CODESEPARATOR, Core's `stripCodeSep` changes nothing -/
theorem stripCodeSep_cmdsOf (g : Nat) : ∀ s : Bytes, Cmd.op 0xab ∉ (cmdsOf s).1 → Spec.Sighash.stripCodeSep g s = s := by
  -- on the specification's own fuel: `cmdsOf` has none
  induction g with
  | zero => intro s _; rfl
  | succ g ih =>
    intro s hno
    cases s with
    | nil => rfl
    | cons c r =>
      rw [cmdsOf] at hno
      have hc : ¬ c.toNat = 0xab := by
        intro e
        have hr : (readCmd c r).1 = .op 0xab := by
          rw [readCmd, e, if_neg (by omega), if_neg (by omega), if_neg (by omega), if_neg (by omega)]
        rw [hr] at hno
        split at hno <;> exact hno List.mem_cons_self
      simp only [Spec.Sighash.stripCodeSep, hc, if_false]
      cases hh : Spec.Sighash.pushHeader c.toNat r with
      | none => rfl
      | some p =>
        obtain ⟨h, d⟩ := p
        simp only
        split
        · rfl
        · next hl =>
          have e := readCmd_pushHeader hh hl
          rw [show (readCmd c r).2.2 = true from congrArg Prod.snd e, if_pos rfl,
            show (readCmd c r).2.1 = r.drop (h + d) from congrArg Prod.fst e] at hno
          rw [ih _ fun hm => hno (List.mem_cons_of_mem _ hm), List.cons_append, List.take_append_drop]

theorem stripCodeSep_parsed (raw : Bytes) (hno : Cmd.op 0xab ∉ (parseRaw raw).cmds) :
    Spec.Sighash.stripCodeSep raw.length raw = raw :=
  stripCodeSep_cmdsOf _ raw (by rwa [parseRaw_eq] at hno)

/-! ### digest consumers: finalize_p2tr_multisig -/

def digestFor (H : Hashes) (x : Bytes → Bool) (o : TxObj) (i ht : Nat) : Option SigHash :=
  (sigHash Cfg.repaired H x o i ht).map (·.1)

def NoMatch (H : Hashes) (x : Bytes → Bool) (verify : Bytes → Bytes → Bytes → Option Bool) (o : TxObj) (i : Nat)
    (point s : Bytes) : Prop :=
  schnorrSigKind s = .skip ∨
  ∃ ht body msg, schnorrSigKind s = .sig ht body ∧ digestFor H x o i ht = some (.bytes msg) ∧ verify point msg body = some false

def Picked (H : Hashes) (x : Bytes → Bool) (verify : Bytes → Bytes → Bytes → Option Bool) (o : TxObj) (i : Nat)
    (point : Bytes) (sigs : List Bytes) : Option Bytes → Prop
  | some s => ∃ pre post ht body msg, sigs = pre ++ s :: post ∧ schnorrSigKind s = .sig ht body ∧
      digestFor H x o i ht = some (.bytes msg) ∧ verify point msg body = some true ∧
      ∀ s' ∈ pre, NoMatch H x verify o i point s'
  | none => ∀ s' ∈ sigs, NoMatch H x verify o i point s'

theorem Picked.cons {H : Hashes} {x : Bytes → Bool} {verify : Bytes → Bytes → Bytes → Option Bool} {o : TxObj} {i : Nat}
    {point sig : Bytes} {r : List Bytes} {pick : Option Bytes} (nm : NoMatch H x verify o i point sig)
    (hp : Picked H x verify o i point r pick) : Picked H x verify o i point (sig :: r) pick := by
  cases pick with
  | some s =>
    obtain ⟨pre, post, ht, body, msg, h1, h2, h3, h4, h5⟩ := hp
    exact ⟨sig :: pre, post, ht, body, msg, by rw [h1]; rfl, h2, h3, h4, List.forall_mem_cons.mpr ⟨nm, h5⟩⟩
  | none => exact List.forall_mem_cons.mpr ⟨nm, hp⟩

theorem pickSig_spec (H : Hashes) (x : Bytes → Bool) (verify : Bytes → Bytes → Bytes → Option Bool) (i : Nat) (point : Bytes)
    (o : TxObj) (sigs : List Bytes) (pick : Option Bytes) (o' : TxObj)
    (h : pickSig Cfg.repaired H x verify i point o sigs = some (pick, o')) :
    o' = o ∧ Picked H x verify o i point sigs pick := by
  induction sigs with
  | nil =>
    simp only [pickSig, Option.some.injEq, Prod.mk.injEq] at h
    obtain ⟨rfl, rfl⟩ := h
    exact ⟨rfl, fun _ hs => nomatch hs⟩
  | cons sig r ih =>
    unfold pickSig at h
    cases hk : schnorrSigKind sig with
    | skip => rw [hk] at h; exact ⟨(ih h).1, (ih h).2.cons (Or.inl hk)⟩
    | bad => rw [hk] at h; cases h
    | sig ht body =>
      rw [hk] at h
      simp only at h
      rcases frame_step (f := fun o => sigHash Cfg.repaired H x o i ht) (runQuery_framed H x (.auto i ht)) o with ⟨h1, _⟩ | ⟨a, h1, _⟩
      · rw [h1] at h; cases h
      · rw [h1] at h
        cases a with
        | int n => cases h
        | bytes msg =>
          simp only at h
          have hd : digestFor H x o i ht = some (.bytes msg) := by rw [digestFor, h1]; rfl
          cases hv : verify point msg body with
          | none => rw [hv] at h; cases h
          | some b =>
            rw [hv] at h
            cases b with
            | true =>
              simp only [Option.some.injEq, Prod.mk.injEq] at h
              obtain ⟨rfl, rfl⟩ := h
              exact ⟨rfl, [], r, ht, body, msg, rfl, hk, hd, hv, fun _ hs => nomatch hs⟩
            | false => exact ⟨(ih h).1, (ih h).2.cons (Or.inr ⟨ht, body, msg, hk, hd, hv⟩)⟩

/-! ### a toy transaction (for the satisfiability example and the witnesses of Props/C05) -/

def toyTx : Tx :=
  ⟨2, [⟨List.replicate 32 1, 0, ⟨[], none⟩, 0xFFFFFFFE, ⟨[]⟩, some 1000, none⟩], [⟨900, ⟨[.op 0x51], none⟩⟩], 0, true⟩

def toySt : Spec.Sighash.Tx := ⟨2, [⟨⟨List.replicate 32 1, 0⟩, [], 0xFFFFFFFE⟩], [⟨900, [0x51]⟩], 0⟩

theorem toy_rep : Rep toyTx toySt :=
  ⟨rfl, rfl, by decide, by decide, by decide, by decide, .cons ⟨by decide, rfl, rfl, by decide, by decide⟩ .nil,
    .cons ⟨rfl, by decide, by decide, by decide⟩ .nil⟩

end Buidl.Tx
