/-
  MerkleTree.populate_tree, a cursor walking an array of levels, is BIP37's recursive parsing: one equation for an
  iteration at an inner node (`step_inner`), runs of the loop (`Runs`), and the simulation `sim` of the traversal of
  a subtree by the machine, with the bound on the number of iterations.
-/
import Buidl.Proofs.Bip37
namespace Buidl.Merkle
open Buidl Buidl.Spec.Merkle

/-! ## the cursor machine of populate_tree simulated by the recursive traversal -/

theorem lt_levelSize_iff (n D d i : Nat) : i < levelSize n D d ↔ i * 2 ^ (D - d) < n := by
  unfold levelSize
  have hp : 0 < 2 ^ (D - d) := Nat.two_pow_pos _
  generalize 2 ^ (D - d) = p at hp
  rw [Nat.lt_iff_add_one_le, Nat.le_div_iff_mul_le hp, Nat.add_mul]
  omega

/-- node `(d', i')` lies in the subtree of node `(d, i)` -/
def InSub (d i d' i' : Nat) : Prop := d ≤ d' ∧ i' / 2 ^ (d' - d) = i

def Untouched (d i : Nat) (f g : Nat → Nat → Option Bytes) : Prop := ∀ d' i', ¬ InSub d i d' i' → g d' i' = f d' i'

def upd (f : Nat → Nat → Option Bytes) (d i : Nat) (v : Bytes) : Nat → Nat → Option Bytes :=
  fun d' i' => if d' = d ∧ i' = i then some v else f d' i'

theorem InSub.self (d i : Nat) : InSub d i d i := ⟨Nat.le_refl _, by rw [Nat.sub_self]; exact Nat.div_one i⟩

theorem InSub.of_child {d j d' i' : Nat} (h : InSub (d + 1) j d' i') : InSub d (j / 2) d' i' := by
  obtain ⟨h1, h2⟩ := h
  refine ⟨by omega, ?_⟩
  rw [show d' - d = (d' - (d + 1)) + 1 by omega, Nat.pow_succ, ← Nat.div_div_eq_div_mul, h2]

theorem InSub.of_left {d i d' i' : Nat} (h : InSub (d + 1) (i * 2) d' i') : InSub d i d' i' := by
  have := h.of_child; rwa [Nat.mul_div_cancel _ (by decide)] at this

theorem InSub.of_right {d i d' i' : Nat} (h : InSub (d + 1) (i * 2 + 1) d' i') : InSub d i d' i' := by
  have := h.of_child; rwa [show (i * 2 + 1) / 2 = i by omega] at this

theorem InSub.left_right_disjoint {d i d' i' : Nat} (h : InSub (d + 1) (i * 2) d' i') : ¬ InSub (d + 1) (i * 2 + 1) d' i' := by
  intro h'; have := h.2; have := h'.2; omega

theorem not_inSub_child_self (d i j : Nat) : ¬ InSub (d + 1) j d i := by
  intro h; have := h.1; omega

theorem not_inSub_child_root (d j : Nat) : ¬ InSub (d + 1) j 0 0 := by
  intro h; have := h.1; omega

theorem upd_self (f) (d i : Nat) (v : Bytes) : upd f d i v d i = some v := if_pos ⟨rfl, rfl⟩

theorem upd_untouched (f) (d i : Nat) (v : Bytes) : Untouched d i f (upd f d i v) := by
  intro d' i' hn
  exact if_neg (by rintro ⟨rfl, rfl⟩; exact hn (InSub.self _ _))

theorem Untouched.trans {d i : Nat} {f g k : Nat → Nat → Option Bytes} (h1 : Untouched d i f g) (h2 : Untouched d i g k) :
    Untouched d i f k := fun d' i' hn => by rw [h2 d' i' hn, h1 d' i' hn]

theorem Untouched.of_left {d i : Nat} {f g : Nat → Nat → Option Bytes} (h : Untouched (d + 1) (i * 2) f g) :
    Untouched d i f g := fun d' i' hn => h d' i' (fun hin => hn hin.of_left)

theorem Untouched.of_right {d i : Nat} {f g : Nat → Nat → Option Bytes} (h : Untouched (d + 1) (i * 2 + 1) f g) :
    Untouched d i f g := fun d' i' hn => h d' i' (fun hin => hn hin.of_right)

/-! A node `(d, i)` has height `h` with `d + h = D`; it exists when its first leaf `i * 2^h` does. -/
section step
variable {H : Bytes → Bytes} {n D : Nat} {nodes : Nat → Nat → Option Bytes} {d i : Nat} {fb : List Bool} {hs pv : List Bytes}

theorem node_exists {d' i' h : Nat} (hd : d' + h = D) (hi : i' * 2 ^ h < n) : d' ≤ D ∧ i' < levelSize n D d' :=
  ⟨by omega, (lt_levelSize_iff n D d' i').mpr (by rwa [show D - d' = h by omega])⟩

theorem get_eq {d' i' h : Nat} (hd : d' + h = D) (hi : i' * 2 ^ h < n) :
    (TreeSt.mk n D nodes d i fb hs pv).get d' i' = some (nodes d' i') :=
  if_pos (node_exists hd hi)

theorem set_eq {d' i' h : Nat} (v : Bytes) (hd : d' + h = D) (hi : i' * 2 ^ h < n) :
    (TreeSt.mk n D nodes d i fb hs pv).set d' i' v = some (TreeSt.mk n D (upd nodes d' i' v) d i fb hs pv) :=
  if_pos (node_exists hd hi)

theorem rightExists_eq {h : Nat} (hd : d + (h + 1) = D) :
    (TreeSt.mk n D nodes d i fb hs pv).rightExists = some (decide ((i * 2 + 1) * 2 ^ h < n)) := by
  unfold TreeSt.rightExists
  rw [if_pos (by show d + 1 ≤ D; omega)]
  simp only [gt_iff_lt, lt_levelSize_iff, show D - (d + 1) = h by omega]

variable (H) (nodes) (fb) (hs pv)

theorem step_leaf (b : Bool) (x : Bytes) (hi : i < n) :
    step H ⟨n, D, nodes, D, i, b :: fb, x :: hs, pv⟩
      = some ⟨n, D, upd nodes D i x, D - 1, i / 2, fb, hs, pv ++ (if b then [x] else []).map List.reverse⟩ := by
  have hset := set_eq (nodes := nodes) (d := D) (i := i) (fb := fb) (hs := hs) (pv := pv) x (Nat.add_zero D)
    (show i * 2 ^ 0 < n by omega)
  simp only [step, if_true, hset, Option.bind_eq_bind, Option.bind_some, Option.pure_def]
  cases b <;> simp [TreeSt.up]

theorem step_leaf_none (h : fb = [] ∨ hs = []) : step H ⟨n, D, nodes, D, i, fb, hs, pv⟩ = none := by
  simp only [step, if_true]
  rcases h with rfl | rfl
  · rfl
  · cases fb <;> rfl

theorem step_inner {h : Nat} (hd : d + (h + 1) = D) (hi : i * 2 ^ (h + 1) < n) :
    step H ⟨n, D, nodes, d, i, fb, hs, pv⟩ =
      match nodes (d + 1) (i * 2) with
      | none =>
        match fb, hs with
        | [], _ => none
        | false :: _, [] => none
        | false :: fb', x :: hs' => some ⟨n, D, upd nodes d i x, d - 1, i / 2, fb', hs', pv⟩
        | true :: fb', _ => some ⟨n, D, nodes, d + 1, i * 2, fb', hs, pv⟩
      | some xl =>
        if (i * 2 + 1) * 2 ^ h < n then
          match nodes (d + 1) (i * 2 + 1) with
          | none => some ⟨n, D, nodes, d + 1, i * 2 + 1, fb, hs, pv⟩
          | some xr => some ⟨n, D, upd nodes d i (H (xl ++ xr)), d - 1, i / 2, fb, hs, pv⟩
        else some ⟨n, D, upd nodes d i (H (xl ++ xl)), d - 1, i / 2, fb, hs, pv⟩ := by
  have hne : ¬ d = D := by omega
  have hil : i * 2 * 2 ^ h < n := by rwa [Nat.mul_assoc, ← Nat.pow_succ']
  have hset := fun fb hs v => set_eq (nodes := nodes) (d := d) (i := i) (fb := fb) (hs := hs) (pv := pv) v hd hi
  simp only [step, hne, if_false, get_eq (show d + 1 + h = D by omega) hil, Option.bind_eq_bind, Option.bind_some,
    Option.pure_def]
  cases nodes (d + 1) (i * 2) with
  | none =>
    match fb, hs with
    | [], _ => rfl
    | false :: _, [] => rfl
    | false :: fb', x :: hs' => simp only [hset, Option.bind_some]; rfl
    | true :: fb', _ => rfl
  | some xl =>
    simp only [rightExists_eq hd, Option.bind_some, decide_eq_true_eq, merkleParent]
    split
    · next hre =>
      simp only [get_eq (show d + 1 + h = D by omega) hre, Option.bind_some]
      cases nodes (d + 1) (i * 2 + 1) with
      | none => rfl
      | some xr => simp only [hset, Option.bind_some]; rfl
    · simp only [hset, Option.bind_some]; rfl
end step

def Runs (H : Bytes → Bytes) (k : Nat) (s : TreeSt) (o : Option TreeSt) : Prop :=
  ∀ fuel, runLoop H (fuel + k) s = match o with
    | some s' => runLoop H fuel s'
    | none => none

theorem Runs.one {H : Bytes → Bytes} {s : TreeSt} (hroot : s.get 0 0 = some none) : Runs H 1 s (step H s) := fun fuel => by
  simp only [runLoop, hroot]
  cases step H s <;> rfl

theorem Runs.trans {H : Bytes → Bytes} {k k' : Nat} {s s' : TreeSt} {o : Option TreeSt} (h1 : Runs H k s (some s'))
    (h2 : Runs H k' s' o) : Runs H (k + k') s o := fun fuel => by
  rw [Nat.add_comm k, ← Nat.add_assoc]
  exact (h1 _).trans (h2 fuel)

theorem root_get {n D : Nat} (hn : 0 < n) {nodes : Nat → Nat → Option Bytes} (hr : nodes 0 0 = none) (d i fb hs pv) :
    (TreeSt.mk n D nodes d i fb hs pv).get 0 0 = some none := by
  rw [get_eq (Nat.zero_add D) (by omega), hr]

/-- The loop of populate_tree, started at a node whose subtree is still empty, performs exactly the
    recursive BIP37 traversal of that subtree and returns to the parent (or fails where it fails).
    A node is visited at most three times (descend, go right, combine) and its first visit pops a flag bit,
    which bounds the number of iterations by three times the flag bits consumed. -/
theorem sim (H : Bytes → Bytes) {n D : Nat} :
    ∀ (h d i : Nat) (nodes : Nat → Nat → Option Bytes) (fb : List Bool) (hs pv : List Bytes),
      d + h = D → i * 2 ^ h < n → (∀ d' i', InSub d i d' i' → nodes d' i' = none) → nodes 0 0 = none →
      match extract H h (n - i * 2 ^ h) fb hs with
      | some (x, m, fb', hs') =>
        ∃ k nodes', k + 3 * fb'.length ≤ 3 * fb.length ∧ nodes' d i = some x ∧ Untouched d i nodes nodes' ∧
          Runs H k ⟨n, D, nodes, d, i, fb, hs, pv⟩ (some ⟨n, D, nodes', d - 1, i / 2, fb', hs', pv ++ m.map List.reverse⟩)
      | none => ∃ k, k ≤ 3 * fb.length + 1 ∧ Runs H k ⟨n, D, nodes, d, i, fb, hs, pv⟩ none := by
  intro h
  induction h with
  | zero =>
    intro d i nodes fb hs pv hd hi _ hroot
    obtain rfl : d = D := hd
    have go := Runs.one (H := H) (root_get (D := d) (Nat.zero_lt_of_lt hi) hroot d i fb hs pv)
    match fb, hs with
    | b :: fb0, x0 :: hs0 =>
      rw [extract_zero_cons]
      rw [step_leaf H nodes fb0 hs0 pv b x0 (by omega)] at go
      exact ⟨1, upd nodes d i x0, by simp only [List.length_cons]; omega, upd_self _ _ _ _, upd_untouched _ _ _ _, go⟩
    | [], _ =>
      rw [extract_zero_none H _ _ _ (Or.inl rfl)]
      rw [step_leaf_none H nodes _ _ pv (Or.inl rfl)] at go
      exact ⟨1, by omega, go⟩
    | _ :: _, [] =>
      rw [extract_zero_none H _ _ _ (Or.inr rfl)]
      rw [step_leaf_none H nodes _ _ pv (Or.inr rfl)] at go
      exact ⟨1, by omega, go⟩
  | succ h ih =>
    intro d i nodes fb hs pv hd hi hsub hroot
    have hleft : nodes (d + 1) (i * 2) = none := hsub _ _ (InSub.self _ _).of_left
    -- one iteration at this node, whatever the array holds: the equation `step_inner`
    have go : ∀ nodes fb hs pv, nodes 0 0 = none → Runs H 1 ⟨n, D, nodes, d, i, fb, hs, pv⟩ _ :=
      fun nodes fb hs pv hr => step_inner H nodes fb hs pv hd hi ▸ Runs.one (root_get (Nat.zero_lt_of_lt hi) hr d i fb hs pv)
    -- first visit, the left child not yet known: the flag bit decides (0: the next hash is this node; 1: descend to
    -- the left; no bit, or 0 and no hash: IndexError)
    have go0 := go nodes fb hs pv hroot
    simp only [hleft] at go0
    match fb, hs with
    | [], _ =>
      rw [extract_succ_nil]
      exact ⟨1, by omega, go0⟩
    | false :: fb0, [] =>
      rw [extract_succ_false_nil]
      exact ⟨1, by omega, go0⟩
    | false :: fb0, x0 :: hs0 =>
      rw [extract_succ_false]
      exact ⟨1, upd nodes d i x0, by simp only [List.length_cons]; omega, upd_self _ _ _ _, upd_untouched _ _ _ _,
        by rw [List.map_nil, List.append_nil]; exact go0⟩
    | true :: fb0, hs =>
      have hstep1 : Runs H 1 ⟨n, D, nodes, d, i, true :: fb0, hs, pv⟩ (some ⟨n, D, nodes, d + 1, i * 2, fb0, hs, pv⟩) := go0
      have ihL := ih (d + 1) (i * 2) nodes fb0 hs pv (by omega) (by rwa [Nat.mul_assoc, ← Nat.pow_succ'])
        (fun d' i' hin => hsub d' i' hin.of_left) hroot
      rw [extract_succ_true, extract_min, Nat.pow_succ', ← Nat.mul_assoc]
      cases hexL : extract H h (n - i * 2 * 2 ^ h) fb0 hs with
      | none =>
        rw [hexL] at ihL
        obtain ⟨kl, hkb, hfl⟩ := ihL
        exact ⟨_, by simp only [List.length_cons]; omega, hstep1.trans hfl⟩
      | some resL =>
        obtain ⟨xl, ml, fb1, hs1⟩ := resL
        rw [hexL] at ihL
        obtain ⟨kl, nodes1, hbl, hn1, hu1, hrunL⟩ := ihL
        rw [Nat.add_sub_cancel, Nat.mul_div_cancel _ (by decide)] at hrunL
        have hroot1 : nodes1 0 0 = none := by rw [hu1 0 0 (not_inSub_child_root _ _)]; exact hroot
        -- second visit, the left child known: go right if there is a right child, else combine the left hash with itself
        have go1 := go nodes1 fb1 hs1 (pv ++ ml.map List.reverse) hroot1
        simp only [gt_iff_lt, Nat.lt_sub_iff_add_lt', ← Nat.succ_mul]
        by_cases hre : (i * 2 + 1) * 2 ^ h < n
        · -- the right child exists
          have hsubR : ∀ d' i', InSub (d + 1) (i * 2 + 1) d' i' → nodes1 d' i' = none := fun d' i' hin => by
            rw [hu1 d' i' (fun hin' => hin'.left_right_disjoint hin)]; exact hsub d' i' hin.of_right
          simp only [hn1, if_pos hre, hsubR _ _ (InSub.self _ _)] at go1
          have ihR := ih (d + 1) (i * 2 + 1) nodes1 fb1 hs1 (pv ++ ml.map List.reverse) (by omega) hre hsubR hroot1
          rw [if_pos hre, Nat.sub_sub, ← Nat.succ_mul]
          cases hexR : extract H h (n - (i * 2 + 1) * 2 ^ h) fb1 hs1 with
          | none =>
            rw [hexR] at ihR
            obtain ⟨kr, hkb, hfr⟩ := ihR
            exact ⟨_, by simp only [List.length_cons]; omega, ((hstep1.trans hrunL).trans go1).trans hfr⟩
          | some resR =>
            obtain ⟨xr, mr, fb2, hs2⟩ := resR
            rw [hexR] at ihR
            obtain ⟨kr, nodes2, hbr, hn2, hu2, hrunR⟩ := ihR
            rw [Nat.add_sub_cancel, show (i * 2 + 1) / 2 = i by omega, List.append_assoc, ← List.map_append] at hrunR
            have hroot2 : nodes2 0 0 = none := by rw [hu2 0 0 (not_inSub_child_root _ _)]; exact hroot1
            -- third visit, both children known: combine
            have go2 := go nodes2 fb2 hs2 (pv ++ (ml ++ mr).map List.reverse) hroot2
            simp only [hu2 _ _ (InSub.self _ _).left_right_disjoint, hn1, if_pos hre, hn2] at go2
            exact ⟨_, upd nodes2 d i (H (xl ++ xr)), by simp only [List.length_cons]; omega, upd_self _ _ _ _,
              (hu1.of_left.trans hu2.of_right).trans (upd_untouched _ _ _ _),
              (((hstep1.trans hrunL).trans go1).trans hrunR).trans go2⟩
        · -- no right child
          simp only [hn1, if_neg hre] at go1
          rw [if_neg hre]
          exact ⟨_, upd nodes1 d i (H (xl ++ xl)), by simp only [List.length_cons]; omega, upd_self _ _ _ _,
            hu1.of_left.trans (upd_untouched _ _ _ _), (hstep1.trans hrunL).trans go1⟩

theorem runLoop_done (H : Bytes → Bytes) (fuel : Nat) {s : TreeSt} {r : Bytes} (h : s.get 0 0 = some (some r)) :
    runLoop H (fuel + 1) s = some (some (r, s)) := by
  simp only [runLoop, h]

/-- MerkleTree(total).populate_tree(flag_bits, hashes) is TraverseAndExtract from the root followed by the two
    leftover checks, at whatever depth `maxDepth n` gives (`extract_min`: leaves beyond the capacity of the root are
    not looked at) -/
theorem populate_eq_extract (H : Bytes → Bytes) (n : Nat) (hn : 0 < n) (fl : List Bool) (hs : List Bytes) :
    populate H n fl hs =
      match extract H (maxDepth n) n fl hs with
      | none => .error
      | some (x, m, fb', hs') =>
        if hs'.length ≠ 0 then .error else if fb'.any id then .error else .done x (m.map List.reverse) := by
  have hsim := sim H (n := n) (maxDepth n) 0 0 (fun _ _ => none) fl hs [] (Nat.zero_add _) (by omega) (fun _ _ _ => rfl) rfl
  rw [Nat.zero_mul, Nat.sub_zero] at hsim
  unfold populate
  cases hex : extract H (maxDepth n) n fl hs with
  | none =>
    rw [hex] at hsim
    obtain ⟨k, hk, hrun⟩ := hsim
    have := hrun (3 * fl.length + 4 - k)
    rw [Nat.sub_add_cancel (by omega)] at this
    simp only [this]
  | some res =>
    obtain ⟨x, m, fb', hs'⟩ := res
    rw [hex] at hsim
    obtain ⟨k, nodes', hk, hx, _, hrun⟩ := hsim
    have := hrun (3 * fl.length + 3 - k + 1)
    dsimp only at this
    rw [show 3 * fl.length + 3 - k + 1 + k = 3 * fl.length + 4 by omega,
      runLoop_done H _ ((get_eq (Nat.zero_add _) (by omega)).trans (congrArg some hx))] at this
    simp only [this, List.nil_append]

/-! ## flag bytes <-> flag bits -/

theorem byteBitsLE_bitsLEToNat : ∀ c : List Bool, byteBitsLE c.length (bitsLEToNat c) = c
  | [] => rfl
  | b :: r => by
    have e : ((if b then 1 else 0) + 2 * bitsLEToNat r) % 2 = 1 ↔ b = true := by cases b <;> simp <;> omega
    have e' : ((if b then 1 else 0) + 2 * bitsLEToNat r) / 2 = bitsLEToNat r := by cases b <;> simp <;> omega
    simp only [List.length_cons, byteBitsLE, bitsLEToNat, e, e', byteBitsLE_bitsLEToNat r, Bool.decide_eq_true]

theorem bitsLEToNat_lt : ∀ c : List Bool, bitsLEToNat c < 2 ^ c.length
  | [] => Nat.one_pos
  | b :: r => by
    have := bitsLEToNat_lt r
    rw [bitsLEToNat, List.length_cons, Nat.pow_succ]
    cases b <;> simp <;> omega

theorem chunk8_flatMap : ∀ (k : Nat) (bits : List Bool), bits.length = 8 * k →
    (chunk8 k bits).flatMap (fun c => byteBitsLE 8 (UInt8.ofNat (bitsLEToNat c)).toNat) = bits
  | 0, bits, h => by rw [List.eq_nil_of_length_eq_zero h]; rfl
  | k + 1, bits, h => by
    have hl : (bits.take 8).length = 8 := by rw [List.length_take]; omega
    have hlt := bitsLEToNat_lt (bits.take 8)
    have h8 := byteBitsLE_bitsLEToNat (bits.take 8)
    rw [hl] at hlt h8
    rw [chunk8, List.flatMap_cons, u8_ofNat_toNat, Nat.mod_eq_of_lt hlt, h8,
      chunk8_flatMap k (bits.drop 8) (by rw [List.length_drop]; omega), List.take_append_drop]

theorem bytesToBitField_bitFieldToBytes (bits : List Bool) (bs : Bytes) (h : bitFieldToBytes bits = some bs) :
    bytesToBitField bs = bits := by
  unfold bitFieldToBytes at h
  split at h
  · cases h
  · next hm =>
    cases h
    rw [bytesToBitField, List.flatMap_map]
    exact chunk8_flatMap _ bits (by omega)

theorem padBits_length_mod (bits : List Bool) : (padBits bits).length % 8 = 0 := by
  unfold padBits; simp only [List.length_append, List.length_replicate]; omega

theorem bitFieldToBytes_padBits_isSome (bits : List Bool) : ∃ bs, bitFieldToBytes (padBits bits) = some bs :=
  ⟨_, if_neg (by simp [padBits_length_mod])⟩

/-! ## top level: populate_tree / is_valid against the specification -/

theorem populate_zero (H : Bytes → Bytes) (fl : List Bool) (hs : List Bytes) : populate H 0 fl hs = .error := by
  have : ∀ D, ¬ 0 < levelSize 0 D 0 := fun D => by rw [lt_levelSize_iff]; omega
  simp only [populate, runLoop, TreeSt.get, this, and_false, if_false]

/-- populate_tree against the parser of a whole proof, for any depth that is ⌈log₂ n⌉ (which of its two sizing
    expressions the source uses is Props.C17's `tree_depth_ceil_log2`) -/
theorem populate_eq_extractProof (H : Bytes → Bytes) (n : Nat) (hD : 0 < n → IsCeilLog2 n (maxDepth n))
    (fl : List Bool) (hs : List Bytes) :
    populate H n fl hs =
      match extractProof H n fl hs with
      | none => .error
      | some (r, m) => .done r (m.map List.reverse) := by
  by_cases hn : n = 0
  · subst hn; rw [populate_zero]; rfl
  · have hd := hD (by omega)
    rw [populate_eq_extract H n (by omega), extractProof, if_neg hn, (ceilLog2_spec n).unique hd]
    cases extract H (maxDepth n) n fl hs with
    | none => rfl
    | some res =>
      obtain ⟨x, m, fb', hs'⟩ := res
      cases hs' with
      | nil => cases hany : fb'.any id <;> simp [hany]
      | cons a r => simp

theorem populate_done_iff {H : Bytes → Bytes} {n : Nat} (hD : 0 < n → IsCeilLog2 n (maxDepth n)) {fl : List Bool}
    {hs p : List Bytes} {r : Bytes} :
    populate H n fl hs = .done r p ↔ ∃ m, extractProof H n fl hs = some (r, m) ∧ p = m.map List.reverse := by
  rw [populate_eq_extractProof H n hD]
  cases extractProof H n fl hs with
  | none => simp
  | some rm =>
    obtain ⟨r', m'⟩ := rm
    constructor
    · intro h; cases h; exact ⟨_, rfl, rfl⟩
    · rintro ⟨m, h, rfl⟩; cases h; rfl

theorem isValid_true_iff {H : Bytes → Bytes} {root : Bytes} {n : Nat} {hashes : List Bytes} {flags : Bytes}
    {p : List Bytes} :
    isValid H root n hashes flags = .ok (some (true, p)) ↔
      ∃ r, populate H n (bytesToBitField flags) (hashes.map List.reverse) = .done r p ∧ r.reverse = root := by
  unfold isValid
  cases populate H n (bytesToBitField flags) (hashes.map List.reverse) with
  | outOfFuel => simp
  | error => simp
  | done r pv =>
    simp only [Except.ok.injEq, Option.some.injEq, Prod.mk.injEq, decide_eq_true_eq, PopOut.done.injEq]
    constructor
    · rintro ⟨h1, rfl⟩; exact ⟨r, ⟨rfl, rfl⟩, h1⟩
    · rintro ⟨r', ⟨rfl, rfl⟩, h⟩; exact ⟨h, rfl⟩

/-! ## one MerkleTree object used more than once -/

/-- `some none`: `runLoop` ran out of fuel -/
theorem runLoopSt_of_runLoop (H : Bytes → Bytes) (j : Nat) : ∀ (F : Nat) (s : TreeSt),
    match runLoop H F s with
    | none => (runLoopSt H (F + j) s).2 = none
    | some none => True
    | some (some (r, s')) => runLoopSt H (F + j) s = (s', some (some r))
  | 0, s => trivial
  | F + 1, s => by
    rw [Nat.add_right_comm]
    simp only [runLoopSt, runLoop]
    cases hg : s.get 0 0 with
    | none => rfl
    | some o =>
      cases o with
      | some r => rfl
      | none =>
        cases hs : step H s with
        | none => rfl
        | some s' => exact runLoopSt_of_runLoop H j F s'

end Buidl.Merkle
