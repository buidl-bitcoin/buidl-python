/-
  Helper lemmas for C02 (BIP340 Schnorr): Buidl.Model.Schnorr against Buidl.Spec.BIP340, the part that needs
  neither the group law nor primality: the tag cache is not observable, the tags are those of the BIP, the
  constructor check of SchnorrSignature.
-/
import Buidl.Model.Schnorr
import Buidl.Spec.BIP340
import Buidl.Proofs.SecpConst
namespace Buidl.Schnorr
open Buidl Buidl.EC

/-- one step through a `do` block of the models: cheaper to `rw` with than to let `simp` find -/
theorem some_bind_eq {α β : Type} (a : α) (f : α → Option β) : (some a >>= f) = f a := rfl

/-! ### TAG_HASH_CACHE -/

theorem cacheGet_cacheSet (c : Cache) (tag tag' v : Bytes) :
    cacheGet (cacheSet c tag v) tag' = if tag = tag' then some v else cacheGet c tag' := by
  induction c with
  | nil => rfl
  | cons e rest ih =>
    obtain ⟨k, w⟩ := e
    by_cases h : k = tag
    · subst h
      by_cases h' : k = tag' <;> simp [cacheSet, cacheGet, h']
    · by_cases h' : k = tag'
      · subst h'; simp [cacheSet, cacheGet, h, Ne.symm h]
      · simp [cacheSet, cacheGet, h, h', ih]

/-- the invariant of TAG_HASH_CACHE: every entry is `sha256(tag)` doubled -/
def CacheOK (sha256 : Bytes → Bytes) (c : Cache) : Prop :=
  ∀ tag v, cacheGet c tag = some v → v = sha256 tag ++ sha256 tag

theorem cacheOK_nil (sha256 : Bytes → Bytes) : CacheOK sha256 [] := by
  intro tag v h; simp [cacheGet] at h

theorem taggedHash_spec (sha256 : Bytes → Bytes) (c : Cache) (hc : CacheOK sha256 c) (tag msg : Bytes) :
    ∃ c', taggedHash sha256 c tag msg = some (Spec.BIP340.hashTag sha256 tag msg, c') ∧ CacheOK sha256 c' := by
  unfold taggedHash Spec.BIP340.hashTag
  cases hg : cacheGet c tag with
  | none =>
    refine ⟨cacheSet c tag (sha256 tag ++ sha256 tag), ?_, fun tag' v hv => ?_⟩
    · simp only [cacheGet_cacheSet, if_true]
    · rw [cacheGet_cacheSet] at hv
      split at hv
      · next e => cases hv; rw [e]
      · exact hc tag' v hv
  | some pre =>
    refine ⟨c, ?_, hc⟩
    have := hc tag pre hg
    simp [hg, this]

theorem taggedHistory_ok (sha256 : Bytes → Bytes) : ∀ (calls : List (Bytes × Bytes)) (c : Cache),
    CacheOK sha256 c →
    ∃ c', taggedHistory sha256 c calls =
        some (calls.map (fun tm => sha256 (sha256 tm.1 ++ sha256 tm.1 ++ tm.2)), c') ∧ CacheOK sha256 c' := by
  intro calls
  induction calls with
  | nil => intro c hc; exact ⟨c, rfl, hc⟩
  | cons tm rest ih =>
    intro c hc
    obtain ⟨tag, msg⟩ := tm
    obtain ⟨c1, h1, hc1⟩ := taggedHash_spec sha256 c hc tag msg
    obtain ⟨c2, h2, hc2⟩ := ih c1 hc1
    exact ⟨c2, by simp [taggedHistory, h1, h2, Spec.BIP340.hashTag], hc2⟩

theorem tagAux_eq : Gen.schnorrTagAux = Spec.BIP340.tagAux := by decide
theorem tagNonce_eq : Gen.schnorrTagNonce = Spec.BIP340.tagNonce := by decide
theorem tagChallenge_eq : Gen.schnorrTagChallenge = Spec.BIP340.tagChallenge := by decide

/-! ### the constructor check of SchnorrSignature -/

theorem mkSig_eq (R : Pt) (s : Nat) : mkSig R s = if s ≥ N then none else some (R, s) := by
  simp [mkSig, cmpAt, Gen.schnorrSigCmp, cmpOp]

theorem beToNat_lt (b : Bytes) : beToNat b < 256 ^ b.length := Buidl.beToNat_lt b

end Buidl.Schnorr
