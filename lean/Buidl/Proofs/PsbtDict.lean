/-
  The Python-dict model of Buidl.Model.PsbtCodec (`dget`, `dset`, `dunion`, `sortKeys`, `sortedItems`).
  The fact every "up to serialisation" theorem rests on: `sortedItems` depends only on the lookup function of
  a dict with distinct keys.  `dsel d L`, the entries of `d` under the keys `L` in the order of `L`, is what
  `sortedItems` and the written signatures both are.
  `scriptKeys`, the data pushes of a script, is what `PSBTIn.serialize` and `PSBTIn.finalize` both walk along;
  `scriptSigs`, their signatures in script order, is what `finalize` collects.
-/
import Buidl.Model.PsbtCodec
import Buidl.Proofs.ListM
import Buidl.Proofs.Codec
namespace Buidl.Psbt
open Buidl

/-! ### `req` in an `Option` block -/

@[simp] theorem req_eq_some_iff (b : Bool) (u : Unit) : req b = some u ↔ b = true := by
  cases b <;> simp [req]

@[simp] theorem req_eq_none_iff (b : Bool) : req b = none ↔ b = false := by
  cases b <;> simp [req]

theorem req_bind {α} (b : Bool) (f : Unit → Option α) : (req b).bind f = if b then f () else none := by
  cases b <;> rfl

/-- an optional test in front of what follows, as `do` elaborates `if c then req b`: the rest of the block is a
    let-bound function called from both arms (name it with `extract_lets` before any `simp` or `subst`) -/
theorem optReq_bind_eq_some_iff {β : Type} {c b : Bool} {k : Unit → Option β} {r : β} :
    (if c = true then req b >>= k else k ()) = some r ↔ (c = true → b = true) ∧ k () = some r := by
  cases c <;> cases b <;> simp [req]

/-! ### `d.get(k)` and the keys -/

variable {β : Type}

/-- a Python dict never holds a key twice -/
def DNodup (d : Dict β) : Prop := (dkeys d).Nodup

@[simp] theorem dkeys_nil : dkeys ([] : Dict β) = [] := rfl
@[simp] theorem dkeys_cons (k : Bytes) (v : β) (r : Dict β) : dkeys ((k, v) :: r) = k :: dkeys r := rfl
@[simp] theorem dget_nil (k : Bytes) : dget ([] : Dict β) k = none := rfl

theorem dget_cons (k' : Bytes) (v : β) (r : Dict β) (k : Bytes) :
    dget ((k', v) :: r) k = if k' = k then some v else dget r k := rfl

theorem dget_eq_none_iff (d : Dict β) (k : Bytes) : dget d k = none ↔ k ∉ dkeys d := by
  induction d with
  | nil => simp
  | cons e r ih =>
    obtain ⟨k', v⟩ := e
    rw [dget_cons]
    by_cases h : k' = k
    · simp [h]
    · simp [h, ih, Ne.symm h]

theorem mem_dkeys_iff (d : Dict β) (k : Bytes) : k ∈ dkeys d ↔ (dget d k).isSome := by
  rw [Option.isSome_iff_ne_none, Ne, dget_eq_none_iff, Classical.not_not]

theorem dget_some_mem {d : Dict β} {k : Bytes} {v : β} (h : dget d k = some v) : (k, v) ∈ d := by
  induction d with
  | nil => simp at h
  | cons e r ih =>
    obtain ⟨k', v'⟩ := e
    rw [dget_cons] at h
    by_cases hk : k' = k
    · simp only [hk, if_true, Option.some.injEq] at h; subst h; subst hk; simp
    · simp only [hk, if_false] at h; exact List.mem_cons_of_mem _ (ih h)

theorem dget_of_mem {d : Dict β} (hd : DNodup d) {k : Bytes} {v : β} (h : (k, v) ∈ d) : dget d k = some v := by
  induction d with
  | nil => simp at h
  | cons e r ih =>
    obtain ⟨k', v'⟩ := e
    simp only [DNodup, dkeys_cons, List.nodup_cons] at hd
    rw [dget_cons]
    rcases List.mem_cons.mp h with h | h
    · cases h; simp
    · have : k ∈ dkeys r := List.mem_map.mpr ⟨(k, v), h, rfl⟩
      have hne : k' ≠ k := fun e => hd.1 (e ▸ this)
      simp only [hne, if_false]
      exact ih hd.2 h

/-! ### `d[k] = v` -/

theorem dget_dset (d : Dict β) (k k' : Bytes) (v : β) :
    dget (dset d k v) k' = if k' = k then some v else dget d k' := by
  induction d with
  | nil => simp [dset, dget_cons, eq_comm]
  | cons e r ih =>
    obtain ⟨k0, v0⟩ := e
    by_cases h : k' = k
    · subst h; by_cases h0 : k0 = k' <;> simp [dset, dget_cons, h0, ih]
    · by_cases h0 : k0 = k
      · subst h0; simp [dset, dget_cons, h, Ne.symm h]
      · simp [dset, dget_cons, h, h0, ih]

theorem dset_of_not_mem (d : Dict β) (k : Bytes) (v : β) (h : k ∉ dkeys d) : dset d k v = d ++ [(k, v)] := by
  induction d with
  | nil => simp [dset]
  | cons e r ih =>
    obtain ⟨k0, v0⟩ := e
    simp only [dkeys_cons, List.mem_cons, not_or] at h
    have h0 : k0 ≠ k := fun e => h.1 e.symm
    simp [dset, h0, ih h.2]

theorem mem_dkeys_dset (d : Dict β) (k k' : Bytes) (v : β) : k' ∈ dkeys (dset d k v) ↔ k' = k ∨ k' ∈ dkeys d := by
  rw [mem_dkeys_iff, dget_dset, mem_dkeys_iff]
  by_cases h : k' = k <;> simp [h]

theorem dnodup_dset {d : Dict β} (hd : DNodup d) (k : Bytes) (v : β) : DNodup (dset d k v) := by
  induction d with
  | nil => exact List.nodup_cons.mpr ⟨List.not_mem_nil, List.nodup_nil⟩
  | cons e r ih =>
    obtain ⟨k0, v0⟩ := e
    obtain ⟨h0, hr⟩ := List.nodup_cons.mp hd
    rw [dset]
    by_cases h : k0 = k
    · subst h; rw [if_pos rfl]; exact hd
    · rw [if_neg h]
      exact List.nodup_cons.mpr ⟨fun hm => ((mem_dkeys_dset r k k0 v).mp hm).elim h h0, ih hr⟩

/-! ### `{**a, **b}` -/

theorem dunion_nil (a : Dict β) : dunion a [] = a := rfl

theorem dunion_cons (a : Dict β) (e : Bytes × β) (b : Dict β) : dunion a (e :: b) = dunion (dset a e.1 e.2) b := rfl

theorem dnodup_dunion {a : Dict β} (ha : DNodup a) (b : Dict β) : DNodup (dunion a b) := by
  induction b generalizing a with
  | nil => exact ha
  | cons e r ih => rw [dunion_cons]; exact ih (dnodup_dset ha _ _)

theorem mem_dkeys_dunion (a b : Dict β) (k : Bytes) : k ∈ dkeys (dunion a b) ↔ k ∈ dkeys a ∨ k ∈ dkeys b := by
  induction b generalizing a with
  | nil => simp [dunion_nil]
  | cons e r ih =>
    obtain ⟨k0, v0⟩ := e
    rw [dunion_cons, ih, mem_dkeys_dset, dkeys_cons, List.mem_cons, or_comm (a := k = k0), or_assoc]

theorem dget_dunion (a : Dict β) {b : Dict β} (hb : DNodup b) (k : Bytes) :
    dget (dunion a b) k = (dget b k).or (dget a k) := by
  induction b generalizing a with
  | nil => rfl
  | cons e r ih =>
    obtain ⟨k0, v0⟩ := e
    obtain ⟨h0, hr⟩ := List.nodup_cons.mp hb
    rw [dunion_cons, ih _ hr, dget_dset, dget_cons]
    by_cases h : k = k0
    · subst h; rw [if_pos rfl, if_pos rfl, (dget_eq_none_iff r k).mpr h0]; rfl
    · rw [if_neg h, if_neg (Ne.symm h)]

/-! ### the order of `sorted()` on bytes -/

theorem bytesLe_iff_le : ∀ (a b : Bytes), bytesLe a b = true ↔ a ≤ b
  | [], b => by simp [bytesLe]
  | _ :: _, [] => by simp [bytesLe]
  | x :: xs, y :: ys => by
    rw [bytesLe, List.cons_le_cons_iff, Bool.or_eq_true, Bool.and_eq_true, decide_eq_true_eq, beq_iff_eq,
      bytesLe_iff_le xs ys]

theorem bytesLe_refl (a : Bytes) : bytesLe a a = true := by
  rw [bytesLe_iff_le]
  exact List.le_refl a

theorem bytesLe_total (a b : Bytes) : (bytesLe a b || bytesLe b a) = true := by
  rw [Bool.or_eq_true, bytesLe_iff_le, bytesLe_iff_le]
  exact List.le_total a b

theorem bytesLe_trans {a b c : Bytes} (h1 : bytesLe a b = true) (h2 : bytesLe b c = true) : bytesLe a c = true := by
  rw [bytesLe_iff_le] at *
  exact List.le_trans h1 h2

theorem bytesLe_antisymm {a b : Bytes} (h1 : bytesLe a b = true) (h2 : bytesLe b a = true) : a = b := by
  rw [bytesLe_iff_le] at *
  exact List.le_antisymm h1 h2

theorem sortKeys_perm (l : List Bytes) : (sortKeys l).Perm l := List.mergeSort_perm l _

theorem sortKeys_pairwise (l : List Bytes) : (sortKeys l).Pairwise (fun a b => bytesLe a b = true) :=
  List.pairwise_mergeSort (le := bytesLe) (fun _ _ _ h1 h2 => bytesLe_trans h1 h2) bytesLe_total l

theorem mem_sortKeys (l : List Bytes) (k : Bytes) : k ∈ sortKeys l ↔ k ∈ l := (sortKeys_perm l).mem_iff

theorem sortKeys_nodup {l : List Bytes} (h : l.Nodup) : (sortKeys l).Nodup := (sortKeys_perm l).nodup_iff.mpr h

theorem sortKeys_eq_of_perm {l1 l2 : List Bytes} (h : l1.Perm l2) : sortKeys l1 = sortKeys l2 :=
  List.mergeSort_eq_of_perm bytesLe (fun _ _ _ => bytesLe_trans) bytesLe_total (fun _ _ => bytesLe_antisymm) h

theorem sortKeys_of_sorted {l : List Bytes} (h : l.Pairwise (fun a b => bytesLe a b = true)) : sortKeys l = l :=
  List.mergeSort_of_pairwise h

theorem sortKeys_idem (l : List Bytes) : sortKeys (sortKeys l) = sortKeys l := sortKeys_of_sorted (sortKeys_pairwise l)

/-! ### serialisation order depends on the lookup function only -/

theorem dkeys_perm_of_dget_eq {a b : Dict β} (ha : DNodup a) (hb : DNodup b) (h : ∀ k, dget a k = dget b k) :
    (dkeys a).Perm (dkeys b) := by
  refine (List.perm_ext_iff_of_nodup ha hb).mpr fun k => ?_
  rw [mem_dkeys_iff, mem_dkeys_iff, h k]

theorem sortedItems_ext {a b : Dict β} (ha : DNodup a) (hb : DNodup b) (h : ∀ k, dget a k = dget b k) :
    sortedItems a = sortedItems b := by
  unfold sortedItems
  rw [sortKeys_eq_of_perm (dkeys_perm_of_dget_eq ha hb h)]
  congr 1
  funext k
  rw [h k]

/-! ### `[(k, d[k]) for k in L if k in d]` -/

def dsel (d : Dict β) (L : List Bytes) : Dict β := L.filterMap fun k => (dget d k).map fun v => (k, v)

theorem sortedItems_eq_dsel (d : Dict β) : sortedItems d = dsel d (sortKeys (dkeys d)) := rfl

theorem mem_of_mem_dsel {d : Dict β} {L : List Bytes} {e : Bytes × β} (h : e ∈ dsel d L) : e ∈ d := by
  obtain ⟨k, _, hk⟩ := List.mem_filterMap.mp h
  obtain ⟨v, hv, rfl⟩ := Option.map_eq_some_iff.mp hk
  exact dget_some_mem hv

theorem dkeys_dsel (d : Dict β) (L : List Bytes) : dkeys (dsel d L) = L.filter fun k => (dget d k).isSome := by
  unfold dsel
  induction L with
  | nil => rfl
  | cons k r ih =>
    cases hk : dget d k with
    | none => simp [hk, ih]
    | some v => simp [hk, ih]

theorem dnodup_dsel (d : Dict β) {L : List Bytes} (h : L.Nodup) : DNodup (dsel d L) := by
  unfold DNodup
  rw [dkeys_dsel]
  exact h.filter _

theorem dget_dsel (d : Dict β) (L : List Bytes) (k : Bytes) : dget (dsel d L) k = if k ∈ L then dget d k else none := by
  unfold dsel
  induction L with
  | nil => simp
  | cons k0 r ih =>
    rw [List.filterMap_cons]
    cases h0 : dget d k0 with
    | none =>
      simp only [Option.map_none]
      rw [ih]
      by_cases hk : k = k0
      · subst hk; simp [h0]
      · simp [hk]
    | some v =>
      simp only [Option.map_some]
      rw [dget_cons, ih]
      by_cases hk : k0 = k
      · subst hk; simp [h0]
      · simp [hk, Ne.symm hk]

theorem dsel_dsel (d : Dict β) {L L' : List Bytes} (h : ∀ k ∈ L', k ∈ L) : dsel (dsel d L) L' = dsel d L' :=
  List.filterMap_congr' fun k hk => by rw [dget_dsel, if_pos (h k hk)]

theorem dtruthy_congr {a b : Dict Bytes} {k : Bytes} (h : dget a k = dget b k) : dtruthy a k = dtruthy b k := by
  unfold dtruthy
  rw [h]

theorem dtruthy_dsel (d : Dict Bytes) (L : List Bytes) (k : Bytes) :
    dtruthy (dsel d L) k = (decide (k ∈ L) && dtruthy d k) := by
  unfold dtruthy
  rw [dget_dsel]
  by_cases h : k ∈ L <;> simp [h]

theorem dtruthy_dsel_filter (d : Dict Bytes) {S : List Bytes} {k : Bytes} (hk : k ∈ S) :
    dtruthy (dsel d (S.filter (dtruthy d))) k = dtruthy d k := by
  rw [dtruthy_dsel]
  cases ht : dtruthy d k <;> simp [List.mem_filter, hk, ht]

theorem mem_sortedItems {d : Dict β} {e : Bytes × β} (h : e ∈ sortedItems d) : e ∈ d :=
  mem_of_mem_dsel h

theorem dkeys_sortedItems (d : Dict β) : dkeys (sortedItems d) = sortKeys (dkeys d) := by
  rw [sortedItems_eq_dsel, dkeys_dsel, List.filter_eq_self]
  exact fun k hk => (mem_dkeys_iff d k).mp ((mem_sortKeys _ k).mp hk)

theorem dnodup_sortedItems {d : Dict β} (hd : DNodup d) : DNodup (sortedItems d) :=
  dnodup_dsel d (sortKeys_nodup hd)

theorem dget_sortedItems (d : Dict β) (k : Bytes) : dget (sortedItems d) k = dget d k := by
  rw [sortedItems_eq_dsel, dget_dsel]
  split
  · rfl
  · next h => exact ((dget_eq_none_iff d k).mpr fun hk => h ((mem_sortKeys _ k).mpr hk)).symm

theorem sortedItems_idem (d : Dict β) : sortedItems (sortedItems d) = sortedItems d := by
  rw [sortedItems_eq_dsel (sortedItems d), dkeys_sortedItems, sortKeys_idem]
  exact dsel_dsel d fun _ h => h

/-! ### the keys of a script and their signatures -/

open Buidl.Script in
def scriptSigs (sigs : Dict Bytes) (cmds : List Cmd) : List Bytes :=
  cmds.filterMap fun c => match c with | .push k => dget sigs k | .op _ => none

open Buidl.Script in
def scriptKeys (cmds : List Cmd) : List Bytes :=
  cmds.filterMap fun c => match c with | .push k => some k | .op _ => none

open Buidl.Script in
theorem mem_scriptKeys {cmds : List Cmd} {k : Bytes} : k ∈ scriptKeys cmds ↔ Cmd.push k ∈ cmds := by
  unfold scriptKeys
  rw [List.mem_filterMap]
  exact ⟨fun ⟨c, hc, h⟩ => by cases c <;> cases h; exact hc, fun h => ⟨_, h, rfl⟩⟩

open Buidl.Script in
theorem filterMap_scriptKeys {γ : Type} (g : Bytes → Option γ) (cmds : List Cmd) :
    (scriptKeys cmds).filterMap g = cmds.filterMap fun c => match c with | .push k => g k | .op _ => none := by
  unfold scriptKeys
  rw [List.filterMap_filterMap]
  exact congrArg (List.filterMap · cmds) (funext fun c => by cases c <;> rfl)

end Buidl.Psbt
