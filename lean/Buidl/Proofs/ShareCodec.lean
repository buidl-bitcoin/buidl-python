/-
  `Share.parse (share.mnemonic()) = share` for shares with `ShareOK` (`parse_mnemonic`); what is parsed has `ShareOK`
  (`ofIndices_ok`); one wrong word is refused.  Base-1024 digits of header / padded value, RS1024 create/verify, word table.
-/
import Buidl.Proofs.RS1024
import Buidl.Proofs.Mnemonic
import Buidl.Proofs.Digits
namespace Buidl.Shamir
open Buidl Buidl.Mnemonic

/-! ## base-1024 digits: `Digits.digitsBE 1024` -/

theorem toWords10_eq (n a : Nat) : toWords10 a n = Digits.digitsBE 1024 n a := by
  induction n with
  | zero => rfl
  | succ n ih =>
    rw [toWords10, ih, Digits.digitsBE_succ, Nat.shiftRight_eq_div_pow, and1023, Nat.pow_mul]

theorem wordsValue_digitsBE (n N : Nat) : wordsValue (Digits.digitsBE 1024 n N) = N % 1024 ^ n := by
  rw [wordsValue, Digits.foldl_shl_or 10 _ (Digits.digitsBE_lt (by decide) n N) 0,
    show (2 : Nat) ^ 10 = 1024 from rfl, Digits.ofDigitsBE_digitsBE]

/-! ## Share.parse ∘ Share.mnemonic -/

theorem share_new_some_iff (sbl id e gi gt gc mi mt v : Nat) (sh : Share) :
    Share.new sbl id e gi gt gc mi mt v = some sh ↔
      (gi ≤ 15 ∧ 1 ≤ gt ∧ gt ≤ gc ∧ gc ≤ 16 ∧ mi ≤ 15 ∧ 1 ≤ mt ∧ mt ≤ 16 ∧ v < 256 ^ (sbl / 8) ∧
        sh = ⟨sbl, id, e, gi, gt, gc, mi, mt, v, natToBE' (sbl / 8) v⟩) := by
  unfold Share.new
  split_ifs
  iterate 5 exact ⟨False.elim, fun h => by omega⟩
  by_cases h6 : v < 256 ^ (sbl / 8)
  · rw [natToBE_some h6, Option.some.injEq]
    exact ⟨fun h => ⟨by omega, by omega, by omega, by omega, by omega, by omega, by omega, h6, h.symm⟩,
      fun h => h.2.2.2.2.2.2.2.2.symm⟩
  · rw [show natToBE v (sbl / 8) = none by simp [natToBE, h6]]
    exact ⟨fun h => (by cases h), fun h => absurd h.2.2.2.2.2.2.2.1 h6⟩

/-- what `Share(...)` returns (`new_eq`), with the four conditions it does not check (`of_new`) -/
structure ShareOK (s : Share) : Prop where
  hid : s.id < 2 ^ 15
  hexp : s.exponent < 32
  hgi : s.groupIndex < 16
  hgt1 : 1 ≤ s.groupThreshold
  hgt2 : s.groupThreshold ≤ s.groupCount
  hgc : s.groupCount ≤ 16
  hmi : s.memberIndex < 16
  hmt1 : 1 ≤ s.memberThreshold
  hmt2 : s.memberThreshold ≤ 16
  hsbl16 : s.shareBitLength % 16 = 0
  hsbl128 : 128 ≤ s.shareBitLength
  hval : s.value < 2 ^ s.shareBitLength
  hbytes : s.bytes = natToBE' (s.shareBitLength / 8) s.value

/-- the four extra hypotheses are the conditions that `Share(...)` does not check -/
theorem ShareOK.of_new {sbl id e gi gt gc mi mt v : Nat} {sh : Share}
    (h : Share.new sbl id e gi gt gc mi mt v = some sh) (hid : id < 2 ^ 15) (he : e < 32) (h16 : sbl % 16 = 0)
    (h128 : 128 ≤ sbl) : ShareOK sh := by
  obtain ⟨g1, g2, g3, g4, g5, g6, g7, g8, rfl⟩ := (share_new_some_iff ..).mp h
  refine ⟨hid, he, Nat.lt_succ_of_le g1, g2, g3, g4, Nat.lt_succ_of_le g5, g6, g7, h16, h128, ?_, rfl⟩
  rwa [show (256 : Nat) ^ (sbl / 8) = 2 ^ (8 * (sbl / 8)) by rw [Nat.pow_mul], show 8 * (sbl / 8) = sbl by omega] at g8

theorem ShareOK.new_eq {s : Share} (ok : ShareOK s) :
    Share.new s.shareBitLength s.id s.exponent s.groupIndex s.groupThreshold s.groupCount s.memberIndex
      s.memberThreshold s.value = some s := by
  have := ok.hsbl16
  refine (share_new_some_iff ..).mpr ⟨Nat.le_of_lt_succ ok.hgi, ok.hgt1, ok.hgt2, ok.hgc, Nat.le_of_lt_succ ok.hmi,
    ok.hmt1, ok.hmt2, ?_, by rw [← ok.hbytes]⟩
  rw [show (256 : Nat) ^ (s.shareBitLength / 8) = 2 ^ (8 * (s.shareBitLength / 8)) by rw [Nat.pow_mul],
    show 8 * (s.shareBitLength / 8) = s.shareBitLength by omega]
  exact ok.hval

theorem shl_or (a f k : Nat) (hf : f < 2 ^ k) : (a <<< k) ||| f = a * 2 ^ k + f := by
  rw [← Nat.shiftLeft_add_eq_or_of_lt hf, Nat.shiftLeft_eq]

theorem and15 (x : Nat) : x &&& 15 = x % 16 := Nat.and_two_pow_sub_one_eq_mod x 4

/-- the header fields as `Share.ofIndices` reads them from the four header words, in arithmetic -/
theorem parse_header (i0 i1 i2 i3 : Nat) (h1 : i1 < 1024) (h3 : i3 < 1024) :
    (i0 <<< 5 ||| i1 >>> 5) = i0 * 32 + i1 / 32 ∧ i1 &&& 31 = i1 % 32 ∧ i2 >>> 6 = i2 / 64 ∧
      (i2 >>> 2) &&& 15 = i2 / 4 % 16 ∧ ((i2 &&& 3) <<< 2 ||| i3 >>> 8) = i2 % 4 * 4 + i3 / 256 ∧
      (i3 >>> 4) &&& 15 = i3 / 16 % 16 ∧ i3 &&& 15 = i3 % 16 := by
  refine ⟨?_, and31 i1, Nat.shiftRight_eq_div_pow i2 6, ?_, ?_, ?_, and15 i3⟩
  · rw [Nat.shiftRight_eq_div_pow, shl_or _ _ 5 (by show i1 / 32 < 32; omega)]
    rfl
  · rw [Nat.shiftRight_eq_div_pow, and15]
  · rw [and3, Nat.shiftRight_eq_div_pow, shl_or _ _ 2 (by show i3 / 256 < 4; omega)]
    rfl
  · rw [Nat.shiftRight_eq_div_pow, and15]

def headerOf (s : Share) : Nat :=
  (((((s.id * 32 + s.exponent) * 16 + s.groupIndex) * 16 + (s.groupThreshold - 1)) * 16
    + (s.groupCount - 1)) * 16 + s.memberIndex) * 16 + (s.memberThreshold - 1)

/-- `gt`, `gc`, `mt` stand for what is stored: the thresholds − 1 and the group count − 1 -/
theorem header_roundtrip (id e gi gt gc mi mt : Nat) (he : e < 32) (hgt : gt < 16) (hgc : gc < 16)
    (hmi : mi < 16) (hmt : mt < 16) (i0 i1 i2 i3 : Nat) (h0 : i0 = id / 32) (h1 : i1 = id % 32 * 32 + e)
    (h2 : i2 = gi * 64 + gt * 4 + gc / 4) (h3 : i3 = gc % 4 * 256 + mi * 16 + mt) :
    (i0 <<< 5 ||| i1 >>> 5) = id ∧ i1 &&& 31 = e ∧ i2 >>> 6 = gi ∧ (i2 >>> 2) &&& 15 = gt ∧
      ((i2 &&& 3) <<< 2 ||| i3 >>> 8) = gc ∧ (i3 >>> 4) &&& 15 = mi ∧ i3 &&& 15 = mt := by
  obtain ⟨f_id, f_exp, f_gi, f_gt, f_gc, f_mi, f_mt⟩ := parse_header i0 i1 i2 i3 (by omega) (by omega)
  rw [f_id, f_exp, f_gi, f_gt, f_gc, f_mi, f_mt]
  -- left in the context, the seven bit-level equations are read by `omega` in each of the seven goals
  clear f_id f_exp f_gi f_gt f_gc f_mi f_mt
  refine ⟨?_, ?_, ?_, ?_, ?_, ?_, ?_⟩ <;> omega

theorem digitsBE_four (a b c d : Nat) (hb : b < 1024) (hc : c < 1024) (hd : d < 1024) (ha : a < 1024) :
    Digits.digitsBE 1024 4 (((a * 1024 + b) * 1024 + c) * 1024 + d) = [a, b, c, d] := by
  have h := Digits.digitsBE_ofDigitsBE (B := 1024) [a, b, c, d] (by simp [ha, hb, hc, hd]) 0
  simpa [Digits.ofDigitsBE] using h

theorem digitsBE_headerOf (s : Share) (ok : ShareOK s) :
    Digits.digitsBE 1024 4 (headerOf s) = [s.id / 32, s.id % 32 * 32 + s.exponent,
      s.groupIndex * 64 + (s.groupThreshold - 1) * 4 + (s.groupCount - 1) / 4,
      (s.groupCount - 1) % 4 * 256 + s.memberIndex * 16 + (s.memberThreshold - 1)] := by
  obtain ⟨hid, hexp, hgi, hgt1, hgt2, hgc, hmi, hmt1, hmt2, -, -, -, -⟩ := ok
  rw [← digitsBE_four _ _ _ _ (by omega) (by omega) (by omega) (by omega), headerOf]
  congr 1
  omega

theorem indices_eq (s : Share) (ok : ShareOK s) :
    ∃ q, 10 * q = (10 - s.shareBitLength % 10) + s.shareBitLength ∧ s.value < 1024 ^ q ∧
      s.indices = (Digits.digitsBE 1024 4 (headerOf s) ++ Digits.digitsBE 1024 q (headerOf s * 1024 ^ q + s.value))
        ++ rs1024Create Gen.mnemonicCustomization
            (Digits.digitsBE 1024 4 (headerOf s) ++ Digits.digitsBE 1024 q (headerOf s * 1024 ^ q + s.value)) := by
  obtain ⟨q, hq⟩ : ∃ q, (10 - s.shareBitLength % 10) + s.shareBitLength = 10 * q := ⟨(10 - s.shareBitLength % 10 + s.shareBitLength) / 10, by omega⟩
  have hvq : s.value < 1024 ^ q := by
    rw [show (1024 : Nat) ^ q = 2 ^ (10 * q) by rw [Nat.pow_mul], ← hq]
    exact Nat.lt_of_lt_of_le ok.hval (Nat.pow_le_pow_right (by decide) (by omega))
  refine ⟨q, hq.symm, hvq, ?_⟩
  have hall : ((((((((s.id <<< 5 ||| s.exponent) <<< 4 ||| s.groupIndex) <<< 4 ||| (s.groupThreshold - 1)) <<< 4
      ||| (s.groupCount - 1)) <<< 4 ||| s.memberIndex) <<< 4 ||| (s.memberThreshold - 1))
        <<< (10 - s.shareBitLength % 10 + s.shareBitLength)) ||| s.value)
      = headerOf s * 1024 ^ q + s.value := by
    have := ok.hexp; have := ok.hgi; have := ok.hgt1; have := ok.hgt2; have := ok.hgc; have := ok.hmi
    have := ok.hmt1; have := ok.hmt2
    rw [hq, shl_or _ _ _ (by rwa [Nat.pow_mul]), shl_or _ (s.memberThreshold - 1) 4 (by show _ < 16; omega),
      shl_or _ s.memberIndex 4 ok.hmi, shl_or _ (s.groupCount - 1) 4 (by show _ < 16; omega),
      shl_or _ (s.groupThreshold - 1) 4 (by show _ < 16; omega), shl_or _ s.groupIndex 4 ok.hgi,
      shl_or _ s.exponent 5 ok.hexp, Nat.pow_mul]
    rfl
  have hnw : 4 + (10 - s.shareBitLength % 10 + s.shareBitLength) / 10 = 4 + q := by
    rw [hq, Nat.mul_div_cancel_left _ (by decide)]
  unfold Share.indices
  simp only [hall, hnw]
  rw [toWords10_eq, Digits.digitsBE_add 4 q, Nat.mul_comm, Nat.mul_add_div (Nat.pow_pos (by decide)),
    Nat.div_eq_of_lt hvq, Nat.add_zero]

theorem ofIndices_indices (s : Share) (ok : ShareOK s) : Share.ofIndices s.indices = some s := by
  obtain ⟨q, hq, hvq, hidx⟩ := indices_eq s ok
  have hcs : Gen.parseCustomization = Gen.mnemonicCustomization := by decide
  set vd := Digits.digitsBE 1024 q (headerOf s * 1024 ^ q + s.value) with hvd
  set cs := rs1024Create Gen.mnemonicCustomization (Digits.digitsBE 1024 4 (headerOf s) ++ vd)
  have hcslen : cs.length = 3 := rfl
  have hvdlen : vd.length = q := Digits.digitsBE_length _ _
  have hver : rs1024Verify Gen.parseCustomization s.indices = true := by
    rw [hidx, hcs]
    exact verify_append_create _ _
  have hsbl16 := ok.hsbl16
  have hsbl128 := ok.hsbl128
  rw [hidx, digitsBE_headerOf s ok] at hver ⊢
  simp only [List.cons_append, List.nil_append] at hver ⊢
  rw [Share.ofIndices, hver]
  simp only [Bool.not_true, Bool.false_eq_true, if_false, List.length_cons, List.length_append, hvdlen, hcslen]
  rw [if_neg (by omega), Nat.add_sub_cancel, List.take_left' hvdlen,
    show (q + 3 + 1 + 1 + 1 + 1 - 7) * 10 / 16 * 16 = s.shareBitLength by omega,
    show wordsValue vd = s.value by
      rw [hvd, wordsValue_digitsBE, Nat.mul_comm, Nat.mul_add_mod, Nat.mod_eq_of_lt hvq],
    Nat.shiftRight_eq_div_pow, Nat.div_eq_of_lt ok.hval]
  simp only [bne_self_eq_false, Bool.false_eq_true, if_false]
  rw [if_neg (by show ¬ s.shareBitLength < 128; omega)]
  have hgt1 := ok.hgt1; have hgt2 := ok.hgt2; have hgc := ok.hgc; have hmt1 := ok.hmt1; have hmt2 := ok.hmt2
  obtain ⟨f_id, f_exp, f_gi, f_gt, f_gc, f_mi, f_mt⟩ :=
    header_roundtrip s.id s.exponent s.groupIndex (s.groupThreshold - 1) (s.groupCount - 1) s.memberIndex
      (s.memberThreshold - 1) ok.hexp (by omega) (by omega) ok.hmi (by omega) _ _ _ _ rfl rfl rfl rfl
  rw [f_id, f_exp, f_gi, f_gt, f_gc, f_mi, f_mt, Nat.sub_add_cancel hgt1, Nat.sub_add_cancel (Nat.le_trans hgt1 hgt2),
    Nat.sub_add_cancel hmt1]
  exact ok.new_eq

/-! ## strings -/

theorem mapM_word (wl : WordList) (idx : List Nat) (h : ∀ i ∈ idx, i < wl.words.length) :
    mapM? wl.word idx = some (idx.map fun i => wl.words.getD i []) := by
  rw [mapM?_eq_mapM]
  exact List.mapM_eq_some_map fun i hi => word_eq_getD wl i (h i hi)

theorem indices_lt (s : Share) (ok : ShareOK s) : ∀ i ∈ s.indices, i < 1024 := by
  obtain ⟨q, _, _, hidx⟩ := indices_eq s ok
  rw [hidx]
  intro i hi
  simp only [List.mem_append] at hi
  rcases hi with (h | h) | h
  · exact Digits.digitsBE_lt (by decide) _ _ i h
  · exact Digits.digitsBE_lt (by decide) _ _ i h
  · simp only [rs1024Create, List.mem_cons, List.not_mem_nil, or_false] at h
    rcases h with rfl | rfl | rfl <;> (rw [and1023]; exact Nat.mod_lt _ (by decide))

theorem parse_mnemonic (wl : WordList) (tok : TableOK 1024 wl) (s : Share) (ok : ShareOK s) :
    ∃ m, Share.mnemonic wl s = some m ∧ Share.parse wl m = some s := by
  have hlt : ∀ i ∈ s.indices, i < wl.words.length := by
    intro i hi; rw [tok.hlen]; exact indices_lt s ok i hi
  refine ⟨pyJoin (s.indices.map fun i => wl.words.getD i []), ?_, ?_⟩
  · simp [Share.mnemonic, mapM_word wl _ hlt]
  · unfold Share.parse
    rw [pySplit_pyJoin, lookupAll_map_words wl tok.huniq _ hlt]
    · exact ofIndices_indices s ok
    · intro w hw
      simp only [List.mem_map] at hw
      obtain ⟨i, hi, rfl⟩ := hw
      exact (tok.hlower _ (getD_mem _ _ (hlt i hi))).1

/-! ## a single wrong word is rejected -/

theorem ofIndices_verify (idx : List Nat) (sh : Share) (h : Share.ofIndices idx = some sh) :
    rs1024Verify Gen.parseCustomization idx = true := by
  unfold Share.ofIndices at h
  cases hv : rs1024Verify Gen.parseCustomization idx with
  | true => rfl
  | false => simp [hv] at h

theorem ofIndices_single_error (pre post : List Nat) (i j : Nat) (sh : Share) (hi : i < 2 ^ 30) (hj : j < 2 ^ 30)
    (hij : i ≠ j) (h : Share.ofIndices (pre ++ i :: post) = some sh) : Share.ofIndices (pre ++ j :: post) = none := by
  unfold Share.ofIndices
  rw [verify_single_error _ pre post i j hi hj hij (ofIndices_verify _ _ h)]
  rfl

theorem parse_single_word_error (wl : WordList) (hlen : wl.words.length ≤ 2 ^ 30) (pre post : List PyStr)
    (w w' : PyStr) (sh : Share)
    (h : (lookupAll wl (pre ++ w :: post)).bind Share.ofIndices = some sh)
    (hne : wl.lookup w' ≠ wl.lookup w) :
    (lookupAll wl (pre ++ w' :: post)).bind Share.ofIndices = none := by
  cases hl : lookupAll wl (pre ++ w' :: post) with
  | none => rfl
  | some idx' =>
    obtain ⟨idx, hidx, hsh⟩ := Option.bind_eq_some_iff.mp h
    rw [lookupAll_eq] at hidx hl
    obtain ⟨ipre, i, ipost, h1, hi, h2, rfl⟩ := List.mapM_append_cons hidx
    obtain ⟨ipre', j, ipost', h1', hj, h2', rfl⟩ := List.mapM_append_cons hl
    cases h1.symm.trans h1'
    cases h2.symm.trans h2'
    have := (lookup_some wl i w hi).1
    have := (lookup_some wl j w' hj).1
    exact ofIndices_single_error ipre ipost i j sh (by omega) (by omega) (fun e => hne (by rw [hj, hi, e])) hsh

/-! ## soundness of Share.parse -/

/-- so whatever `Share.parse` returns can be re-encoded and parses back to itself (`parse_mnemonic`) -/
theorem ofIndices_ok (idx : List Nat) (sh : Share) (hlt : ∀ i ∈ idx, i < 1024)
    (h : Share.ofIndices idx = some sh) : ShareOK sh := by
  unfold Share.ofIndices at h
  split at h
  · cases h
  split at h
  · cases h
  split at h
  swap
  · cases h
  rename_i i0 i1 i2 i3 rest _ _
  simp only at h
  split at h
  · cases h
  split at h
  · cases h
  rename_i hmin
  have h0 : i0 < 1024 := hlt i0 (by simp)
  have h1 : i1 < 1024 := hlt i1 (by simp)
  have h3 : i3 < 1024 := hlt i3 (by simp)
  obtain ⟨f_id, f_exp, -⟩ := parse_header i0 i1 i2 i3 h1 h3
  exact .of_new h (by rw [f_id]; omega) (by rw [f_exp]; omega) (Nat.mul_mod_left _ _) (Nat.le_of_not_lt hmin)

end Buidl.Shamir
