/-
  Buidl.Proofs.Golomb — BIP158 Golomb-coded sets as coded in buidl/compactfilter.py (C18).

  Bit strings are read most significant bit first by one accumulator loop (`bitsToNatBE`, and the same step
  inside `decode_golomb`); `lowBits x p` is its inverse on `p` bits.  Golomb-Rice round trips, byte packing
  and the filter round trips are all stated through this pair.  The decoders are characterised exactly
  (`decodeGolomb bits p = some (x, r) ↔ bits = encodeGolomb x p ++ r`): the round trip and the rejection of
  every cut code word are its two corollaries.
-/
import Buidl.Proofs.SipHash
import Buidl.Proofs.ListM
namespace Buidl.Filters
open Buidl Buidl.Spec.Filters

/-- the `p` low bits of `x`, most significant first, as `encode_golomb` writes them -/
def lowBits (x p : Nat) : List Bool :=
  (List.range p).map (fun i => decide (x &&& (1 <<< (p - i - 1)) > 0))

theorem and_bit_pos (x k : Nat) : decide (x &&& (1 <<< k) > 0) = x.testBit k := by
  rw [Nat.one_shiftLeft, and_two_pow]
  cases x.testBit k <;> simp [Nat.two_pow_pos]

theorem lowBits_succ (x p : Nat) : lowBits x (p + 1) = x.testBit p :: lowBits x p := by
  unfold lowBits
  rw [List.range_succ_eq_map, List.map_cons, List.map_map, and_bit_pos, Nat.sub_zero, Nat.add_sub_cancel]
  exact congrArg _ (List.map_congr_left fun i _ => by
    rw [Function.comp_apply, Nat.succ_eq_add_one, Nat.add_sub_add_right])

theorem lowBits_length (x p : Nat) : (lowBits x p).length = p := by
  rw [lowBits, List.length_map, List.length_range]

theorem stepBit_eq (acc : Nat) (b : Bool) : (acc <<< 1) ||| (if b then 1 else 0) = 2 * acc + b.toNat := by
  have hb : (if b then 1 else 0) = b.toNat := by cases b <;> rfl
  rw [hb, ← Nat.shiftLeft_add_eq_or_of_lt (Bool.toNat_lt b), Nat.shiftLeft_eq, Nat.mul_comm]

/-- the accumulator loop shared by `pack_bits` and `decode_golomb` shifts what it had by the number of bits read -/
theorem foldl_stepBit (l : List Bool) (acc : Nat) :
    l.foldl (fun acc b => (acc <<< 1) ||| (if b then 1 else 0)) acc = acc * 2 ^ l.length + bitsToNatBE l := by
  induction l generalizing acc with
  | nil => simp [bitsToNatBE]
  | cons b l ih =>
    rw [bitsToNatBE, List.foldl_cons, List.foldl_cons, ih, ih (_ ||| _), stepBit_eq, stepBit_eq,
      List.length_cons, Nat.pow_succ, Nat.add_mul, Nat.add_mul, Nat.mul_comm 2 acc, Nat.mul_assoc,
      Nat.mul_comm 2]
    omega

theorem bitsToNatBE_cons (b : Bool) (l : List Bool) :
    bitsToNatBE (b :: l) = b.toNat * 2 ^ l.length + bitsToNatBE l := by
  rw [bitsToNatBE, List.foldl_cons, foldl_stepBit, stepBit_eq, Nat.mul_zero, Nat.zero_add]

theorem bitsToNatBE_lt (l : List Bool) : bitsToNatBE l < 2 ^ l.length := by
  induction l with
  | nil => decide
  | cons b l ih =>
    have := Nat.mul_le_mul_right (2 ^ l.length) (Bool.toNat_le b)
    rw [bitsToNatBE_cons, List.length_cons, Nat.pow_succ]
    omega

theorem bitsToNatBE_lowBits (x p : Nat) : bitsToNatBE (lowBits x p) = x % 2 ^ p := by
  induction p with
  | zero => rw [Nat.pow_zero, Nat.mod_one]; rfl
  | succ p ih =>
    rw [lowBits_succ, bitsToNatBE_cons, ih, lowBits_length, Nat.mod_pow_succ, Nat.toNat_testBit, Nat.add_comm,
      Nat.mul_comm]

theorem lowBits_foldl (l : List Bool) (acc : Nat) :
    lowBits (l.foldl (fun acc b => (acc <<< 1) ||| (if b then 1 else 0)) acc) l.length = l := by
  induction l generalizing acc with
  | nil => rfl
  | cons b l ih =>
    rw [List.length_cons, lowBits_succ, List.foldl_cons, ih]
    congr 1
    rw [foldl_stepBit, stepBit_eq, Nat.mul_comm, Nat.testBit_two_pow_mul_add _ (bitsToNatBE_lt l),
      if_neg (Nat.lt_irrefl _), Nat.sub_self, Nat.testBit_zero]
    cases b <;> simp <;> omega

theorem lowBits_bitsToNatBE (l : List Bool) : lowBits (bitsToNatBE l) l.length = l := lowBits_foldl l 0

theorem encodeGolomb_def (x p : Nat) :
    encodeGolomb x p = List.replicate (x >>> p) true ++ false :: lowBits x p := by
  simp [encodeGolomb, lowBits]

theorem decodeUnary_eq_some_iff {bits r : List Bool} {q : Nat} :
    decodeUnary bits = some (q, r) ↔ bits = List.replicate q true ++ false :: r := by
  induction bits generalizing q with
  | nil => simp [decodeUnary]
  | cons b t ih => cases b <;> cases q <;> simp [decodeUnary, List.replicate_succ, ih]

theorem decodeFixed_eq (p acc : Nat) (bits : List Bool) :
    decodeFixed p acc bits = if p ≤ bits.length then
      some ((bits.take p).foldl (fun acc b => (acc <<< 1) ||| (if b then 1 else 0)) acc, bits.drop p) else none := by
  induction p generalizing acc bits with
  | zero => rfl
  | succ p ih =>
    cases bits with
    | nil => rfl
    | cons b t => simp only [decodeFixed, ih, List.length_cons, Nat.add_le_add_iff_right, List.take_succ_cons,
        List.foldl_cons, List.drop_succ_cons]

theorem cut_rejected {σ α} {par : List σ → Option (α × List σ)} {enc : α → List σ}
    (h : ∀ s x r, par s = some (x, r) ↔ s = enc x ++ r) (x : α) (k : Nat) (hk : k < (enc x).length) :
    par ((enc x).take k) = none := by
  rw [Option.eq_none_iff_forall_ne_some]
  rintro ⟨y, r⟩ hy
  -- the whole word then parses to `y` as well, with the cut-off part left over
  have h1 : par (enc x) = some (y, r ++ (enc x).drop k) := (h _ _ _).2 <| by
    rw [← List.append_assoc, ← (h _ _ _).1 hy, List.take_append_drop]
  have h2 : par (enc x) = some (x, []) := (h _ _ _).2 (List.append_nil _).symm
  have h3 := congrArg (fun o => o.map (·.2.length)) (h1.symm.trans h2)
  simp only [Option.map_some, Option.some.injEq, List.length_append, List.length_drop, List.length_nil] at h3
  omega

theorem encodeGolomb_bits (q : Nat) {l : List Bool} {p : Nat} (hl : l.length = p) :
    encodeGolomb (q <<< p + bitsToNatBE l) p = List.replicate q true ++ false :: l := by
  subst hl
  have h := lowBits_foldl l q
  rw [foldl_stepBit, ← Nat.shiftLeft_eq] at h
  rw [encodeGolomb_def, h, Nat.shiftLeft_eq, Nat.shiftRight_eq_div_pow, Nat.mul_comm,
    Nat.mul_add_div (Nat.two_pow_pos _), Nat.div_eq_of_lt (bitsToNatBE_lt l), Nat.add_zero]

theorem decodeGolomb_eq_some_iff {bits r : List Bool} {p x : Nat} :
    decodeGolomb bits p = some (x, r) ↔ bits = encodeGolomb x p ++ r := by
  simp only [decodeGolomb, Option.bind_eq_bind, Option.bind_eq_some_iff, Prod.exists, decodeUnary_eq_some_iff,
    decodeFixed_eq, Option.ite_none_right_eq_some, Option.pure_def, Option.some.injEq, Prod.mk.injEq]
  constructor
  · rintro ⟨q, r1, rfl, _, _, ⟨hp, rfl, rfl⟩, rfl, rfl⟩
    rw [← bitsToNatBE, encodeGolomb_bits q (List.length_take_of_le hp), List.append_assoc, List.cons_append,
      List.take_append_drop]
  · rintro rfl
    have hx : (x >>> p) <<< p + bitsToNatBE (lowBits x p) = x := by
      rw [bitsToNatBE_lowBits, Nat.shiftRight_eq_div_pow, Nat.shiftLeft_eq, Nat.mul_comm]
      exact Nat.div_add_mod x (2 ^ p)
    refine ⟨x >>> p, lowBits x p ++ r, by rw [encodeGolomb_def, List.append_assoc, List.cons_append], _, _,
      ⟨by rw [List.length_append, lowBits_length]; omega, rfl, rfl⟩, ?_, ?_⟩
    · rw [List.take_left' (lowBits_length x p)]
      exact hx
    · rw [List.drop_left' (lowBits_length x p)]

theorem decodeGolomb_encodeGolomb (x p : Nat) (r : List Bool) :
    decodeGolomb (encodeGolomb x p ++ r) p = some (x, r) := decodeGolomb_eq_some_iff.2 rfl

theorem encodeGolomb_eq_spec (x p : Nat) : encodeGolomb x p = Spec.Filters.golombEncode x p := by
  unfold encodeGolomb golombEncode
  rw [Nat.shiftRight_eq_div_pow]
  congr 1
  apply List.map_congr_left
  intro i _
  rw [and_bit_pos, Nat.testBit_eq_decide_div_mod_eq, Nat.sub_right_comm]

/-- `unpack_bits` shifts the byte left and tests bit 7: after `j` shifts the `8 - j` bits still to come are the
    low `8 - j` bits of the byte -/
theorem byteBitsBE_shiftLeft (b k j : Nat) (hjk : j + k = 8) : byteBitsBE k (b <<< j) = lowBits b k := by
  induction k generalizing j with
  | zero => rfl
  | succ k ih =>
    have h7 : 7 = j + k := by omega
    rw [byteBitsBE, lowBits_succ, ← Nat.shiftLeft_add, ih (j + 1) (by omega), show (128 : Nat) = 2 ^ 7 from rfl,
      and_two_pow, Nat.testBit_shiftLeft, h7, decide_eq_true (Nat.le_add_right j k), Bool.true_and,
      Nat.add_sub_cancel_left]
    cases b.testBit k <;> simp

theorem byteBitsBE_eq (b : Nat) : byteBitsBE 8 b = lowBits b 8 := byteBitsBE_shiftLeft b 8 0 rfl

/-- the value of one byte of the specification's `bitsToBytes` -/
def byteOf (byte : List Bool) : Nat :=
  (List.range 8).foldl (fun acc i => acc + (if byte.getD i false then 2 ^ (7 - i) else 0)) 0

theorem bitsToBytes_nil : bitsToBytes [] = [] := by rw [bitsToBytes]

theorem bitsToBytes_cons (b0 : Bool) (r : List Bool) :
    bitsToBytes (b0 :: r) = UInt8.ofNat (byteOf ((b0 :: r).take 8)) :: bitsToBytes (r.drop 7) := by
  rw [bitsToBytes]; rfl

theorem bitsToBytes_short {l : List Bool} (h0 : l ≠ []) (h8 : l.length ≤ 8) :
    bitsToBytes l = [UInt8.ofNat (byteOf l)] := by
  obtain ⟨b0, r, rfl⟩ := List.exists_cons_of_ne_nil h0
  rw [bitsToBytes_cons, List.take_of_length_le h8, List.drop_eq_nil_of_le (Nat.le_of_succ_le_succ h8),
    bitsToBytes_nil]

theorem byteOf_pad (l : List Bool) (n : Nat) : byteOf (l ++ List.replicate n false) = byteOf l := by
  have h (i : Nat) : (l ++ List.replicate n false).getD i false = l.getD i false := by
    rw [List.getD_eq_getElem?_getD, List.getD_eq_getElem?_getD, List.getElem?_append]
    split
    · rfl
    · rw [List.getElem?_replicate, List.getElem?_eq_none (by omega)]
      split <;> rfl
  simp only [byteOf, h]

theorem byteOf_eq : ∀ {byte : List Bool}, byte.length = 8 → byteOf byte = bitsToNatBE byte
  | [b0, b1, b2, b3, b4, b5, b6, b7], _ => by
    have hite (b : Bool) (c : Nat) : (if b then c else 0) = b.toNat * c := by cases b <;> simp
    simp only [byteOf, show List.range 8 = [0, 1, 2, 3, 4, 5, 6, 7] from rfl, List.foldl_cons, List.foldl_nil,
      List.getD_cons_zero, List.getD_cons_succ, hite, bitsToNatBE_cons, List.length_cons, List.length_nil,
      Nat.reduceAdd, Nat.reduceSub, Nat.zero_add, Nat.add_assoc, show bitsToNatBE [] = 0 from rfl, Nat.add_zero]

theorem bitsToBytes_append {byte : List Bool} (h : byte.length = 8) (rest : List Bool) :
    bitsToBytes (byte ++ rest) = UInt8.ofNat (bitsToNatBE byte) :: bitsToBytes rest := by
  obtain ⟨b0, r, rfl⟩ := List.exists_cons_of_length_eq_add_one h
  rw [List.cons_append, bitsToBytes_cons, ← List.cons_append, List.take_left' h, byteOf_eq h,
    List.drop_left' (Nat.succ.inj h)]

theorem toNat_ofNat_bitsToNatBE {byte : List Bool} (h : byte.length = 8) :
    (UInt8.ofNat (bitsToNatBE byte)).toNat = bitsToNatBE byte :=
  UInt8.toNat_ofNat_of_lt' (by have := bitsToNatBE_lt byte; rwa [h] at this)

theorem unpackBits_cons (x : UInt8) (xs : Bytes) : unpackBits (x :: xs) = lowBits x.toNat 8 ++ unpackBits xs := by
  rw [unpackBits, List.flatMap_cons, byteBitsBE_eq]
  rfl

theorem byte_induction {motive : List Bool → Prop} (short : ∀ l, l.length < 8 → motive l)
    (step : ∀ byte rest, byte.length = 8 → motive rest → motive (byte ++ rest)) (l : List Bool) : motive l := by
  by_cases h : l.length < 8
  · exact short l h
  · have ih := byte_induction short step (l.drop 8)
    rw [← List.take_append_drop 8 l]
    exact step _ _ (by rw [List.length_take]; omega) ih
termination_by l.length
decreasing_by rw [List.length_drop]; omega

theorem bitsToBytes_whole (l : List Bool) (hl : l.length % 8 = 0) :
    (∀ acc, beToNatAux acc (bitsToBytes l)
        = l.foldl (fun acc b => (acc <<< 1) ||| (if b then 1 else 0)) acc) ∧
      (bitsToBytes l).length = l.length / 8 ∧ unpackBits (bitsToBytes l) = l := by
  induction l using byte_induction with
  | short l h =>
    obtain rfl := List.eq_nil_of_length_eq_zero (by omega : l.length = 0)
    rw [bitsToBytes_nil]
    exact ⟨fun _ => rfl, rfl, rfl⟩
  | step byte rest hb ih =>
    rw [List.length_append, hb] at hl ⊢
    obtain ⟨ih1, ih2, ih3⟩ := ih (by rwa [Nat.add_mod_left] at hl)
    have h8 := lowBits_bitsToNatBE byte
    rw [hb] at h8
    rw [bitsToBytes_append hb]
    refine ⟨fun acc => ?_, by rw [List.length_cons, ih2, Nat.add_div_left _ (by decide)], ?_⟩
    · rw [beToNatAux, ih1, toNat_ofNat_bitsToNatBE hb, List.foldl_append, foldl_stepBit byte, hb]
    · rw [unpackBits_cons, ih3, toNat_ofNat_bitsToNatBE hb, h8]

theorem padLen_whole (l : List Bool) :
    (l ++ List.replicate ((8 - l.length % 8) % 8) false).length % 8 = 0 := by
  simp only [List.length_append, List.length_replicate]; omega

/-- the specification's zero padding of the last byte is the code's explicit padding -/
theorem bitsToBytes_pad (l : List Bool) :
    bitsToBytes (l ++ List.replicate ((8 - l.length % 8) % 8) false) = bitsToBytes l := by
  induction l using byte_induction with
  | short l h =>
    by_cases h0 : l = []
    · subst h0; rfl
    · rw [bitsToBytes_short (List.append_ne_nil_of_left_ne_nil h0 _)
          (by rw [List.length_append, List.length_replicate]; omega),
        bitsToBytes_short h0 (Nat.le_of_lt h), byteOf_pad]
  | step byte rest hb ih =>
    rw [List.append_assoc, bitsToBytes_append hb, bitsToBytes_append hb, List.length_append, hb,
      Nat.add_mod_left, ih]

theorem packBits_eq_spec (bits : List Bool) : packBits bits = Spec.Filters.bitsToBytes bits := by
  obtain ⟨h1, h2, _⟩ := bitsToBytes_whole _ (padLen_whole bits)
  unfold packBits bitsToNatBE
  simp only []
  rw [← h1 0, ← h2, ← bitsToBytes_pad bits]
  exact natToBE'_beToNat _

theorem unpackBits_packBits (bits : List Bool) :
    unpackBits (packBits bits) = bits ++ List.replicate ((8 - bits.length % 8) % 8) false := by
  rw [packBits_eq_spec, ← bitsToBytes_pad]
  exact (bitsToBytes_whole _ (padLen_whole bits)).2.2

theorem decodeGcsLoop_gcsBits (xs : List Nat) (last : Nat) (r : List Bool) (hs : (last :: xs).Pairwise (· ≤ ·)) :
    decodeGcsLoop xs.length last (gcsBits last xs ++ r) = some xs := by
  induction xs generalizing last with
  | nil => rfl
  | cons item rest ih =>
    rw [List.pairwise_cons] at hs
    rw [gcsBits, List.length_cons, decodeGcsLoop, List.append_assoc, decodeGolomb_encodeGolomb]
    simp only [Option.bind_eq_bind, Option.bind_some, Nat.add_sub_cancel' (hs.1 item List.mem_cons_self)]
    rw [ih item hs.2]
    rfl

theorem decodeGcs_serializeGcs (xs : List Nat) (hs : xs.Pairwise (· ≤ ·)) (b : Bytes)
    (h : serializeGcs xs = some b) : decodeGcs b = some xs := by
  obtain ⟨e, he, rfl⟩ := Option.map_eq_some_iff.1 h
  unfold decodeGcs
  rw [readVarint_encodeVarint _ _ _ he]
  simp only [Option.bind_eq_bind, Option.bind_some]
  rw [unpackBits_packBits]
  exact decodeGcsLoop_gcsBits xs 0 _ (List.pairwise_cons.2 ⟨fun _ _ => Nat.zero_le _, hs⟩)

theorem gcsBits_eq_spec (last : Nat) (vs : List Nat) :
    gcsBits last vs = (deltas last vs).flatMap (fun d => golombEncode d bip158P) := by
  induction vs generalizing last with
  | nil => rfl
  | cons v vs ih =>
    rw [gcsBits, deltas, List.flatMap_cons, ih, encodeGolomb_eq_spec]
    rfl

theorem hashToRange_eq_spec (key value : Bytes) (f : Nat) (hk : key.length = 16) :
    hashToRange key value f = some (((sipHash24 key value).toNat * f) / 2 ^ 64) := by
  unfold hashToRange
  rw [siphash_eq_spec key value hk, Option.map_some, Nat.shiftRight_eq_div_pow]

theorem sortNat_pairwise (l : List Nat) : (sortNat l).Pairwise (· ≤ ·) := by
  have h := List.pairwise_mergeSort (le := fun (a b : Nat) => decide (a ≤ b))
    (by intro a b c; simp only [decide_eq_true_eq]; omega)
    (by intro a b; simp only [Bool.or_eq_true, decide_eq_true_eq]; omega) l
  simpa [sortNat] using h

theorem sortNat_of_pairwise {l : List Nat} (h : l.Pairwise (· ≤ ·)) : sortNat l = l := by
  unfold sortNat
  apply List.mergeSort_of_pairwise
  simpa using h

theorem sortNat_length (l : List Nat) : (sortNat l).length = l.length := List.length_mergeSort l

theorem mem_sortNat {a : Nat} {l : List Nat} : a ∈ sortNat l ↔ a ∈ l :=
  (List.mergeSort_perm l _).mem_iff

theorem encodeGcs_eq {key : Bytes} {items : List Bytes} {fb : Bytes} (h : encodeGcs key items = some fb) :
    ∃ raw, items.mapM (fun it => hashToRange key it (items.length * Gen.golombM)) = some raw ∧
      hashedItems key items = some (sortNat raw) ∧ serializeGcs (sortNat raw) = some fb := by
  obtain ⟨hs, h1, h2⟩ := Option.bind_eq_some_iff.1 h
  obtain ⟨raw, hm, rfl⟩ := Option.map_eq_some_iff.1 h1
  exact ⟨raw, hm, h1, h2⟩

theorem parse_serializeGcs (key : Bytes) (xs : List Nat) (hs : xs.Pairwise (· ≤ ·)) (fb : Bytes)
    (h : serializeGcs xs = some fb) :
    CompactFilter.parse false key fb = some { key := key, hashes := xs, f := xs.length * Gen.golombM } := by
  rw [CompactFilter.parse, decodeGcs_serializeGcs xs hs fb h, Option.map_some, CompactFilter.init,
    if_neg Bool.false_ne_true, sortNat_of_pairwise hs]

/-- parse then serialize reproduces the filter bytes (so the filter hash and the header chain are those of
    the received filter) -/
theorem compact_parse_serialize (key : Bytes) (items : List Bytes) (fb : Bytes)
    (h : encodeGcs key items = some fb) :
    ∃ cf, CompactFilter.parse false key fb = some cf ∧ cf.serialize = some fb := by
  obtain ⟨raw, _, _, h3⟩ := encodeGcs_eq h
  exact ⟨_, parse_serializeGcs key _ (sortNat_pairwise raw) fb h3, h3⟩

/-- NO FALSE NEGATIVES (repaired code, dedup = false): every item of the list a filter was built from is
    reported present -/
theorem compact_no_false_negatives (key : Bytes) (items : List Bytes) (fb : Bytes)
    (h : encodeGcs key items = some fb) (x : Bytes) (hx : x ∈ items) :
    ∃ cf, CompactFilter.parse false key fb = some cf ∧ cf.f = items.length * 784931 ∧
      cf.contains x = some true := by
  obtain ⟨raw, h1, _, h3⟩ := encodeGcs_eq h
  obtain ⟨y, hy2, hy1⟩ := List.mapM_some_mem_left h1 hx
  have hf : (sortNat raw).length * Gen.golombM = items.length * 784931 := by
    rw [sortNat_length, List.mapM_some_length h1]
  refine ⟨_, parse_serializeGcs key _ (sortNat_pairwise raw) fb h3, hf, ?_⟩
  rw [CompactFilter.contains, hf, hy1, Option.map_some]
  exact congrArg some (List.contains_iff_mem.2 (mem_sortNat.2 hy2))

/-- F18a (the behaviour before the fix, dedup = true): with two items hashing to the same value the
    set-based filter uses F = 1·M instead of 2·M, reports both inserted items absent and re-serialises to
    different bytes.  key = 16 zero bytes, items = [02 82 03], [02 b4 05]: both map to 728580 under
    F = 2·784931; filter bytes 02 98 f0 20 00 00 00. -/
theorem F18a_witness :
    let key : Bytes := List.replicate 16 0
    let a : Bytes := [0x02, 0x82, 0x03]
    let b : Bytes := [0x02, 0xb4, 0x05]
    encodeGcs key [a, b] = some [0x02, 0x98, 0xf0, 0x20, 0x00, 0x00, 0x00] ∧
    (∃ cf, CompactFilter.parse true key [0x02, 0x98, 0xf0, 0x20, 0x00, 0x00, 0x00] = some cf ∧
       cf.contains a = some false ∧ cf.contains b = some false ∧
       cf.serialize ≠ some [0x02, 0x98, 0xf0, 0x20, 0x00, 0x00, 0x00]) := by
  intro key a b
  have hsort : sortNat [728580, 728580] = [728580, 728580] :=
    sortNat_of_pairwise (by decide)
  have hmap : [a, b].mapM (fun it => hashToRange key it ([a, b].length * Gen.golombM))
      = some [728580, 728580] := by decide +kernel
  have hser : serializeGcs [728580, 728580] = some [0x02, 0x98, 0xf0, 0x20, 0x00, 0x00, 0x00] := by
    decide +kernel
  have hinit : CompactFilter.init true key [728580, 728580] = { key := key, hashes := [728580], f := 784931 } := by
    simp only [CompactFilter.init, hsort]; decide
  refine ⟨?_, { key := key, hashes := [728580], f := 784931 }, ?_, ?_, ?_, ?_⟩
  · unfold encodeGcs hashedItems
    simp only [hmap, Option.map_some, hsort, Option.bind_eq_bind, Option.bind_some, hser]
  · rw [CompactFilter.parse, decodeGcs_serializeGcs _ (by decide) _ hser, Option.map_some, hinit]
  all_goals decide +kernel

end Buidl.Filters
