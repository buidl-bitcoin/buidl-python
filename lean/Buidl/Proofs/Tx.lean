/-
  The wire codec of Buidl.Model.Tx as round trips (`RoundTrip`): script on a stream, witness, input, output,
  transaction, each with what the sub-parser returns left as a variable, so that the well-formed case (read back
  in canonical form) and the parsed case (read back unchanged, Buidl.Proofs.TxParse) are instances; then that the
  canonical form serialises to the same bytes, and the fetcher's cache.
-/
import Buidl.Proofs.Script
import Buidl.Model.Tx
namespace Buidl.Tx
open Buidl Buidl.Script

theorem natToLE_inv {n w : Nat} {b : Bytes} (h : natToLE n w = some b) : n < 256 ^ w ∧ b = natToLE' w n :=
  natToLE_eq_some_iff.mp h

/-- a script the codec theorems cover; the size bound is what `BytesIO.read` accepts -/
def ScriptWF (s : Script) : Prop :=
  s.raw = none ∧ (∀ c ∈ s.cmds, CmdWF c) ∧ cmdsSize s.cmds < 2 ^ 63

instance (s : Script) : Decidable (ScriptWF s) := by unfold ScriptWF; infer_instance

/-- the script read back: canonical commands (N04c), `raw` unset -/
def canonScript (s : Script) : Script := { cmds := canon s.cmds, raw := none }

theorem rawSerialize_of_raw_none {s : Script} (h : s.raw = none) : rawSerialize s = serCmds s.cmds := by
  unfold rawSerialize
  rw [h]

theorem script_roundTrip {s : Script} (wf : ScriptWF s) :
    RoundTrip Script.serialize Script.parse s (canonScript s) := by
  obtain ⟨hraw, hc, hsz⟩ := wf
  obtain ⟨r, hr, hl, _⟩ := cmds_roundTrip hc
  rw [canonScript, ← parseRaw_serCmds s.cmds r hc hr]
  exact script_roundTrip_raw ((rawSerialize_of_raw_none hraw).trans hr) (hl ▸ hsz)

theorem canonScript_wf {s : Script} (wf : ScriptWF s) : ScriptWF (canonScript s) := by
  obtain ⟨r, hr, hl, _⟩ := cmds_roundTrip wf.2.1
  have hc := canon_wf wf.2.1
  refine ⟨rfl, hc, ?_⟩
  show cmdsSize (canon s.cmds) < 2 ^ 63
  rw [← serCmds_length hc ((serCmds_canon s.cmds).trans hr), hl]
  exact wf.2.2

theorem serialize_canonScript (s : Script) (hraw : s.raw = none) :
    Script.serialize (canonScript s) = Script.serialize s := by
  have h : rawSerialize (canonScript s) = rawSerialize s := by
    rw [rawSerialize_of_raw_none hraw, rawSerialize_of_raw_none (s := canonScript s) rfl]
    exact serCmds_canon s.cmds
  rw [Script.serialize, Script.serialize, h]

theorem canonScript_idem (s : Script) : canonScript (canonScript s) = canonScript s := by
  simp [canonScript, canon_idem]

/-- the five templates `ScriptPubKey.parse` rebuilds -/
def isTemplate (s : Script) : Bool := isP2pkh s || isP2sh s || isP2wpkh s || isP2wsh s || isP2tr s

/-- ScriptPubKey.parse rebuilds template scripts; on a script whose `raw` is unset that changes nothing -/
theorem spk_roundTrip {ser : Script → Option Bytes} {s s' : Script} (h : RoundTrip ser Script.parse s s')
    (hs' : s'.raw = none ∨ isTemplate s' = false) :
    RoundTrip ser parseScriptPubKey s s' := by
  obtain ⟨e, he, hp⟩ := h
  refine ⟨e, he, fun rest => ?_⟩
  simp only [parseScriptPubKey, hp rest, Option.pure_def, Option.bind_eq_bind, Option.bind_some]
  rcases hs' with hraw | ht
  · split
    · rw [← hraw]
    · rfl
  · exact if_neg (Bool.eq_false_iff.mp ht)

def WitnessWF (w : Witness) : Prop := w.items.length < 2 ^ 64 ∧ ∀ i ∈ w.items, i.length < 2 ^ 63

instance (w : Witness) : Decidable (WitnessWF w) := by unfold WitnessWF; infer_instance

theorem serItems_eq : serItems = serList encodeVarstr := serList_eq_of rfl fun _ _ => rfl

theorem parseItems_eq : parseItems = parseN readVarstr := parseN_eq_of (fun _ => rfl) fun _ _ => rfl

theorem witness_roundTrip {w : Witness} (wf : WitnessWF w) : RoundTrip Witness.serialize Witness.parse w w := by
  obtain ⟨n, hn, pn⟩ := RoundTrip.varint wf.1
  obtain ⟨b, hb, pb⟩ := RoundTrip.list (f := id) fun i hi => varstr_roundTrip (wf.2 i hi)
  refine ⟨n ++ b, ?_, fun rest => ?_⟩
  · simp only [Witness.serialize, serItems_eq, hn, hb, Option.pure_def, Option.bind_eq_bind, Option.bind_some]
  · simp only [Witness.parse, List.append_assoc, pn, parseItems_eq, pb, List.map_id,
      Option.pure_def, Option.bind_eq_bind, Option.bind_some]

def TxInWF (i : TxIn) : Prop :=
  i.prevTx.length = 32 ∧ i.prevIndex < 2 ^ 32 ∧ ScriptWF i.scriptSig ∧ i.sequence < 2 ^ 32 ∧ WitnessWF i.witness

instance (i : TxIn) : Decidable (TxInWF i) := by unfold TxInWF; infer_instance

def TxOutWF (o : TxOut) : Prop := o.amount < 2 ^ 64 ∧ ScriptWF o.scriptPubkey

instance (o : TxOut) : Decidable (TxOutWF o) := by unfold TxOutWF; infer_instance

/-- an input as the wire carries it in the segwit form: canonical scriptSig, no `_value` /
    `_script_pubkey` annotations -/
def canonIn (i : TxIn) : TxIn :=
  { i with scriptSig := canonScript i.scriptSig, value := none, scriptPubkey := none }

/-- an input as the legacy form carries it: additionally no witness -/
def stripIn (i : TxIn) : TxIn := { canonIn i with witness := {} }

def canonOut (o : TxOut) : TxOut := { o with scriptPubkey := canonScript o.scriptPubkey }

theorem txin_serialize_eq {i : TxIn} {sc : Bytes} (hi : i.prevIndex < 2 ^ 32) (hq : i.sequence < 2 ^ 32)
    (hs : Script.serialize i.scriptSig = some sc) :
    i.serialize = some (i.prevTx.reverse ++ natToLE' 4 i.prevIndex ++ sc ++ natToLE' 4 i.sequence) := by
  have a : i.prevIndex < 256 ^ 4 := by omega
  have b : i.sequence < 256 ^ 4 := by omega
  simp only [TxIn.serialize, Gen.txinSerIndexW, Gen.sequenceSerW, natToLE_some a, natToLE_some b, hs,
    Option.pure_def, Option.bind_eq_bind, Option.bind_some]

theorem txin_roundTrip {i : TxIn} {sc' : Script} (hp : i.prevTx.length = 32) (hi : i.prevIndex < 2 ^ 32)
    (hq : i.sequence < 2 ^ 32) (hs : RoundTrip Script.serialize Script.parse i.scriptSig sc') :
    RoundTrip TxIn.serialize TxIn.parse i
      { prevTx := i.prevTx, prevIndex := i.prevIndex, scriptSig := sc', sequence := i.sequence } := by
  obtain ⟨sc, hsc, hpar⟩ := hs
  have a : i.prevIndex < 256 ^ 4 := by omega
  have b : i.sequence < 256 ^ 4 := by omega
  have l1 : i.prevTx.reverse.length = 32 := by rw [List.length_reverse, hp]
  have hr : inRange i.sequence Gen.maxSequence = true := decide_eq_true (by show i.sequence ≤ 4294967295; omega)
  refine ⟨_, txin_serialize_eq hi hq hsc, fun rest => ?_⟩
  simp only [TxIn.parse, List.append_assoc, Gen.txinParPrevW, Gen.txinParIndexW, Gen.sequenceParW,
    sread_append 32 _ _ l1, sread_append 4 _ _ (natToLE'_length 4 _), hpar, Option.pure_def, Option.bind_eq_bind,
    Option.bind_some, leToNat_natToLE'_of_lt a, leToNat_natToLE'_of_lt b, List.reverse_reverse, hr, Bool.not_true,
    Bool.false_eq_true, if_false]

theorem txin_roundTrip_wf {i : TxIn} (wf : TxInWF i) : RoundTrip TxIn.serialize TxIn.parse i (stripIn i) :=
  txin_roundTrip wf.1 wf.2.1 wf.2.2.2.1 (script_roundTrip wf.2.2.1)

def txoutBytes (o : TxOut) (sc : Bytes) : Bytes := natToLE' 8 o.amount ++ sc

theorem txout_roundTrip {o : TxOut} {sc' : Script} (ha : o.amount < 2 ^ 64)
    (hs : RoundTrip Script.serialize parseScriptPubKey o.scriptPubkey sc') :
    RoundTrip TxOut.serialize TxOut.parse o { amount := o.amount, scriptPubkey := sc' } := by
  obtain ⟨sc, hsc, hpar⟩ := hs
  have a : o.amount < 256 ^ 8 := by omega
  refine ⟨natToLE' 8 o.amount ++ sc, ?_, fun rest => ?_⟩
  · simp only [TxOut.serialize, Gen.txoutSerAmountW, natToLE_some a, hsc, Option.pure_def, Option.bind_eq_bind,
      Option.bind_some]
  · simp only [TxOut.parse, List.append_assoc, Gen.txoutParAmountW, sread_append 8 _ _ (natToLE'_length 8 _),
      hpar, Option.pure_def, Option.bind_eq_bind, Option.bind_some, leToNat_natToLE'_of_lt a]

theorem txout_roundTrip_wf {o : TxOut} (wf : TxOutWF o) : RoundTrip TxOut.serialize TxOut.parse o (canonOut o) :=
  txout_roundTrip wf.1 (spk_roundTrip (script_roundTrip wf.2) (Or.inl rfl))

theorem serIns_eq : serIns = serList TxIn.serialize := serList_eq_of rfl fun _ _ => rfl

theorem serOuts_eq : serOuts = serList TxOut.serialize := serList_eq_of rfl fun _ _ => rfl

theorem serWitnesses_eq : serWitnesses = serList fun i => i.witness.serialize := serList_eq_of rfl fun _ _ => rfl

theorem parseIns_eq : parseIns = parseN TxIn.parse := parseN_eq_of (fun _ => rfl) fun _ _ => rfl

theorem parseOuts_eq : parseOuts = parseN TxOut.parse := parseN_eq_of (fun _ => rfl) fun _ _ => rfl

theorem ins_roundTrip {ins : List TxIn} {f : TxIn → TxIn} (h : ∀ i ∈ ins, RoundTrip TxIn.serialize TxIn.parse i (f i)) :
    RoundTrip serIns (parseIns ins.length) ins (ins.map f) := by
  rw [serIns_eq, parseIns_eq]
  exact RoundTrip.list h

theorem outs_roundTrip {outs : List TxOut} {f : TxOut → TxOut}
    (h : ∀ o ∈ outs, RoundTrip TxOut.serialize TxOut.parse o (f o)) :
    RoundTrip serOuts (parseOuts outs.length) outs (outs.map f) := by
  rw [serOuts_eq, parseOuts_eq]
  exact RoundTrip.list h

/-- the witness section: each witness is read back into the input parsed before (`g i`) -/
theorem witnesses_roundTrip {ins : List TxIn} (g : TxIn → TxIn) (h : ∀ i ∈ ins, WitnessWF i.witness) :
    RoundTrip serWitnesses (parseWitnesses (ins.map g)) ins (ins.map fun i => { g i with witness := i.witness }) := by
  induction ins with
  | nil => exact ⟨[], rfl, fun _ => rfl⟩
  | cons i r ih =>
    obtain ⟨a, ha, pa⟩ := witness_roundTrip (h i List.mem_cons_self)
    obtain ⟨b, hb, pb⟩ := ih fun j hj => h j (List.mem_cons_of_mem i hj)
    refine ⟨a ++ b, ?_, fun rest => ?_⟩
    · simp only [serWitnesses, ha, hb, Option.pure_def, Option.bind_eq_bind, Option.bind_some]
    · simp only [List.map_cons, parseWitnesses, List.append_assoc, pa, pb, Option.pure_def, Option.bind_eq_bind,
        Option.bind_some]

/-- fields in range.  The legacy form additionally needs at least one input (N04d). -/
def TxWF (t : Tx) : Prop :=
  t.version < 2 ^ 32 ∧ t.locktime < 2 ^ 32 ∧ t.ins.length < 2 ^ 64 ∧ t.outs.length < 2 ^ 64 ∧
  (∀ i ∈ t.ins, TxInWF i) ∧ (∀ o ∈ t.outs, TxOutWF o) ∧ (t.segwit = false → t.ins ≠ [])

instance (t : Tx) : Decidable (TxWF t) := by unfold TxWF; infer_instance

/-- the transaction as the wire carries it -/
def canonTx (t : Tx) : Tx :=
  { t with ins := if t.segwit then t.ins.map canonIn else t.ins.map stripIn, outs := t.outs.map canonOut }

/-- the witness-stripped part of a transaction (what the txid commits to) -/
def coreTx (t : Tx) : Tx := { t with ins := t.ins.map stripIn, outs := t.outs.map canonOut, segwit := false }

theorem Tx.eta_segwit (t : Tx) {b : Bool} (h : t.segwit = b) :
    ({ version := t.version, ins := t.ins, outs := t.outs, locktime := t.locktime, segwit := b } : Tx) = t := by
  subst h; rfl

theorem serializeLegacy_eq {t : Tx} {n i m o : Bytes} (hv : t.version < 2 ^ 32) (hl : t.locktime < 2 ^ 32)
    (en : encodeVarint t.ins.length = some n) (ei : serIns t.ins = some i)
    (em : encodeVarint t.outs.length = some m) (eo : serOuts t.outs = some o) :
    t.serializeLegacy = some (natToLE' 4 t.version ++ n ++ i ++ m ++ o ++ natToLE' 4 t.locktime) := by
  have a : t.version < 256 ^ 4 := by omega
  have b : t.locktime < 256 ^ 4 := by omega
  simp only [Tx.serializeLegacy, Gen.serLegacyVersionW, Gen.locktimeSerW, natToLE_some a, natToLE_some b, en, ei, em,
    eo, Option.pure_def, Option.bind_eq_bind, Option.bind_some]

theorem inRange_locktime {n : Nat} (h : n < 2 ^ 32) : inRange n Gen.maxLocktime = true :=
  decide_eq_true (by show n ≤ 4294967295; omega)

theorem legacy_roundTrip {t : Tx} {ins' : List TxIn} {outs' : List TxOut} (hv : t.version < 2 ^ 32)
    (hl : t.locktime < 2 ^ 32) (hn : t.ins.length < 2 ^ 64) (hm : t.outs.length < 2 ^ 64)
    (hi : RoundTrip serIns (parseIns t.ins.length) t.ins ins')
    (ho : RoundTrip serOuts (parseOuts t.outs.length) t.outs outs') :
    RoundTrip Tx.serializeLegacy Tx.parseLegacy t
      { version := t.version, ins := ins', outs := outs', locktime := t.locktime, segwit := false } := by
  obtain ⟨n, en, pn⟩ := RoundTrip.varint hn
  obtain ⟨m, em, pm⟩ := RoundTrip.varint hm
  obtain ⟨i, ei, pi⟩ := hi
  obtain ⟨o, eo, po⟩ := ho
  have a : t.version < 256 ^ 4 := by omega
  have b : t.locktime < 256 ^ 4 := by omega
  refine ⟨_, serializeLegacy_eq hv hl en ei em eo, fun rest => ?_⟩
  simp only [Tx.parseLegacy, List.append_assoc, Gen.parLegacyVersionW, Gen.locktimeParW,
    sread_append 4 _ _ (natToLE'_length 4 _), pn, pm, pi, po,
    Option.pure_def, Option.bind_eq_bind, Option.bind_some, leToNat_natToLE'_of_lt a, leToNat_natToLE'_of_lt b,
    inRange_locktime hl, Bool.not_true, Bool.false_eq_true, if_false]

theorem segwit_roundTrip {t : Tx} {ins' ins'' : List TxIn} {outs' : List TxOut} (hv : t.version < 2 ^ 32)
    (hl : t.locktime < 2 ^ 32) (hn : t.ins.length < 2 ^ 64) (hm : t.outs.length < 2 ^ 64)
    (hi : RoundTrip serIns (parseIns t.ins.length) t.ins ins')
    (ho : RoundTrip serOuts (parseOuts t.outs.length) t.outs outs')
    (hw : RoundTrip serWitnesses (parseWitnesses ins') t.ins ins'') :
    RoundTrip Tx.serializeSegwit Tx.parseSegwit t
      { version := t.version, ins := ins'', outs := outs', locktime := t.locktime, segwit := true } := by
  obtain ⟨n, en, pn⟩ := RoundTrip.varint hn
  obtain ⟨m, em, pm⟩ := RoundTrip.varint hm
  obtain ⟨i, ei, pi⟩ := hi
  obtain ⟨o, eo, po⟩ := ho
  obtain ⟨w, ew, pw⟩ := hw
  have a : t.version < 256 ^ 4 := by omega
  have b : t.locktime < 256 ^ 4 := by omega
  have l2 : ([0, 1] : Bytes).length = 2 := rfl
  refine ⟨natToLE' 4 t.version ++ [0, 1] ++ n ++ i ++ m ++ o ++ w ++ natToLE' 4 t.locktime, ?_, fun rest => ?_⟩
  · simp only [Tx.serializeSegwit, Gen.serSegwitVersionW, Gen.locktimeSerW, Gen.serSegwitMarker, natToLE_some a,
      natToLE_some b, en, ei, em, eo, ew, Option.pure_def, Option.bind_eq_bind, Option.bind_some]
  · simp only [Tx.parseSegwit, List.append_assoc, Gen.parSegwitVersionW, Gen.parSegwitMarkerW, Gen.locktimeParW,
      sread_append 4 _ _ (natToLE'_length 4 _), sread_append 2 _ _ l2, Gen.parSegwitMarker, ne_eq, not_true_eq_false,
      if_false, pn, pm, pi, po, pw, Option.pure_def,
      Option.bind_eq_bind, Option.bind_some, leToNat_natToLE'_of_lt a, leToNat_natToLE'_of_lt b, inRange_locktime hl,
      Bool.not_true, Bool.false_eq_true]

/-- the marker sniffing of `Tx.parse`, seek-back included -/
theorem parse_eq (s : Bytes) : Tx.parse s =
    if s.length < 5 then none else if (s.drop 4).take 1 = [0] then Tx.parseSegwit s else Tx.parseLegacy s := by
  simp only [Tx.parse, sread, Gen.sniffSkip, Gen.sniffWidth, Gen.sniffSeekBack, Gen.sniffMarker, List.length_drop]
  by_cases h : s.length < 5
  · rw [if_pos h, if_pos (by omega)]
  · rw [if_neg h, if_neg (by omega), show s.length - (s.length - 4 - 1) - 5 = 0 by omega, List.drop_zero]

theorem parse_sniff (v : Bytes) (x : UInt8) (tail : Bytes) (hv : v.length = 4) :
    Tx.parse (v ++ x :: tail) = if x = 0 then Tx.parseSegwit (v ++ x :: tail) else Tx.parseLegacy (v ++ x :: tail) := by
  rw [parse_eq, if_neg (by rw [List.length_append, hv, List.length_cons]; omega), List.drop_left' hv]
  simp only [List.take_succ_cons, List.take_zero, List.cons.injEq, and_true]

theorem parse_serializeSegwit {t : Tx} {e : Bytes} (h : t.serializeSegwit = some e) (rest : Bytes) :
    Tx.parse (e ++ rest) = Tx.parseSegwit (e ++ rest) := by
  simp only [Tx.serializeSegwit, Option.pure_def, Option.bind_eq_bind, Option.bind_eq_some_iff, Option.some.injEq] at h
  obtain ⟨v, hv, n, _, i, _, m, _, o, _, w, _, l, _, rfl⟩ := h
  simp only [Gen.serSegwitMarker, List.append_assoc, List.cons_append, List.nil_append]
  rw [parse_sniff v 0 _ (natToLE_length hv), if_pos rfl]

/-- on a legacy serialisation with at least one input `Tx.parse` finds no marker: the fifth byte is the first byte
    of a non-zero count -/
theorem parse_serializeLegacy {t : Tx} {e : Bytes} (h : t.serializeLegacy = some e) (hne : t.ins ≠ []) (rest : Bytes) :
    Tx.parse (e ++ rest) = Tx.parseLegacy (e ++ rest) := by
  simp only [Tx.serializeLegacy, Option.pure_def, Option.bind_eq_bind, Option.bind_eq_some_iff, Option.some.injEq] at h
  obtain ⟨v, hv, n, hn, i, _, m, _, o, _, l, _, rfl⟩ := h
  obtain ⟨x, tl, rfl, hx⟩ := encodeVarint_head_ne_zero hn (List.length_pos_iff.mpr hne)
  simp only [List.append_assoc, List.cons_append]
  rw [parse_sniff v x _ (natToLE_length hv), if_neg hx]

theorem tx_roundTrip {t y : Tx} (hl : t.segwit = false → t.ins ≠ [] ∧ RoundTrip Tx.serializeLegacy Tx.parseLegacy t y)
    (hs : t.segwit = true → RoundTrip Tx.serializeSegwit Tx.parseSegwit t y) :
    RoundTrip Tx.serialize Tx.parse t y := by
  cases h : t.segwit with
  | true =>
    obtain ⟨e, he, hp⟩ := hs h
    exact ⟨e, by rw [Tx.serialize, h, if_pos rfl, he], fun rest => (parse_serializeSegwit he rest).trans (hp rest)⟩
  | false =>
    obtain ⟨hne, e, he, hp⟩ := hl h
    exact ⟨e, by rw [Tx.serialize, h, if_neg Bool.false_ne_true, he],
      fun rest => (parse_serializeLegacy he hne rest).trans (hp rest)⟩

theorem legacy_roundTrip_wf {t : Tx} (wf : TxWF t) : RoundTrip Tx.serializeLegacy Tx.parseLegacy t (coreTx t) :=
  legacy_roundTrip wf.1 wf.2.1 wf.2.2.1 wf.2.2.2.1
    (ins_roundTrip fun i hi => txin_roundTrip_wf (wf.2.2.2.2.1 i hi))
    (outs_roundTrip fun o ho => txout_roundTrip_wf (wf.2.2.2.2.2.1 o ho))

theorem tx_roundTrip_wf {t : Tx} (wf : TxWF t) : RoundTrip Tx.serialize Tx.parse t (canonTx t) := by
  refine tx_roundTrip (fun h => ⟨wf.2.2.2.2.2.2 h, ?_⟩) (fun h => ?_)
  · rw [canonTx, h]
    exact legacy_roundTrip_wf wf
  · rw [canonTx, h]
    exact segwit_roundTrip wf.1 wf.2.1 wf.2.2.1 wf.2.2.2.1
      (ins_roundTrip fun i hi => txin_roundTrip_wf (wf.2.2.2.2.1 i hi))
      (outs_roundTrip fun o ho => txout_roundTrip_wf (wf.2.2.2.2.2.1 o ho))
      (witnesses_roundTrip stripIn fun i hi => (wf.2.2.2.2.1 i hi).2.2.2.2)

theorem parse_serialize {t : Tx} {e : Bytes} (rest : Bytes) (wf : TxWF t) (h : t.serialize = some e) :
    Tx.parse (e ++ rest) = some (canonTx t, rest) :=
  (tx_roundTrip_wf wf).parse_eq h rest

/-! ### the canonical form serialises to the same bytes -/

theorem canonIn_eq_self {i : TxIn} (a : canonScript i.scriptSig = i.scriptSig) (b : i.value = none)
    (c : i.scriptPubkey = none) : canonIn i = i := by
  cases i; cases b; cases c
  exact congrArg (fun s => TxIn.mk _ _ s _ _ _ _) a

theorem stripIn_eq_self {i : TxIn} (a : canonScript i.scriptSig = i.scriptSig) (b : i.value = none)
    (c : i.scriptPubkey = none) (w : i.witness = {}) : stripIn i = i := by
  cases i; cases b; cases c; cases w
  exact congrArg (fun s => TxIn.mk _ _ s _ _ _ _) a

theorem canonOut_eq_self {o : TxOut} (a : canonScript o.scriptPubkey = o.scriptPubkey) : canonOut o = o := by
  cases o
  exact congrArg (TxOut.mk _) a

/-- `TxIn.serialize` reads the outpoint, the scriptSig's bytes and the sequence only, so `stripIn` (by `rfl`) serialises
    as `canonIn` does, and that as the input itself -/
theorem serIns_map_canon {ins : List TxIn} (wf : ∀ i ∈ ins, TxInWF i) {f : TxIn → TxIn}
    (hf : ∀ i, (f i).serialize = (canonIn i).serialize) : serIns (ins.map f) = serIns ins := by
  rw [serIns_eq]
  exact serList_map_congr fun i hi => (hf i).trans <| by
    simp only [TxIn.serialize, canonIn, serialize_canonScript _ (wf i hi).2.2.1.1]

theorem serOuts_map_canonOut {outs : List TxOut} (wf : ∀ o ∈ outs, TxOutWF o) : serOuts (outs.map canonOut) = serOuts outs := by
  rw [serOuts_eq]
  exact serList_map_congr fun o ho => by
    simp only [TxOut.serialize, canonOut, serialize_canonScript _ (wf o ho).2.1]

theorem serWitnesses_map_canonIn (ins : List TxIn) : serWitnesses (ins.map canonIn) = serWitnesses ins := by
  rw [serWitnesses_eq]
  exact serList_map_congr fun _ _ => rfl

theorem serializeLegacy_coreTx {t : Tx} (wf : TxWF t) : (coreTx t).serializeLegacy = t.serializeLegacy := by
  simp only [Tx.serializeLegacy, coreTx, List.length_map, serIns_map_canon wf.2.2.2.2.1 (f := stripIn) fun _ => rfl,
    serOuts_map_canonOut wf.2.2.2.2.2.1]

theorem serialize_canonTx {t : Tx} (wf : TxWF t) : (canonTx t).serialize = t.serialize := by
  unfold Tx.serialize canonTx
  cases t.segwit with
  | true =>
    simp only [Tx.serializeSegwit, if_true, List.length_map, serIns_map_canon wf.2.2.2.2.1 (f := canonIn) fun _ => rfl,
      serOuts_map_canonOut wf.2.2.2.2.2.1, serWitnesses_map_canonIn]
  | false =>
    simp only [Tx.serializeLegacy, Bool.false_eq_true, if_false, List.length_map,
      serIns_map_canon wf.2.2.2.2.1 (f := stripIn) fun _ => rfl, serOuts_map_canonOut wf.2.2.2.2.2.1]

/-- an input without witness and spent-output annotations: all that the legacy serialisation looks at, and what
    `TxIn.parse` returns -/
def noWit (i : TxIn) : TxIn := { i with witness := {}, value := none, scriptPubkey := none }

theorem serIns_noWit (ins : List TxIn) : serIns (ins.map noWit) = serIns ins := by
  rw [serIns_eq]
  exact serList_map_congr fun _ _ => rfl

/-! ### the fetcher's cache -/

theorem fetch_id {hash256 : Bytes → Bytes} {network txId response : String} {t : Tx}
    (h : fetch hash256 network txId response = some t) : t.id hash256 = some txId := by
  unfold fetch at h
  split at h
  · cases h
  · split at h
    · cases h
    · split at h
      · cases h
      · split at h
        · cases h
        · next tx _ _ computed hc =>
          obtain ⟨hne, h⟩ := Option.ite_none_left_eq_some.mp h
          cases h
          rw [hc, Decidable.not_not.mp hne]

def CacheOK (hash256 : Bytes → Bytes) (c : FetchCache) : Prop :=
  ∀ k t, cacheGet c k = some t → t.id hash256 = some k

theorem cacheGet_set (c : FetchCache) (k k' : String) (t : Tx) :
    cacheGet (cacheSet c k t) k' = if k = k' then some t else cacheGet c k' := by
  induction c with
  | nil => simp [cacheSet, cacheGet]
  | cons e r ih =>
    obtain ⟨k0, t0⟩ := e
    by_cases h0 : k0 = k
    · subst h0
      by_cases h1 : k0 = k' <;> simp [cacheSet, cacheGet, h1]
    · by_cases h1 : k0 = k'
      · subst h1
        have : ¬ k = k0 := fun h => h0 h.symm
        simp [cacheSet, cacheGet, h0, this]
      · simp [cacheSet, cacheGet, h0, h1, ih]

theorem cacheOK_nil (hash256 : Bytes → Bytes) : CacheOK hash256 [] :=
  fun _ _ h => nomatch h

theorem fetchStep_sound {hash256 : Bytes → Bytes} {c : FetchCache} (ok : CacheOK hash256 c) (call : FetchCall) :
    CacheOK hash256 (fetchStep hash256 c call).2 ∧
    ∀ t, (fetchStep hash256 c call).1 = some t → t.id hash256 = some call.txId := by
  unfold fetchStep
  by_cases hc : call.fresh ∨ (cacheGet c call.txId).isNone
  · rw [if_pos hc]
    cases hf : fetch hash256 call.network call.txId call.response with
    | none => exact ⟨ok, fun t h => by cases h⟩
    | some tx =>
      have hid := fetch_id hf
      refine ⟨?_, fun t h => by cases h; exact hid⟩
      intro k t h
      rw [cacheGet_set] at h
      by_cases hk : call.txId = k
      · rw [if_pos hk] at h; cases h; rw [← hk]; exact hid
      · rw [if_neg hk] at h; exact ok k t h
  · rw [if_neg hc]
    exact ⟨ok, fun t h => ok _ t h⟩

theorem fetchRun_sound {hash256 : Bytes → Bytes} (calls : List FetchCall) {c : FetchCache} (ok : CacheOK hash256 c) :
    CacheOK hash256 (fetchRun hash256 c calls).2 ∧
    ∀ (n : Nat) (call : FetchCall) (t : Tx), calls[n]? = some call →
      (fetchRun hash256 c calls).1[n]? = some (some t) → t.id hash256 = some call.txId := by
  induction calls generalizing c with
  | nil => exact ⟨ok, fun n call t h => by simp at h⟩
  | cons call r ih =>
    obtain ⟨ok', ans⟩ := fetchStep_sound ok call
    obtain ⟨okr, ansr⟩ := ih ok'
    simp only [fetchRun]
    refine ⟨okr, ?_⟩
    intro n call' t h1 h2
    cases n with
    | zero =>
      simp only [List.getElem?_cons_zero, Option.some.injEq] at h1 h2
      subst h1
      exact ans t h2
    | succ n =>
      simp only [List.getElem?_cons_succ] at h1 h2
      exact ansr n call' t h1 h2

end Buidl.Tx
