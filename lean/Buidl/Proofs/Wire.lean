/-
  Helper lemmas for C19 (P2P framing) and for the `merkleblock` message of C17: the envelope's command field,
  the 80-byte header codec, and the field-by-field layouts the message decoders are checked against.
-/
import Buidl.Model.Wire
import Buidl.Spec.Wire
import Buidl.Proofs.Codec
namespace Buidl.Wire
open Buidl

/-- a command as the envelope can carry it: at most 12 bytes, no NUL at either end
    (`bytes.strip(b"\x00")` removes NULs from both ends) -/
def CmdWF (c : Bytes) : Prop := c.length ≤ 12 ∧ c.head? ≠ some 0 ∧ c.getLast? ≠ some 0

instance (c : Bytes) : Decidable (CmdWF c) := by unfold CmdWF; infer_instance

theorem dropWhile_zero_replicate (k : Nat) (r : Bytes) :
    (List.replicate k (0 : UInt8) ++ r).dropWhile (· = 0) = r.dropWhile (· = 0) := by
  induction k with
  | zero => rfl
  | succ k ih => simp [List.replicate_succ, ih]

theorem dropWhile_zero_of_head (r : Bytes) (hr : r.head? ≠ some 0) : r.dropWhile (· = 0) = r := by
  cases r with
  | nil => rfl
  | cons x xs =>
    have : x ≠ 0 := by intro h; apply hr; simp [h]
    simp [this]

theorem stripZeros_pad (c : Bytes) (k : Nat) (h1 : c.head? ≠ some 0) (h2 : c.getLast? ≠ some 0) :
    stripZeros (c ++ List.replicate k 0) = c := by
  unfold stripZeros
  cases c with
  | nil => simp
  | cons x xs =>
    have hx : ((x :: xs) ++ List.replicate k 0).head? ≠ some 0 := h1
    rw [dropWhile_zero_of_head _ hx, List.reverse_append, List.reverse_replicate, dropWhile_zero_replicate,
      dropWhile_zero_of_head _ (by rwa [List.head?_reverse]), List.reverse_reverse]

theorem magicOf_length {net : String} {m : Bytes} (h : magicOf net = some m) : m.length = 4 := by
  obtain ⟨p, hp, rfl⟩ := Option.map_eq_some_iff.mp h
  exact (by decide : ∀ p ∈ Gen.magicTable, p.2.length = 4) p (List.mem_of_find?_eq_some hp)

theorem Envelope.roundTrip (hash256 : Bytes → Bytes) (hh : ∀ b, 4 ≤ (hash256 b).length) (net : String) (e : Envelope)
    (hm : magicOf net = some e.magic) (hc : CmdWF e.command) (hp : e.payload.length < 2 ^ 32) :
    RoundTrip (Envelope.serialize hash256) (Envelope.parse hash256 net) e e := by
  obtain ⟨hc1, hc2, hc3⟩ := hc
  have hml := magicOf_length hm
  have hck : ((hash256 e.payload).take 4).length = 4 := by rw [List.length_take]; exact Nat.min_eq_left (hh _)
  have hcmd : (e.command ++ List.replicate (12 - e.command.length) (0 : UInt8)).length = 12 := by
    rw [List.length_append, List.length_replicate]; omega
  have hne : e.magic ≠ [] := by intro h; rw [h] at hml; cases hml
  refine ⟨_, by
    simp only [Envelope.serialize, Gen.envSerLenWidth, natToLE_some_bits 4 hp]
    rfl, fun rest => ?_⟩
  simp only [Envelope.parse, Gen.envParMagicWidth, Gen.envParCommandWidth, Gen.envParLenWidth, Gen.envParChecksumWidth,
    Gen.envParHashWidth, List.append_assoc, take_drop_append hml, if_neg hne, hm, Option.bind_eq_bind, Option.bind_some,
    ne_eq, not_true_eq_false, if_false]
  rw [← List.append_assoc e.command]
  simp only [take_drop_append hcmd, stripZeros_pad _ _ hc2 hc3, take_drop_append (natToLE'_length 4 _),
    leToNat_natToLE'_bits 4 hp, take_drop_append hck,
    take_drop_append (rfl : e.payload.length = _), not_true_eq_false, if_false, Option.pure_def]

theorem Header.parse_append (b r : Bytes) (hb : b.length = 80) :
    Header.parse (b ++ r) = ((Header.parse b).1, r) := by
  have t : ∀ n, n ≤ 80 → (b ++ r).take n = b.take n := by
    intro n hn; rw [List.take_append_of_le_length (by omega)]
  have d : ∀ n, n ≤ 80 → (b ++ r).drop n = b.drop n ++ r := by
    intro n hn; rw [List.drop_append_of_le_length (by omega)]
  simp only [Header.parse, List.drop_drop, List.take_drop]
  simp only [t 4 (by omega), t (4 + 32) (by omega), t (4 + 32 + 32) (by omega), t (4 + 32 + 32 + 4) (by omega),
    t (4 + 32 + 32 + 4 + 4) (by omega), t (4 + 32 + 32 + 4 + 4 + 4) (by omega), d (4 + 32 + 32 + 4 + 4 + 4) (by omega)]
  have : b.drop (4 + 32 + 32 + 4 + 4 + 4) = [] := by
    apply List.drop_eq_nil_of_le; omega
  rw [this]; rfl

/-- the two integer fields are any 4-byte values, so parsing loses nothing -/
theorem Header.parse_serialize (s : Bytes) (hs : 80 ≤ s.length) : (Header.parse s).1.serialize = some (s.take 80) := by
  have e1 := natToLE_leToNat (s.take 4)
  have e2 := natToLE_leToNat ((s.drop 4 |>.drop 32 |>.drop 32).take 4)
  rw [List.length_take, Nat.min_eq_left (by omega)] at e1
  rw [List.length_take, List.length_drop, List.length_drop, List.length_drop, Nat.min_eq_left (by omega)] at e2
  simp only [Header.parse, Header.serialize, e1, e2, Option.pure_def, Option.bind_eq_bind, Option.bind_some,
    List.reverse_reverse, Option.some.injEq]
  rw [show (80 : Nat) = 4 + (32 + (32 + (4 + (4 + 4)))) from rfl]
  simp only [List.take_add, List.append_assoc]

theorem readN32_flatten (hs : List Bytes) (rest : Bytes) (h : ∀ x ∈ hs, x.length = 32) :
    readN32 hs.length (hs.flatten ++ rest) = (hs, rest) := by
  induction hs with
  | nil => rfl
  | cons x xs ih =>
    obtain ⟨hx, hxs⟩ := List.forall_mem_cons.mp h
    simp only [List.length_cons, List.flatten_cons, List.append_assoc, readN32,
      take_drop_append hx, ih hxs]

theorem readN32rev_flatten (hs : List Bytes) (rest : Bytes) (h : ∀ x ∈ hs, x.length = 32) :
    readN32rev hs.length ((hs.map List.reverse).flatten ++ rest) = (hs, rest) := by
  induction hs with
  | nil => rfl
  | cons x xs ih =>
    obtain ⟨hx, hxs⟩ := List.forall_mem_cons.mp h
    rw [← List.length_reverse] at hx
    simp only [List.length_cons, List.map_cons, List.flatten_cons, List.append_assoc, readN32rev,
      take_drop_append hx, ih hxs, List.reverse_reverse]

theorem headersParseLoop_encode (raw : List Bytes) (rest : Bytes) (h : ∀ x ∈ raw, x.length = 80) :
    headersParseLoop raw.length ((raw.map (· ++ [0])).flatten ++ rest)
      = some (raw.map (fun b => (Header.parse b).1), rest) := by
  induction raw with
  | nil => rfl
  | cons x xs ih =>
    obtain ⟨hx, hxs⟩ := List.forall_mem_cons.mp h
    simp only [List.length_cons, List.map_cons, List.flatten_cons, List.append_assoc, headersParseLoop,
      Header.parse_append _ _ hx]
    have : readVarint ([0] ++ ((xs.map (· ++ [0])).flatten ++ rest)) = some (0, (xs.map (· ++ [0])).flatten ++ rest) :=
      readVarint_encodeVarint 0 _ [0] (by decide)
    simp only [this, Option.pure_def, Option.bind_eq_bind, Option.bind_some, ne_eq, not_true_eq_false, if_false,
      ih hxs]

/-- the body GetDataMessage.serialize appends after the count -/
def invBody : List (Nat × Bytes) → Bytes
  | [] => []
  | (t, i) :: r => natToLE' 4 t ++ i.reverse ++ invBody r

theorem getData_foldlM (items : List (Nat × Bytes)) (acc : Bytes) (h : ∀ it ∈ items, it.1 < 2 ^ 32) :
    items.foldlM (fun acc (it : Nat × Bytes) =>
      (natToLE it.1 4).bind fun t => some (acc ++ t ++ it.2.reverse)) acc = some (acc ++ invBody items) := by
  induction items generalizing acc with
  | nil => simp [invBody]
  | cons x xs ih =>
    obtain ⟨t, i⟩ := x
    simp only [List.foldlM_cons, natToLE_some_bits 4 (h (t, i) List.mem_cons_self), Option.bind_eq_bind,
      Option.bind_some]
    rw [ih _ fun it hit => h it (List.mem_cons_of_mem _ hit)]
    simp [invBody, List.append_assoc]

theorem getDataSerialize_eq (items : List (Nat × Bytes)) (e : Bytes) (h : ∀ it ∈ items, it.1 < 2 ^ 32)
    (he : getDataSerialize items = some e) :
    ∃ v, encodeVarint items.length = some v ∧ e = v ++ invBody items := by
  simp only [getDataSerialize, Option.pure_def, Option.bind_eq_bind] at he
  obtain ⟨v, hv, he⟩ := Option.bind_eq_some_iff.mp he
  rw [getData_foldlM items [] h] at he
  exact ⟨v, hv, (Option.some.inj he).symm⟩

theorem natToBE_one {n : Nat} {a : Bytes} (h : natToBE n 1 = some a) : ∃ x : UInt8, a = [x] ∧ x.toNat = n := by
  obtain ⟨hlt, rfl⟩ := natToBE_eq_some_iff.mp h
  exact ⟨UInt8.ofNat (n % 256), rfl, by rw [u8_ofNat_toNat]; omega⟩

theorem decodeInvItems_invBody (items : List (Nat × Bytes)) (rest : Bytes)
    (h : ∀ it ∈ items, it.1 < 2 ^ 32 ∧ it.2.length = 32) :
    Spec.Wire.decodeInvItems items.length (invBody items ++ rest) = some (items, rest) := by
  induction items with
  | nil => rfl
  | cons x xs ih =>
    obtain ⟨t, i⟩ := x
    obtain ⟨ht, hi⟩ := h (t, i) List.mem_cons_self
    have l4 := natToLE'_length 4 t
    have li : i.reverse.length = 32 := by rw [List.length_reverse, hi]
    have hlen : ¬ (natToLE' 4 t ++ (i.reverse ++ (invBody xs ++ rest))).length < 36 := by
      rw [List.length_append, List.length_append, l4, li]; omega
    have hdrop : (natToLE' 4 t ++ (i.reverse ++ (invBody xs ++ rest))).drop 36 = invBody xs ++ rest := by
      rw [show (36 : Nat) = 4 + 32 from rfl, ← List.drop_drop, (take_drop_append l4).2, (take_drop_append li).2]
    simp only [List.length_cons, invBody, List.append_assoc, Spec.Wire.decodeInvItems, hlen, if_false, hdrop,
      ih fun it hit => h it (List.mem_cons_of_mem _ hit), take_drop_append l4, take_drop_append li,
      leToNat_natToLE'_bits 4 ht, List.reverse_reverse]

theorem decodeVersion_layout {v sv ts rs rip rp ss sip sp nonce ua uaEnc lb : Bytes} (r : UInt8)
    (hv : v.length = 4) (hsv : sv.length = 8) (hts : ts.length = 8) (hrs : rs.length = 8) (hrip : rip.length = 4)
    (hrp : rp.length = 2) (hss : ss.length = 8) (hsip : sip.length = 4) (hsp : sp.length = 2) (hnonce : nonce.length = 8)
    (hua : ua.length < 2 ^ 63) (huaEnc : encodeVarstr ua = some uaEnc) (hlb : lb.length = 4) :
    Spec.Wire.decodeVersion (v ++ (sv ++ (ts ++ (rs ++ (ipv4Prefix ++ (rip ++ (rp ++ (ss ++ (ipv4Prefix ++ (sip ++ (sp
        ++ (nonce ++ (uaEnc ++ (lb ++ [r])))))))))))))) =
      if r = 1 then some ⟨leToNat v, leToNat sv, leToNat ts, leToNat rs, rip, leToNat rp, leToNat ss, sip, leToNat sp,
        nonce, ua, leToNat lb, true⟩
      else if r = 0 then some ⟨leToNat v, leToNat sv, leToNat ts, leToNat rs, rip, leToNat rp, leToNat ss, sip, leToNat sp,
        nonce, ua, leToNat lb, false⟩
      else none := by
  have lpre : ipv4Prefix.length = 12 := rfl
  have hlen : ¬ (v ++ (sv ++ (ts ++ (rs ++ (ipv4Prefix ++ (rip ++ (rp ++ (ss ++ (ipv4Prefix ++ (sip ++ (sp ++ (nonce
        ++ (uaEnc ++ (lb ++ [r])))))))))))))).length < 85 := by
    simp only [List.length_append, hv, hsv, hts, hrs, lpre, hrip, hrp, hss, hsip, hsp, hnonce, hlb, List.length_singleton]
    omega
  have h5 : (lb ++ [r]).length = 5 := by rw [List.length_append, hlb]; rfl
  simp only [Spec.Wire.decodeVersion, if_neg hlen, take_drop_append hv, take_drop_append hsv, take_drop_append hts,
    take_drop_append hrs, take_drop_append lpre, take_drop_append hrip, take_drop_append hrp, take_drop_append hss,
    take_drop_append hsip, take_drop_append hsp, take_drop_append hnonce, readVarstr_encodeVarstr _ _ _ hua huaEnc,
    take_drop_append hlb, h5, ne_eq, not_true_eq_false, if_false, Option.bind_eq_bind, Option.bind_some]

end Buidl.Wire
