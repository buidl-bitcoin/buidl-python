/-
  Lemmas about the Python-string model (Buidl.Model.PyStr).  Mathlib-free.
-/
import Buidl.Model.PyStr
namespace Buidl.PyStr

/-! ## split / join -/

theorem split_ne_nil (sep : Char) (s : Str) : split sep s ≠ [] := by
  cases s with
  | nil => simp [split]
  | cons x xs =>
    simp only [split]
    split
    · simp
    · split <;> simp

theorem split_no_sep (sep : Char) (s : Str) (h : sep ∉ s) : split sep s = [s] := by
  induction s with
  | nil => rfl
  | cons x xs ih =>
    have hx : x ≠ sep := fun e => h (by simp [e])
    have hxs : sep ∉ xs := fun e => h (by simp [e])
    simp [split, hx, ih hxs]

theorem split_append (sep : Char) (a b : Str) : split sep (a ++ sep :: b) = split sep a ++ split sep b := by
  induction a with
  | nil => simp [split]
  | cons x a ih =>
    simp only [List.cons_append, split]
    by_cases hx : x = sep
    · simp [hx, ih]
    · simp only [hx, if_false, ih]
      cases hs : split sep a with
      | nil => exact absurd hs (split_ne_nil sep a)
      | cons p ps => simp

/-- `sep.join(p :: ps)` without the case split of the model: every further part is written behind a separator -/
theorem join_cons (sep : Char) (p : Str) (ps : List Str) : join sep (p :: ps) = p ++ (ps.map (sep :: ·)).flatten := by
  induction ps generalizing p with
  | nil => simp [join]
  | cons q qs ih =>
    have h : join sep (p :: q :: qs) = p ++ sep :: join sep (q :: qs) := by
      rw [join]; intro h; cases h
    rw [h, ih q, List.map_cons, List.flatten_cons, List.cons_append]

theorem split_join (sep : Char) : ∀ (parts : List Str), parts ≠ [] → (∀ p ∈ parts, sep ∉ p) →
    split sep (join sep parts) = parts := by
  intro parts hne hp
  obtain ⟨p, ps, rfl⟩ := List.exists_cons_of_ne_nil hne
  induction ps generalizing p with
  | nil => exact split_no_sep sep p (hp p List.mem_cons_self)
  | cons q qs ih =>
    rw [join_cons, List.map_cons, List.flatten_cons, List.cons_append, ← join_cons, split_append,
      split_no_sep sep p (hp p List.mem_cons_self),
      ih q (List.cons_ne_nil _ _) fun x hx => hp x (List.mem_cons_of_mem _ hx)]
    rfl

theorem join_split (sep : Char) (s : Str) : join sep (split sep s) = s := by
  induction s with
  | nil => rfl
  | cons x xs ih =>
    obtain ⟨p, ps, hs⟩ := List.exists_cons_of_ne_nil (split_ne_nil sep xs)
    rw [hs, join_cons] at ih
    simp only [split, hs]
    split
    · next hx => rw [join_cons, List.map_cons, List.flatten_cons, List.nil_append, List.cons_append, ih, hx]
    · rw [join_cons, List.cons_append, ih]

theorem forall_mem_join {P : Char → Prop} {sep : Char} {ps : List Str} (hsep : P sep) (h : ∀ p ∈ ps, ∀ c ∈ p, P c) :
    ∀ c ∈ join sep ps, P c := by
  cases ps with
  | nil => exact fun _ hc => nomatch hc
  | cons p ps =>
    rw [join_cons]
    simp only [List.forall_mem_append, List.forall_mem_flatten, List.forall_mem_map, List.forall_mem_cons] at h ⊢
    exact ⟨h.1, fun q hq => ⟨hsep, h.2 q hq⟩⟩

/-! ## strip, int, replace -/

theorem intDigits_digits : ∀ (l : Str), (∀ c ∈ l, c.isDigit = true) → ∀ (acc : Nat) (prev : Bool), (l ≠ [] ∨ prev = true) →
    intDigits l acc prev = some (Nat.ofDigitChars 10 l acc)
  | [], _, acc, prev, h => by
    rcases h with h | h
    · exact absurd rfl h
    · simp [intDigits, h]
  | c :: r, hl, acc, prev, _ => by
    have hc : c.isDigit = true := hl c (by simp)
    simp only [intDigits, hc, if_true, Nat.ofDigitChars_cons]
    rw [intDigits_digits r (fun x hx => hl x (by simp [hx])) _ true (Or.inr rfl), Nat.mul_comm]

theorem digit_toNat {c : Char} (h : c.isDigit = true) : 48 ≤ c.toNat ∧ c.toNat ≤ 57 := by
  simp only [Char.isDigit, Bool.and_eq_true, decide_eq_true_eq] at h
  exact ⟨by simpa [Char.le_def, UInt32.le_iff_toNat_le] using h.1, by simpa [Char.le_def, UInt32.le_iff_toNat_le] using h.2⟩

theorem digit_not_space {c : Char} (h : c.isDigit = true) : isSpace c = false := by
  have := digit_toNat h
  refine decide_eq_false fun hs => ?_
  omega

theorem mem_of_getLast?_append {α} {a b : List α} {c : α} (hb : b ≠ []) (h : (a ++ b).getLast? = some c) : c ∈ b := by
  cases b with
  | nil => exact absurd rfl hb
  | cons x b =>
    rw [List.getLast?_append, List.getLast?_cons, Option.some_or] at h
    exact List.mem_of_mem_getLast? (List.getLast?_cons ▸ h)

theorem strip_eq_self (s : Str) (h1 : ∀ c, s.head? = some c → isSpace c = false)
    (h2 : ∀ c, s.getLast? = some c → isSpace c = false) : strip s = s := by
  unfold strip
  cases s with
  | nil => rfl
  | cons a l =>
    rw [List.dropWhile_cons_of_neg (Bool.eq_false_iff.mp (h1 a rfl))]
    cases hr : (a :: l).reverse with
    | nil => simp at hr
    | cons b m =>
      have hb : (a :: l).getLast? = some b := by
        rw [List.getLast?_eq_head?_reverse, hr]; rfl
      rw [List.dropWhile_cons_of_neg (Bool.eq_false_iff.mp (h2 b hb)), ← hr, List.reverse_reverse]

theorem natStr_digits (n : Nat) : ∀ c ∈ natStr n, c.isDigit = true :=
  fun _ hc => Nat.isDigit_of_mem_toDigits (by decide) (by decide) hc

theorem natStr_ne_nil (n : Nat) : natStr n ≠ [] := Nat.toDigits_ne_nil

theorem digit_ne_sign {c : Char} (h : c.isDigit = true) : c ≠ '-' ∧ c ≠ '+' := by
  constructor <;> (intro e; subst e; simp [Char.isDigit] at h)

theorem strip_digits (l : Str) (h : ∀ c ∈ l, c.isDigit = true) : strip l = l := by
  apply strip_eq_self
  · intro c hc
    exact digit_not_space (h c (List.mem_of_mem_head? hc))
  · intro c hc
    exact digit_not_space (h c (List.mem_of_mem_getLast? hc))

theorem pyInt_natStr (n : Nat) : pyInt (natStr n) = some (n : Int) := by
  have hd := natStr_digits n
  unfold pyInt
  rw [strip_digits _ hd]
  cases hs : natStr n with
  | nil => exact absurd hs (natStr_ne_nil n)
  | cons c r =>
    rw [hs] at hd
    obtain ⟨h1, h2⟩ := digit_ne_sign (hd c (by simp))
    have : intDigits (c :: r) 0 false = some n := by
      rw [intDigits_digits (c :: r) hd 0 false (Or.inl (by simp)), ← hs]
      simp [natStr]
    split
    · next heq => simp at heq; exact absurd heq.1 h1
    · next heq => simp at heq; exact absurd heq.1 h2
    · simp [this]

theorem pyInt_intStr (i : Int) : pyInt (intStr i) = some i := by
  cases i with
  | ofNat n => exact pyInt_natStr n
  | negSucc n =>
    unfold pyInt intStr
    have hd := natStr_digits (n + 1)
    have hne := natStr_ne_nil (n + 1)
    have hstrip : strip ('-' :: natStr (n + 1)) = '-' :: natStr (n + 1) := by
      apply strip_eq_self
      · intro c hc; simp at hc; subst hc; decide
      · intro c hc
        exact digit_not_space (hd c (mem_of_getLast?_append (a := ['-']) hne hc))
    rw [hstrip]
    simp only []
    rw [intDigits_digits _ hd 0 false (Or.inl hne)]
    simp [natStr, Int.negSucc_eq]

theorem unescapeSlashes_id : ∀ (s : Str), '\\' ∉ s → unescapeSlashes s = s
  | [], _ => rfl
  | c :: r, h => by
    have hc : c ≠ '\\' := fun e => h (by simp [e])
    have hr : '\\' ∉ r := fun e => h (by simp [e])
    have ih := unescapeSlashes_id r hr
    unfold unescapeSlashes
    split
    · next heq => simp at heq; exact absurd heq.1 hc
    · next heq => simp at heq; obtain ⟨rfl, rfl⟩ := heq; rw [ih]
    · next heq => simp at heq

/-! ## character classes and delimiters -/

theorem avoids_of_class {P : Char → Bool} {D s : Str} (hD : D.all (fun d => !P d) = true) (hs : ∀ c ∈ s, P c = true) :
    ∀ c ∈ s, c ∉ D := by
  intro c hc hd
  have := List.all_eq_true.mp hD c hd
  rw [hs c hc] at this
  cases this

theorem intStr_avoids {D : Str} (hD : D.all (fun d => !d.isDigit) = true) (hm : '-' ∉ D) (i : Int) :
    ∀ c ∈ intStr i, c ∉ D := by
  cases i with
  | ofNat n => exact avoids_of_class hD (natStr_digits n)
  | negSucc n => exact List.forall_mem_cons.mpr ⟨hm, avoids_of_class hD (natStr_digits _)⟩

theorem takeWhile_ne_of_not_mem {d : Char} {s : Str} (h : d ∉ s) : s.takeWhile (· ≠ d) = s := by
  simpa using List.takeWhile_append_of_pos (p := (· ≠ d)) (l₁ := s) (l₂ := [])
    fun _ hc => decide_eq_true fun e => h (e ▸ hc)

/-! ## the extracted comparison operators on integers, evaluated -/

theorem cmpOpI_Lt (a b : Int) : cmpOpI "Lt" a b = decide (a < b) := rfl
theorem cmpOpI_GtE (a b : Int) : cmpOpI "GtE" a b = decide (a ≥ b) := rfl

end Buidl.PyStr
