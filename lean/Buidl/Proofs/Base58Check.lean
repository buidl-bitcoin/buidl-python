/-
  Base58Check (a string is accepted exactly when it is the text of payload ‖ checksum) and the first
  character of an encoding.
-/
import Buidl.Proofs.Base58
namespace Buidl.Base58
open Buidl

theorem rawDecodeBase58_eq_some_iff (hash256 : Bytes → Bytes) (hh : ∀ b, 4 ≤ (hash256 b).length)
    (s : Str) (p : Bytes) :
    rawDecodeBase58 hash256 s = some p ↔ encodeBase58Checksum hash256 p = some s := by
  refine ⟨fun h => ?_, rawDecodeBase58_encodeBase58Checksum hash256 hh p s⟩
  rw [rawDecodeBase58_eq] at h
  obtain ⟨c, hd, h⟩ := Option.bind_eq_some_iff.mp h
  split at h
  · next hck =>
    cases h
    have hc : pyButLast 4 c ++ (hash256 (pyButLast 4 c)).take 4 = c := by
      rw [hck]; exact pyButLast_append_pyLast 4 c
    have hne : c ≠ [] := by
      intro e
      have hl := congrArg List.length hc
      rw [List.length_append, List.length_take, Nat.min_eq_left (hh _), e] at hl
      simp at hl
    unfold encodeBase58Checksum
    rw [show Gen.b58EncChecksumWidth = 4 from rfl, hc]
    exact encodeBase58_decodeCombined s c hd hne
  · cases h

/-- a number of exactly `k + 1` digits: its numeral is the fixed-width string of that length (bounded digits, the same
    value, no leading zero), whose first digit is `N / b ^ k` -/
theorem digits_reverse_head {b : Nat} (hb : 1 < b) {k N : Nat} (h1 : b ^ k ≤ N) (h2 : N < b ^ (k + 1)) :
    (Nat.digits b N).reverse.head? = some (N / b ^ k) := by
  have hp : 0 < b ^ k := Nat.pow_pos (by omega)
  have hm : N / b ^ k % b = N / b ^ k :=
    Nat.mod_eq_of_lt ((Nat.div_lt_iff_lt_mul hp).mpr (by rwa [Nat.mul_comm, ← Nat.pow_succ]))
  have h := znum_lz_ofDigitsBE hb (Digits.digitsBE b (k + 1) N) (Digits.digitsBE_lt (by omega) _ _)
  rw [Digits.ofDigitsBE_digitsBE, Nat.mod_eq_of_lt h2, Digits.digitsBE_succ, hm,
    lz_cons_ne (Nat.ne_of_gt (Nat.div_pos h1 hp)), znum, List.replicate_zero, List.nil_append] at h
  rw [h, List.head?_cons]

/-- the first character of the Base58 text of `v ‖ rest` (`v ≠ 0`, which `1 ≤ lo` forces) lies, as a digit, between
    those of the least and the greatest number with that leading byte -/
theorem encodeBase58_head (v : UInt8) (rest : Bytes) (s : Str) (k lo hi : Nat)
    (hlo1 : 1 ≤ lo) (hhi58 : hi ≤ 58)
    (hlo : lo * 58 ^ k ≤ v.toNat * 256 ^ rest.length)
    (hhi : (v.toNat + 1) * 256 ^ rest.length ≤ hi * 58 ^ k)
    (h : encodeBase58 (v :: rest) = some s) :
    ∃ d, lo ≤ d ∧ d < hi ∧ s.head? = some (b58char d) := by
  have hpow : 0 < 58 ^ k := Nat.pow_pos (by omega)
  have h1' : 1 * 58 ^ k ≤ lo * 58 ^ k := Nat.mul_le_mul_right _ hlo1
  have hvn : ¬ v.toNat = 0 := by
    intro e
    rw [e, Nat.zero_mul] at hlo
    omega
  have hN := beToNat_cons v rest
  have hr := beToNat_lt rest
  set N := beToNat (v :: rest) with hNdef
  have hNlo : lo * 58 ^ k ≤ N := by omega
  have hNhi : N < hi * 58 ^ k := by
    have : N < (v.toNat + 1) * 256 ^ rest.length := by rw [hN, Nat.add_mul]; omega
    omega
  have h2 : N < 58 ^ (k + 1) := by
    have : hi * 58 ^ k ≤ 58 * 58 ^ k := Nat.mul_le_mul_right _ hhi58
    rw [Nat.pow_succ]; omega
  rw [encodeBase58_eq _ (by simp), List.takeWhile_cons_of_neg (by simpa using hvn)] at h
  cases h
  refine ⟨N / 58 ^ k, (Nat.le_div_iff_mul_le hpow).mpr hNlo, (Nat.div_lt_iff_lt_mul hpow).mpr hNhi, ?_⟩
  rw [List.length_nil, List.replicate_zero, List.nil_append, List.head?_map,
    digits_reverse_head (by omega) (by omega) h2]; rfl

theorem encodeBase58_head_zero (rest : Bytes) (s : Str) (h : encodeBase58 (0 :: rest) = some s) :
    s.head? = some '1' := by
  rw [encodeBase58_eq _ (by simp), List.takeWhile_cons_of_pos (by decide)] at h
  cases h
  rfl

end Buidl.Base58
