/-
  Helper lemmas for C07, whole programs: `evaluate` against consensus on straight-line programs and on properly
  nested conditionals, where the splicing `op_if` / `op_notif` of buidl/op.py has to be related to the
  exec-stack (`vfExec`) semantics of consensus.

  Both sides are compared through what they do with the rest of the program (`Sim`): the implementation on `k'`
  against consensus on `k` under an exec stack `E`.  A properly nested segment in front of related continuations
  keeps them related (`Sim.bal`): the implementation's scan splices the chosen branch in front of `k'`
  (`scanIf_ifThen`, `scanIf_ifElse`), consensus runs that branch under `true :: E` and skips the other
  (`runFrom_skip`), and the ENDIF that only consensus still sees pops `E` back.
-/
import Buidl.Proofs.Interp
namespace Buidl.Interp
open Buidl Buidl.Script Buidl.Spec

/-! ## base commands, on both sides -/

/-- opcodes that may occur between the conditionals of a properly nested program: the flow-free
    subset (`opPairs`) and the two alt-stack opcodes -/
def baseOp (c : Nat) : Bool := opPairs.any (fun p => p.1 == c) || c == 107 || c == 108

def baseCmd : Cmd → Bool
  | .push b => plainPush b
  | .op c => baseOp c

theorem baseOp_cases {c : Nat} (h : baseOp c = true) : (∃ fn, (c, fn) ∈ opPairs) ∨ c = 107 ∨ c = 108 := by
  simp only [baseOp, Bool.or_eq_true, List.any_eq_true, beq_iff_eq] at h
  rcases h with (⟨p, hp, rfl⟩ | h) | h
  · exact Or.inl ⟨p.2, hp⟩
  · exact Or.inr (Or.inl h)
  · exact Or.inr (Or.inr h)

theorem slOp_eq (c : Nat) : slOp c = (baseOp c || c == 103 || c == 104) := rfl

theorem opPairs_not_flow : ∀ p ∈ opPairs, ¬ (99 ≤ p.1 ∧ p.1 ≤ 104) := by decide

theorem baseOp_facts {c : Nat} (h : baseOp c = true) :
    Consensus.unsupportedOp c = false ∧ Consensus.disabledOp c = false ∧ ¬ (99 ≤ c ∧ c ≤ 104) := by
  rcases baseOp_cases h with ⟨fn, hp⟩ | rfl | rfl
  · obtain ⟨_, _, hun, hdis, _⟩ := table_pairs _ hp
    exact ⟨hun, hdis, opPairs_not_flow _ hp⟩
  · decide
  · decide

theorem slCmd_iff {c : Cmd} : slCmd c = true ↔ baseCmd c = true ∨ c = .op 103 ∨ c = .op 104 := by
  cases c <;> simp [slCmd, baseCmd, slOp_eq, or_assoc]

theorem baseCmd_slCmd {c : Cmd} (h : baseCmd c = true) : slCmd c = true := slCmd_iff.mpr (Or.inl h)

def baseStep (ctx : Consensus.Ctx) (s a : Stack) : Cmd → Consensus.Res (Stack × Stack)
  | .push b => .ok (b :: s, a)
  | .op k => Consensus.execOp ctx k s a

theorem step_base (ctx : Consensus.Ctx) (s a : Stack) (E : List Bool) (c : Cmd) (hc : baseCmd c = true) :
    Consensus.step ctx ⟨s, a, E⟩ c =
      if E.all id then (baseStep ctx s a c).map fun p => ⟨p.1, p.2, E⟩ else .ok ⟨s, a, E⟩ := by
  cases c with
  | push b => rfl
  | op k =>
    obtain ⟨hun, hdis, hr⟩ := baseOp_facts hc
    have hf : (decide (99 ≤ k) && decide (k ≤ 104)) = false := by
      rw [Bool.and_eq_false_iff, decide_eq_false_iff_not, decide_eq_false_iff_not]; omega
    simp only [Consensus.step, hun, hdis, hf, Bool.or_false, Bool.false_eq_true, if_false,
      show ¬ (k = 99 ∨ k = 100) by omega, show k ≠ 103 by omega, show k ≠ 104 by omega, baseStep, Consensus.fExec]
    split <;> simp [*]

theorem p2shRule_plain (env : Env) (st : St) (b : Bytes)
    (h : ∀ x, Cmd.push x ∈ st.cmds → plainPush x = true) : p2shRule env st b = .ok st := by
  unfold p2shRule
  split
  · rename_i h160 heq
    have := h h160 (by rw [heq]; simp)
    simp only [plainPush, Bool.and_eq_true, bne_iff_ne, ne_eq] at this
    rw [if_neg this.1]
  · rfl

theorem opPairs_csv : ∀ p ∈ opPairs, p.1 = 178 → p.2 = .checksequenceverify := by decide

/-- `r` is what the implementation does to the two stacks; the provisos are the ValueError of N07f and an oversized
    operand in consensus -/
theorem step_base_model (env : Env) (hlt : env.locktime ≤ 4294967295) (c : Cmd) (hc : baseCmd c = true)
    (t : List Cmd) (ht : ∀ x, Cmd.push x ∈ t → plainPush x = true) (s a : Stack) :
    ∃ r : Res (Stack × Stack),
      step Cfg.repaired env ⟨t, s, a, none, false⟩ c = r.toOut (fun p => .ok ⟨t, p.1, p.2, none, false⟩) ∧
      (r ≠ .err .valueError → baseStep (ctxOf env) s a c ≠ .oversize →
        liftSA r = baseStep (ctxOf env) s a c) := by
  cases c with
  | push b =>
    refine ⟨.ok (b :: s, a), ?_, fun _ _ => rfl⟩
    simp only [step]
    rw [p2shRule_plain env _ b ht]
    exact afterPush_plain _ env _ b s rfl hc
  | op k =>
    rcases baseOp_cases hc with ⟨fn, hp⟩ | rfl | rfl
    · refine ⟨(applyStackFn Cfg.repaired env fn s).bind fun s' => .ok (s', a), ?_, fun hve hov => ?_⟩
      · show stepOp Cfg.repaired env ⟨t, s, a, none, false⟩ k = _
        rw [(OpIs.of_pair hp).stepOp Cfg.repaired env _ rfl]
        cases applyStackFn Cfg.repaired env fn s <;> rfl
      · have hconf := fn_conforms env k fn hp s a hlt (fun e178 ee => hve (by
          have hfn : fn = .checksequenceverify := opPairs_csv _ hp e178
          rw [hfn]
          show (op_checksequenceverify Cfg.repaired env s).bind _ = _
          rw [ee]; rfl)) hov
        show _ = Consensus.execOp (ctxOf env) k s a
        rw [← hconf]
        cases applyStackFn Cfg.repaired env fn s <;> rfl
    · exact ⟨op_toaltstack s a, stepOp_resolved Cfg.repaired env ⟨t, s, a, none, false⟩ 107 _ table_flow.2.2.1 rfl,
        fun _ _ => conf_toaltstack (ctxOf env) s a⟩
    · exact ⟨op_fromaltstack s a, stepOp_resolved Cfg.repaired env ⟨t, s, a, none, false⟩ 108 _ table_flow.2.2.2.1 rfl,
        fun _ _ => conf_fromaltstack (ctxOf env) s a⟩

/-! ## the relation of both program theorems -/

/-- the implementation's verdict is consensus' verdict, under the provisos of every program theorem of C07: the
    implementation raised no ValueError (N07f) and consensus met no oversized operand -/
def Agree (o : Out) (c : Consensus.Out) : Prop :=
  o ≠ .err .valueError → c ≠ .oversize → o.toSpec = some c

theorem Agree.of_eq {o : Out} {c : Consensus.Out} (h : o.toSpec = some c) : Agree o c := fun _ _ => h

def Sim (env : Env) (k' : List Cmd) (E : List Bool) (k : List Cmd) : Prop :=
  ∀ (s a : Stack) (fuel : Nat), k'.length ≤ fuel →
    Agree (run Cfg.repaired env fuel ⟨k', s, a, none, false⟩) (Consensus.runFrom (ctxOf env) ⟨s, a, E⟩ k)

theorem Sim.nil (env : Env) : Sim env [] [] [] := fun s a fuel _ => by
  rw [run_nil _ _ _ _ rfl]
  exact .of_eq (finalTest_spec _ _ _)

theorem Sim.congr {env : Env} {k' k₁ k₂ : List Cmd} {E₁ E₂ : List Bool}
    (h : ∀ s a, Consensus.runFrom (ctxOf env) ⟨s, a, E₁⟩ k₁ = Consensus.runFrom (ctxOf env) ⟨s, a, E₂⟩ k₂)
    (hs : Sim env k' E₂ k₂) : Sim env k' E₁ k₁ := fun s a fuel hf => by
  rw [h]; exact hs s a fuel hf

theorem runFrom_cons (ctx : Consensus.Ctx) (st : Consensus.State) (c : Cmd) (cs : List Cmd) :
    Consensus.runFrom ctx st (c :: cs) =
      match Consensus.step ctx st c with
      | .ok st' => Consensus.runFrom ctx st' cs
      | .fail => .reject
      | .oversize => .oversize
      | .unsupported => .unsupported := rfl

theorem Sim.base (env : Env) (hlt : env.locktime ≤ 4294967295) {c : Cmd} (hc : baseCmd c = true)
    {k' k : List Cmd} {E : List Bool} (hE : E.all id = true)
    (hk : ∀ x, Cmd.push x ∈ k' → plainPush x = true) (hs : Sim env k' E k) :
    Sim env (c :: k') E (c :: k) := by
  intro s a fuel hfuel
  obtain ⟨f, rfl⟩ : ∃ f, fuel = f + 1 := ⟨fuel - 1, by rw [List.length_cons] at hfuel; omega⟩
  obtain ⟨r, hstep, hconf⟩ := step_base_model env hlt c hc k' hk s a
  rw [run_cons _ _ _ _ c k' rfl, hstep, runFrom_cons, step_base (ctxOf env) s a E c hc, if_pos hE]
  intro hve hov
  have hconf := hconf (fun e => hve (by rw [e]; rfl)) (fun e => hov (by rw [e]; rfl))
  rw [← hconf] at hov ⊢
  cases r with
  | ok p => exact hs p.1 p.2 f (by rw [List.length_cons] at hfuel; omega) hve hov
  | fail => rfl
  | err e => rfl

/-- a stray ELSE or ENDIF is a KeyError in the implementation and an unbalanced conditional in consensus -/
theorem Sim.straightline (env : Env) (hlt : env.locktime ≤ 4294967295) :
    ∀ prog : List Cmd, prog.all slCmd = true → Sim env prog [] prog
  | [], _ => Sim.nil env
  | c :: rest, h => by
    rw [List.all_cons, Bool.and_eq_true] at h
    rcases slCmd_iff.mp h.1 with hb | rfl | rfl
    · exact Sim.base env hlt hb rfl (fun x hx => List.all_eq_true.mp h.2 _ hx) (Sim.straightline env hlt rest h.2)
    · intro s a fuel hf
      obtain ⟨f, rfl⟩ : ∃ f, fuel = f + 1 := ⟨fuel - 1, by rw [List.length_cons] at hf; omega⟩
      exact .of_eq rfl
    · intro s a fuel hf
      obtain ⟨f, rfl⟩ : ∃ f, fuel = f + 1 := ⟨fuel - 1, by rw [List.length_cons] at hf; omega⟩
      exact .of_eq rfl

theorem run_straightline (env : Env) (hlt : env.locktime ≤ 4294967295) :
    ∀ (prog : List Cmd) (stack alt : Stack) (fuel : Nat),
      prog.all slCmd = true → prog.length ≤ fuel →
      run Cfg.repaired env fuel ⟨prog, stack, alt, none, false⟩ ≠ .err .valueError →
      Consensus.runFrom (ctxOf env) ⟨stack, alt, []⟩ prog ≠ .oversize →
      (run Cfg.repaired env fuel ⟨prog, stack, alt, none, false⟩).toSpec
        = some (Consensus.runFrom (ctxOf env) ⟨stack, alt, []⟩ prog) :=
  fun prog stack alt fuel hsl => Sim.straightline env hlt prog hsl stack alt fuel

/-! ## consensus side: properly nested segments under an exec stack -/

def IFop (neg : Bool) : Cmd := .op (if neg then 100 else 99)
abbrev ELSE : Cmd := .op 103
abbrev ENDIF : Cmd := .op 104

/-- properly nested programs: base commands and IF/NOTIF … [ELSE …] ENDIF blocks with at most one
    ELSE per IF (N07e) -/
inductive Bal : List Cmd → Prop where
  | nil : Bal []
  | cmd (c : Cmd) (t : List Cmd) (hc : baseCmd c = true) : Bal t → Bal (c :: t)
  | ifThen (neg : Bool) (a t : List Cmd) : Bal a → Bal t → Bal (IFop neg :: (a ++ ENDIF :: t))
  | ifElse (neg : Bool) (a b t : List Cmd) : Bal a → Bal b → Bal t →
      Bal (IFop neg :: (a ++ ELSE :: (b ++ ENDIF :: t)))

theorem runFrom_if (ctx : Consensus.Ctx) (s a : Stack) (E : List Bool) (neg : Bool) (k : List Cmd) :
    Consensus.runFrom ctx ⟨s, a, E⟩ (IFop neg :: k) =
      if E.all id then
        match s with
        | [] => .reject
        | v :: s' => Consensus.runFrom ctx ⟨s', a, (Consensus.castToBool v != neg) :: E⟩ k
      else Consensus.runFrom ctx ⟨s, a, false :: E⟩ k := by
  split
  · next h =>
    cases s <;> cases neg <;>
      simp [runFrom_cons, IFop, Consensus.step, Consensus.unsupportedOp, Consensus.disabledOp, Consensus.fExec, h]
  · next h =>
    cases neg <;>
      simp [runFrom_cons, IFop, Consensus.step, Consensus.unsupportedOp, Consensus.disabledOp, Consensus.fExec, h]

theorem runFrom_else (ctx : Consensus.Ctx) (s a : Stack) (e : Bool) (E : List Bool) (k : List Cmd) :
    Consensus.runFrom ctx ⟨s, a, e :: E⟩ (ELSE :: k) = Consensus.runFrom ctx ⟨s, a, (!e) :: E⟩ k := by
  simp [runFrom_cons, Consensus.step, Consensus.unsupportedOp, Consensus.disabledOp]

theorem runFrom_endif (ctx : Consensus.Ctx) (s a : Stack) (e : Bool) (E : List Bool) (k : List Cmd) :
    Consensus.runFrom ctx ⟨s, a, e :: E⟩ (ENDIF :: k) = Consensus.runFrom ctx ⟨s, a, E⟩ k := by
  simp [runFrom_cons, Consensus.step, Consensus.unsupportedOp, Consensus.disabledOp]

theorem runFrom_skip (ctx : Consensus.Ctx) {p : List Cmd} (hb : Bal p) :
    ∀ (s a : Stack) (E : List Bool) (k : List Cmd), E.all id = false →
      Consensus.runFrom ctx ⟨s, a, E⟩ (p ++ k) = Consensus.runFrom ctx ⟨s, a, E⟩ k := by
  induction hb with
  | nil => intro s a E k _; rfl
  | cmd c t hc _ ih =>
    intro s a E k hx
    rw [List.cons_append, runFrom_cons, step_base ctx s a E c hc, if_neg (ne_true_of_eq_false hx)]
    exact ih s a E k hx
  | ifThen neg a' t _ _ iha iht =>
    intro s a E k hx
    rw [List.cons_append, List.append_assoc, List.cons_append, runFrom_if, if_neg (ne_true_of_eq_false hx),
      iha s a (false :: E) _ rfl, runFrom_endif]
    exact iht s a E k hx
  | ifElse neg a' b t _ _ _ iha ihb iht =>
    intro s a E k hx
    rw [List.cons_append, List.append_assoc, List.cons_append, List.append_assoc, List.cons_append,
      runFrom_if, if_neg (ne_true_of_eq_false hx), iha s a (false :: E) _ rfl, runFrom_else,
      ihb s a ((!false) :: E) _ hx, runFrom_endif]
    exact iht s a E k hx

/-! ## implementation side: the scan of op_if / op_notif over a properly nested body -/

theorem scanIf_base (c : Cmd) (hc : baseCmd c = true) (items : List Cmd) (need : Nat) (inF : Bool)
    (t f : List Cmd) :
    scanIf (c :: items) need inF t f =
      scanIf items need inF (if inF then t else c :: t) (if inF then c :: f else f) := by
  cases c with
  | push b => cases inF <;> simp [scanIf]
  | op k =>
    obtain ⟨_, _, hr⟩ := baseOp_facts hc
    rw [scanIf.eq_6]
    · cases inF <;> rfl
    all_goals (intro h; injection h with h; omega)

theorem scanIf_if (neg : Bool) (items : List Cmd) (need : Nat) (inF : Bool) (t f : List Cmd) :
    scanIf (IFop neg :: items) need inF t f =
      scanIf items (need + 1) inF (if inF then t else IFop neg :: t) (if inF then IFop neg :: f else f) := by
  cases neg <;> cases inF <;> simp [IFop, scanIf]

theorem scanIf_else (items : List Cmd) (need : Nat) (inF : Bool) (t f : List Cmd) :
    scanIf (ELSE :: items) need inF t f =
      if need = 1 then scanIf items need true t f
      else scanIf items need inF (if inF then t else ELSE :: t) (if inF then ELSE :: f else f) := by
  cases inF <;> rfl

theorem scanIf_endif (items : List Cmd) (need : Nat) (inF : Bool) (t f : List Cmd) :
    scanIf (ENDIF :: items) need inF t f =
      if need = 1 then some (t.reverse, f.reverse, items)
      else scanIf items (need - 1) inF (if inF then t else ENDIF :: t) (if inF then ENDIF :: f else f) := by
  cases inF <;> rfl

theorem scanIf_bal {q : List Cmd} (hq : Bal q) :
    ∀ (tail : List Cmd) (need : Nat) (inF : Bool) (t f : List Cmd), 1 ≤ need →
      scanIf (q ++ tail) need inF t f =
        scanIf tail need inF (if inF then t else q.reverse ++ t) (if inF then q.reverse ++ f else f) := by
  induction hq with
  | nil => intro tail need inF t f _; cases inF <;> rfl
  | cmd c q' hc _ ih =>
    intro tail need inF t f hn
    rw [List.cons_append, scanIf_base c hc, ih _ _ _ _ _ hn]
    cases inF <;> simp
  | ifThen neg a' q' _ _ iha ihq =>
    intro tail need inF t f hn
    rw [List.cons_append, scanIf_if, List.append_assoc, List.cons_append, iha _ _ _ _ _ (Nat.le_add_left 1 need),
      scanIf_endif, if_neg (by omega), Nat.add_sub_cancel, ihq _ _ _ _ _ hn]
    cases inF <;> simp
  | ifElse neg a' b q' _ _ _ iha ihb ihq =>
    intro tail need inF t f hn
    rw [List.cons_append, scanIf_if, List.append_assoc, List.cons_append, List.append_assoc, List.cons_append,
      iha _ _ _ _ _ (Nat.le_add_left 1 need), scanIf_else, if_neg (by omega),
      ihb _ _ _ _ _ (Nat.le_add_left 1 need), scanIf_endif, if_neg (by omega), Nat.add_sub_cancel,
      ihq _ _ _ _ _ hn]
    cases inF <;> simp

theorem scanIf_ifThen {a' : List Cmd} (ha : Bal a') (rest : List Cmd) :
    scanIf (a' ++ ENDIF :: rest) 1 false [] [] = some (a', [], rest) := by
  rw [scanIf_bal ha _ 1 false [] [] (Nat.le_refl 1), scanIf_endif, if_pos rfl]
  simp

theorem scanIf_ifElse {a' b : List Cmd} (ha : Bal a') (hb : Bal b) (rest : List Cmd) :
    scanIf (a' ++ ELSE :: (b ++ ENDIF :: rest)) 1 false [] [] = some (a', b, rest) := by
  rw [scanIf_bal ha _ 1 false [] [] (Nat.le_refl 1), scanIf_else, if_pos rfl,
    scanIf_bal hb _ 1 true _ _ (Nat.le_refl 1), scanIf_endif, if_pos rfl]
  simp

theorem step_model_if (env : Env) (neg : Bool) (rest : List Cmd) (s a : Stack) :
    step Cfg.repaired env ⟨rest, s, a, none, false⟩ (IFop neg)
      = (op_ifx neg s rest).toOut fun p => .ok ⟨p.2, p.1, a, none, false⟩ := by
  cases neg
  · exact stepOp_resolved Cfg.repaired env ⟨rest, s, a, none, false⟩ 99 _ table_flow.1 rfl
  · exact stepOp_resolved Cfg.repaired env ⟨rest, s, a, none, false⟩ 100 _ table_flow.2.1 rfl

theorem bool_flip (z neg : Bool) : ((!z) != neg) = !(z != neg) := by cases z <;> cases neg <;> rfl

/-! ## properly nested programs: splicing = exec stack -/

theorem mem_append_plain {x y : List Cmd} (hx : ∀ b, Cmd.push b ∈ x → plainPush b = true)
    (hy : ∀ b, Cmd.push b ∈ y → plainPush b = true) : ∀ b, Cmd.push b ∈ x ++ y → plainPush b = true :=
  fun b h => (List.mem_append.mp h).elim (hx b) (hy b)

theorem mem_cons_op_plain (k : Nat) {t : List Cmd} (ht : ∀ b, Cmd.push b ∈ t → plainPush b = true) :
    ∀ b, Cmd.push b ∈ Cmd.op k :: t → plainPush b = true :=
  fun b h => (List.mem_cons.mp h).elim (fun e => nomatch e) (ht b)

theorem Bal.pushes {p : List Cmd} (hp : Bal p) : ∀ b, Cmd.push b ∈ p → plainPush b = true := by
  induction hp with
  | nil => intro b h; cases h
  | cmd c t hc _ ih =>
    intro b h
    rcases List.mem_cons.mp h with h | h
    · subst h; exact hc
    · exact ih b h
  | ifThen neg a' t _ _ iha iht => exact mem_cons_op_plain _ (mem_append_plain iha (mem_cons_op_plain _ iht))
  | ifElse neg a' b' t _ _ _ iha ihb iht =>
    exact mem_cons_op_plain _ (mem_append_plain iha (mem_cons_op_plain _ (mem_append_plain ihb (mem_cons_op_plain _ iht))))

/-! moves of consensus alone, in front of its continuation -/

theorem Sim.endif {env : Env} {k' k : List Cmd} {E : List Bool} (e : Bool) (hs : Sim env k' E k) :
    Sim env k' (e :: E) (ENDIF :: k) :=
  hs.congr fun s a => runFrom_endif _ s a e E k

theorem Sim.else_ {env : Env} {k' k : List Cmd} {E : List Bool} (e : Bool) (hs : Sim env k' (e :: E) k) :
    Sim env k' ((!e) :: E) (ELSE :: k) :=
  hs.congr fun s a => by rw [runFrom_else, Bool.not_not]

theorem Sim.skip {env : Env} {k' k p : List Cmd} {E : List Bool} (hp : Bal p) (hx : E.all id = false)
    (hs : Sim env k' E k) : Sim env k' E (p ++ k) :=
  hs.congr fun s a => runFrom_skip _ hp s a E k hx

theorem Sim.cond (env : Env) (neg : Bool) {body' body tb fb rest : List Cmd} {E : List Bool}
    (hE : E.all id = true) (hscan : scanIf body' 1 false [] [] = some (tb, fb, rest))
    (hlen : (tb ++ rest).length ≤ body'.length ∧ (fb ++ rest).length ≤ body'.length)
    (ht : Sim env (tb ++ rest) (true :: E) body) (hf : Sim env (fb ++ rest) (false :: E) body) :
    Sim env (IFop neg :: body') E (IFop neg :: body) := by
  intro s a fuel hfuel
  obtain ⟨f, rfl⟩ : ∃ f, fuel = f + 1 := ⟨fuel - 1, by rw [List.length_cons] at hfuel; omega⟩
  rw [List.length_cons] at hfuel
  rw [run_cons _ _ _ _ (IFop neg) body' rfl, step_model_if, runFrom_if, if_pos hE]
  cases s with
  | nil => exact .of_eq rfl
  | cons v s' =>
    have hstep : op_ifx neg (v :: s') body' =
        .ok (s', (if (Consensus.castToBool v != neg) then tb else fb) ++ rest) := by
      simp only [op_ifx, hscan, castToBool_eq]
      cases (decodeNum v == 0) <;> cases neg <;> rfl
    rw [hstep]
    -- the `match` of `runFrom_if` binds its own `v`: reduce it at `v :: s'` before splitting on the condition
    dsimp only
    cases (Consensus.castToBool v != neg) with
    | true => exact ht s' a f (by omega)
    | false => exact hf s' a f (by omega)

theorem Sim.bal (env : Env) (hlt : env.locktime ≤ 4294967295) {p : List Cmd} (hb : Bal p) :
    ∀ (E : List Bool) (k' k : List Cmd), E.all id = true → (∀ x, Cmd.push x ∈ k' → plainPush x = true) →
      Sim env k' E k → Sim env (p ++ k') E (p ++ k) := by
  induction hb with
  | nil => intro E k' k _ _ h; exact h
  | cmd c t hc ht ih =>
    intro E k' k hE hk h
    exact Sim.base env hlt hc hE (mem_append_plain ht.pushes hk) (ih E k' k hE hk h)
  | ifThen neg a t ha ht iha iht =>
    intro E k' k hE hk h
    have htk := iht E k' k hE hk h
    have hp := mem_append_plain ht.pushes hk
    simp only [List.cons_append, List.append_assoc]
    exact Sim.cond env neg hE (scanIf_ifThen ha (t ++ k')) (by simp; omega)
      (iha (true :: E) _ _ hE hp (htk.endif true)) ((htk.endif false).skip ha rfl)
  | ifElse neg a b t ha hb' ht iha ihb iht =>
    intro E k' k hE hk h
    have htk := iht E k' k hE hk h
    have hp := mem_append_plain ht.pushes hk
    simp only [List.cons_append, List.append_assoc]
    -- after the IF branch ELSE switches execution off and the other branch is skipped; or the IF branch is
    -- skipped and ELSE switches execution on
    exact Sim.cond env neg hE (scanIf_ifElse ha hb' (t ++ k')) (by simp; omega)
      (iha (true :: E) _ _ hE hp (((htk.endif false).skip hb' rfl).else_ false))
      (((ihb (true :: E) _ _ hE hp (htk.endif true)).else_ true).skip ha rfl)

theorem run_nested (env : Env) (hlt : env.locktime ≤ 4294967295) {cmds : List Cmd} (hb : Bal cmds) :
    Sim env cmds [] cmds := by
  have h := Sim.bal env hlt hb [] [] [] rfl (fun _ h => nomatch h) (Sim.nil env)
  rwa [List.append_nil] at h

end Buidl.Interp
