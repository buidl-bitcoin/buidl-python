/-
  helper.murmur3 (Python big ints, masked only at the end; seed any natural
  number) computes MurmurHash3_x86_32 (Buidl.Spec.Filters.murmur3_32, UInt32 arithmetic) for every
  message shorter than 2^32 bytes and every seed; BloomFilter.add positions / monotonicity /
  no false negatives.

  Invariant through every step: `UInt32.ofNat (model value) = spec value` — the low 32 bits of each
  Python step depend only on the low 32 bits of its inputs.
-/
import Buidl.Model.Filters
import Buidl.Spec.Filters
import Buidl.Proofs.Bytes
namespace Buidl.Filters
open Buidl

/-- `(x & 0xFFFFFFFF) >> s`: the one step that looks above bit 31 unless masked first -/
theorem ofNat_mask_shr (x s : Nat) (hs : s < 32) :
    UInt32.ofNat ((x &&& 4294967295) >>> s) = UInt32.ofNat x >>> UInt32.ofNat s := by
  rw [UInt32.ofNat_eq_iff_mod_eq_toNat, UInt32.toNat_shiftRight, UInt32.toNat_ofNat', UInt32.toNat_ofNat',
    Nat.mod_eq_of_lt (a := s) (by omega), Nat.mod_eq_of_lt hs, show (4294967295 : Nat) = 2 ^ 32 - 1 from rfl,
    Nat.and_two_pow_sub_one_eq_mod]
  exact Nat.mod_eq_of_lt (Nat.lt_of_le_of_lt (Nat.shiftRight_le _ _) (Nat.mod_lt _ (by decide)))

/-- `(x << sh) | ((x & 0xFFFFFFFF) >> (32 - sh))` is the 32-bit rotation on the low 32 bits -/
theorem ofNat_pyRot (x sh : Nat) (h0 : 0 < sh) (hsh : sh < 32) :
    UInt32.ofNat (pyRot x sh 4294967295 (32 - sh))
      = Spec.Filters.rotl32 (UInt32.ofNat x) (UInt32.ofNat sh) := by
  rw [pyRot, Spec.Filters.rotl32, UInt32.ofNat_or, UInt32.ofNat_shiftLeft _ _ hsh,
    ofNat_mask_shr _ _ (Nat.sub_lt (by decide) h0), UInt32.ofNat_sub (Nat.le_of_lt hsh)]
  rfl

/-- the k1 scramble `k1 *= c1; k1 = rot15; k1 *= c2` -/
theorem ofNat_scramble (k : Nat) :
    UInt32.ofNat (pyRot (k * 3432918353) 15 4294967295 17 * 461845907)
      = Spec.Filters.murmurK (UInt32.ofNat k) := by
  unfold Spec.Filters.murmurK
  rw [UInt32.ofNat_mul, ofNat_pyRot _ 15 (by decide) (by decide), UInt32.ofNat_mul]
  rfl

private theorem byte_and (d : UInt8) : d.toNat &&& 255 = d.toNat :=
  Nat.and_two_pow_sub_one_of_lt_two_pow (n := 8) d.toNat_lt

/-- a body block: `d0 | d1 << 8 | d2 << 16 | d3 << 24` -/
theorem word4 (d0 d1 d2 d3 : UInt8) :
    (d0.toNat &&& 255) ||| ((d1.toNat &&& 255) <<< 8) ||| ((d2.toNat &&& 255) <<< 16) ||| (d3.toNat <<< 24)
      = leToNat [d0, d1, d2, d3] := by
  simp only [leToNat_cons_or, leToNat.eq_1, byte_and, Nat.shiftLeft_or_distrib, ← Nat.shiftLeft_add,
    Nat.zero_shiftLeft, Nat.or_zero, Nat.or_assoc, Nat.reduceAdd]

/-- the tail, which the code assembles from its last byte down; a tail of two bytes or one is this with the
    missing bytes zero -/
theorem word3 (d0 d1 d2 : UInt8) :
    ((d2.toNat &&& 255) <<< 16) ||| ((d1.toNat &&& 255) <<< 8) ||| (d0.toNat &&& 255)
      = leToNat [d0, d1, d2] := by
  rw [Nat.or_comm, Nat.or_comm (_ <<< 16)]
  simp only [leToNat_cons_or, leToNat.eq_1, byte_and, Nat.shiftLeft_or_distrib, ← Nat.shiftLeft_add,
    Nat.zero_shiftLeft, Nat.or_zero, Nat.reduceAdd]

theorem word2 (d0 d1 : UInt8) :
    (0 ||| ((d1.toNat &&& 255) <<< 8)) ||| (d0.toNat &&& 255) = leToNat [d0, d1] :=
  word3 d0 d1 0

theorem word1 (d0 : UInt8) : (0 ||| (d0.toNat &&& 255)) = leToNat [d0] :=
  word3 d0 0 0

/-- split `n & 0xFFFFFFFC` at bit 2: below it the mask is zero, above it the mask is all of `n / 4` -/
theorem and_fffffffc (n : Nat) (hn : n < 2 ^ 32) : n &&& 4294967292 = 4 * (n / 4) := by
  have h := Nat.div_add_mod (n &&& 4294967292) (2 ^ 2)
  rw [Nat.and_mod_two_pow, Nat.and_div_two_pow, show 4294967292 % 2 ^ 2 = 0 from rfl, Nat.and_zero,
    show 4294967292 / 2 ^ 2 = 2 ^ 30 - 1 from rfl, Nat.and_two_pow_sub_one_eq_mod,
    Nat.mod_eq_of_lt (Nat.div_lt_of_lt_mul (show n < 2 ^ 2 * 2 ^ 30 from hn))] at h
  exact h.symm

theorem murmurBlocks_spec (n : Nat) : ∀ (rest : Bytes) (h : Nat), 4 * n ≤ rest.length →
    ∃ h', murmurBlocks n rest h = some h' ∧
      Spec.Filters.murmurBody (UInt32.ofNat h') (rest.drop (4 * n))
        = Spec.Filters.murmurBody (UInt32.ofNat h) rest := by
  induction n with
  | zero => exact fun rest h _ => ⟨h, rfl, rfl⟩
  | succ n ih =>
    intro rest h hl
    match rest, hl with
    | b0 :: b1 :: b2 :: b3 :: rest', hl =>
      simp only [murmurBlocks, List.getElem?_cons_zero, List.getElem?_cons_succ, Option.bind_eq_bind,
        Option.bind_some, List.drop_succ_cons, List.drop_zero, word4, Nat.mul_add, Nat.mul_one]
      obtain ⟨h', hm, hb⟩ := ih rest' _ (Nat.le_of_add_le_add_right (b := 4) hl)
      refine ⟨h', hm, ?_⟩
      conv => rhs; unfold Spec.Filters.murmurBody
      rw [hb, UInt32.ofNat_add, UInt32.ofNat_mul, ofNat_pyRot _ 13 (by decide) (by decide), UInt32.ofNat_xor,
        ofNat_scramble]
      rfl
    | [], hl | [_], hl | [_, _], hl | [_, _, _], hl => simp only [List.length_cons, List.length_nil] at hl; omega

theorem murmur3_eq_spec (data : Bytes) (seed : Nat) (hl : data.length < 2 ^ 32) :
    murmur3 data seed = some (Spec.Filters.murmur3_32 data (UInt32.ofNat seed)).toNat := by
  obtain ⟨h', hm, hb⟩ := murmurBlocks_spec (data.length / 4) data seed (Nat.mul_div_le _ _)
  have hnb : (4 * (data.length / 4) - 0 + 4 - 1) / 4 = data.length / 4 := by omega
  have hidx (k : Nat) : data[4 * (data.length / 4) + k]? = (data.drop (4 * (data.length / 4)))[k]? :=
    List.getElem?_drop.symm
  have hidx0 : data[4 * (data.length / 4)]? = (data.drop (4 * (data.length / 4)))[0]? := hidx 0
  have htl : (data.drop (4 * (data.length / 4))).length = data.length % 4 := by
    rw [List.length_drop]; omega
  unfold murmur3 Spec.Filters.murmur3_32
  extract_lets length roundedEnd val k0 fin
  -- `fin` is the join point of the `do` block, the code every branch runs after the tail: fmix32 of `h1 ^ length`,
  -- read through `UInt32.ofNat`.  Said once here, its text stays out of the four cases below
  have hfin (h1 : Nat) :
      fin h1 = some (Spec.Filters.fmix32 (UInt32.ofNat h1 ^^^ UInt32.ofNat data.length)).toNat := by
    have hx (a s : Nat) (hs : s < 32) :
        UInt32.ofNat (a ^^^ ((a &&& 4294967295) >>> s)) = UInt32.ofNat a ^^^ (UInt32.ofNat a >>> UInt32.ofNat s) := by
      rw [UInt32.ofNat_xor, ofNat_mask_shr a s hs]
    simp only [fin, length, Option.pure_def]
    rw [show Gen.murC49 = 2 ^ 32 - 1 from rfl, Nat.and_two_pow_sub_one_eq_mod _ 32, ← UInt32.toNat_ofNat',
      hx _ 16 (by decide), UInt32.ofNat_mul, hx _ 13 (by decide), UInt32.ofNat_mul, hx _ 16 (by decide),
      UInt32.ofNat_xor]
    rfl
  clear_value fin
  simp only [length, roundedEnd, val, k0, and_fffffffc _ hl, and3, hnb, List.drop_zero, hm, Option.bind_eq_bind,
    Option.bind_some, hidx, hidx0, ← htl, hfin]
  rw [← hb]
  generalize data.drop (4 * (data.length / 4)) = tail at htl ⊢
  -- the fall-through tests on `length & 3` are now tests on the length of an explicit list, and evaluate
  match tail, htl with
  | [], _ => rfl
  | [a], _ =>
    show some (Spec.Filters.fmix32 (UInt32.ofNat (h' ^^^ _) ^^^ _)).toNat = _
    rw [UInt32.ofNat_xor, word1, ofNat_scramble]
    rfl
  | [a, b], _ =>
    show some (Spec.Filters.fmix32 (UInt32.ofNat (h' ^^^ _) ^^^ _)).toNat = _
    rw [UInt32.ofNat_xor, word2, ofNat_scramble]
    rfl
  | [a, b, c], _ =>
    show some (Spec.Filters.fmix32 (UInt32.ofNat (h' ^^^ _) ^^^ _)).toNat = _
    rw [UInt32.ofNat_xor, word3, ofNat_scramble]
    rfl
  | _ :: _ :: _ :: _ :: _, htl => simp only [List.length_cons] at htl; omega

/-- bloom filter: positions are MurmurHash3(item, i*0xFBA4C795 + tweak mod 2^32) mod (8*size) -/
theorem bloom_position_eq_spec (size fc tweak i : Nat) (item : Bytes) (bits : List Bool) (hs : 0 < size)
    (hl : item.length < 2 ^ 32) :
    Bloom.position { size := size, bitField := bits, fc := fc, tweak := tweak } item i
      = some (Spec.Filters.bloomBit size tweak i item) := by
  have hne : ¬ size * 8 = 0 := by omega
  unfold Bloom.position Spec.Filters.bloomBit
  simp only [Gen.bip37Constant, Gen.bloomBitsPerByte]
  rw [murmur3_eq_spec item _ hl]
  simp only [Option.bind_eq_bind, Option.bind_some, hne, if_false, Option.pure_def]

/-- what `add` may do to a filter: the parameters stay, bits are only ever set -/
def Bloom.Grows (bf bf' : Bloom) : Prop :=
  (bf'.bitField.length = bf.bitField.length ∧ bf'.size = bf.size ∧ bf'.fc = bf.fc ∧ bf'.tweak = bf.tweak)
    ∧ ∀ k : Nat, bf.bitField[k]? = some true → bf'.bitField[k]? = some true

theorem Bloom.Grows.refl (bf : Bloom) : bf.Grows bf := ⟨⟨rfl, rfl, rfl, rfl⟩, fun _ h => h⟩

theorem Bloom.Grows.trans {a b c : Bloom} (h : a.Grows b) (g : b.Grows c) : a.Grows c :=
  ⟨⟨g.1.1.trans h.1.1, g.1.2.1.trans h.1.2.1, g.1.2.2.1.trans h.1.2.2.1, g.1.2.2.2.trans h.1.2.2.2⟩,
    fun k hk => g.2 k (h.2 k hk)⟩

theorem Bloom.Grows.set (bf : Bloom) (bit : Nat) : bf.Grows { bf with bitField := bf.bitField.set bit true } := by
  refine ⟨⟨List.length_set .., rfl, rfl, rfl⟩, fun k hk => ?_⟩
  rw [List.getElem?_set]
  split
  · next h => rw [if_pos (h ▸ (List.getElem?_eq_some_iff.1 hk).1)]
  · exact hk

/-- `position` reads only `size` and `tweak` -/
theorem Bloom.Grows.position {bf bf' : Bloom} (h : bf.Grows bf') (item : Bytes) (i : Nat) :
    bf'.position item i = bf.position item i := by
  unfold Bloom.position
  rw [h.1.2.1, h.1.2.2.2]

theorem addFrom_spec (item : Bytes) (n : Nat) : ∀ (bf bf' : Bloom) (i : Nat),
    bf.addFrom item n i = some bf' → bf.Grows bf' ∧
      ∀ j, i ≤ j → j < i + n → ∃ pos, bf.position item j = some pos ∧ bf'.bitField[pos]? = some true := by
  induction n with
  | zero =>
    intro bf bf' i h
    cases h
    exact ⟨.refl bf, fun j h1 h2 => absurd h2 (Nat.not_lt.2 h1)⟩
  | succ n ih =>
    intro bf bf' i h
    rw [Bloom.addFrom] at h
    obtain ⟨bit, hp, h⟩ := Option.bind_eq_some_iff.1 h
    split at h
    · next hb =>
      obtain ⟨hg, hset⟩ := ih _ _ _ h
      refine ⟨(Bloom.Grows.set bf bit).trans hg, fun j h1 h2 => ?_⟩
      by_cases hj : j = i
      · exact ⟨bit, hj ▸ hp, hg.2 bit (by rw [List.getElem?_set, if_pos rfl, if_pos hb])⟩
      · exact hset j (by omega) (by omega)
    · cases h

theorem bloom_add_mono (bf bf' : Bloom) (item : Bytes) (h : bf.add item = some bf') (k : Nat)
    (hk : bf.bitField[k]? = some true) : bf'.bitField[k]? = some true :=
  (addFrom_spec item bf.fc bf bf' 0 h).1.2 k hk

theorem bloom_adds_spec (items : List Bytes) : ∀ (bf bf' : Bloom),
    items.foldlM (fun b it => b.add it) bf = some bf' → bf.Grows bf' ∧
      ∀ item ∈ items, ∀ i < bf.fc, ∃ pos, bf.position item i = some pos ∧ bf'.bitField[pos]? = some true := by
  induction items with
  | nil =>
    intro bf bf' h
    cases h
    exact ⟨.refl bf, fun _ hm => nomatch hm⟩
  | cons it rest ih =>
    intro bf bf' h
    rw [List.foldlM_cons] at h
    obtain ⟨bf1, ha, h⟩ := Option.bind_eq_some_iff.1 h
    obtain ⟨hg, hset⟩ := ih bf1 bf' h
    obtain ⟨gg, gset⟩ := addFrom_spec it bf.fc bf bf1 0 ha
    refine ⟨gg.trans hg, fun item hm i hi => ?_⟩
    rcases List.mem_cons.mp hm with rfl | hmem
    · obtain ⟨pos, hpos, hbit⟩ := gset i (Nat.zero_le i) (by rwa [Nat.zero_add])
      exact ⟨pos, hpos, hg.2 pos hbit⟩
    · rw [← gg.position]
      exact hset item hmem i (gg.1.2.2.1 ▸ hi)

theorem bloom_no_false_negatives (bf bf' : Bloom) (items : List Bytes)
    (h : items.foldlM (fun b it => b.add it) bf = some bf') (item : Bytes) (hm : item ∈ items) (i : Nat)
    (hi : i < bf.fc) :
    ∃ pos, bf.position item i = some pos ∧ bf'.bitField[pos]? = some true :=
  (bloom_adds_spec items bf bf' h).2 item hm i hi

theorem addFrom_isSome (item : Bytes) (hl : item.length < 2 ^ 32) (n : Nat) : ∀ (bf : Bloom) (i : Nat),
    0 < bf.size → bf.bitField.length = bf.size * 8 → (bf.addFrom item n i).isSome := by
  induction n with
  | zero => intro bf i _ _; simp only [Bloom.addFrom, Option.isSome_some]
  | succ n ih =>
    intro bf i hs hb
    have hp : bf.position item i = some (Spec.Filters.bloomBit bf.size bf.tweak i item) :=
      bloom_position_eq_spec bf.size bf.fc bf.tweak i item bf.bitField hs hl
    have hlt : Spec.Filters.bloomBit bf.size bf.tweak i item < bf.bitField.length := by
      rewrite [hb]; unfold Spec.Filters.bloomBit; exact Nat.mod_lt _ (by omega)
    generalize Spec.Filters.bloomBit bf.size bf.tweak i item = bit at hp hlt
    -- (`rewrite`, not `simp only`: the kernel does not terminate on the `dsimp`-style proof term)
    rewrite [Bloom.addFrom, hp, Option.bind_eq_bind, Option.bind_some, if_pos hlt]
    exact ih _ _ hs (by rewrite [List.length_set]; exact hb)

end Buidl.Filters
