/-
  Base58 as a change of base.  A digit string is a pair (number of leading zeros, value):
  `encode_base58` reads the pair off the bytes and writes it in base 58, the loop of
  `raw_decode_base58` does the converse, so both round trips are the one bijection
  `znum` / (`lz`, value), used in either order.
-/
import Buidl.Model.Base58
import Buidl.Proofs.Bytes
import Buidl.Proofs.Digits
import Buidl.Proofs.ListM
import Mathlib.Data.Nat.Digits.Defs
import Mathlib.Data.Nat.Digits.Lemmas
namespace Buidl.Base58
open Buidl Buidl.Digits

/-! ### a table of characters: position of a character, character of a position -/

theorem indexOf?_eq_findIdx? (c : Char) (l : Str) : indexOf? c l = l.findIdx? (· == c) := by
  induction l with
  | nil => rfl
  | cons x xs ih =>
    rw [indexOf?, List.findIdx?_cons, ih]
    simp only [beq_iff_eq]

theorem indexOf?_getElem (l : Str) (hn : l.Nodup) (i : Nat) (hi : i < l.length) :
    indexOf? l[i] l = some i := by
  rw [indexOf?_eq_findIdx?]
  -- without repetitions no earlier position holds the same character
  exact List.findIdx?_eq_some_iff_getElem.mpr ⟨hi, beq_self_eq_true _, fun j hji e =>
    Nat.ne_of_lt hji (hn.getElem_inj_iff.mp (beq_iff_eq.mp e))⟩

theorem indexOf?_some {l : Str} {c : Char} {i : Nat} (h : indexOf? c l = some i) :
    ∃ hi : i < l.length, l[i] = c := by
  obtain ⟨hi, e, _⟩ := List.findIdx?_eq_some_iff_getElem.mp (indexOf?_eq_findIdx? c l ▸ h)
  exact ⟨hi, beq_iff_eq.mp e⟩

theorem getD_getElem? (l : Str) (c0 : Char) {d : Nat} (hd : d < l.length) : (l[d]?).getD c0 = l[d] := by
  rw [List.getElem?_eq_getElem hd, Option.getD_some]

theorem indexOf?_getD {l : Str} (hn : l.Nodup) (c0 : Char) {d : Nat} (hd : d < l.length) :
    indexOf? ((l[d]?).getD c0) l = some d := by
  rw [getD_getElem? l c0 hd]
  exact indexOf?_getElem l hn d hd

theorem getD_of_indexOf? {l : Str} (c0 : Char) {c : Char} {i : Nat} (h : indexOf? c l = some i) :
    i < l.length ∧ (l[i]?).getD c0 = c := by
  obtain ⟨hi, e⟩ := indexOf?_some h
  exact ⟨hi, by rw [getD_getElem? l c0 hi, e]⟩

theorem lookupAll_eq_map (l : Str) (c0 : Char) (ds : List Nat) (h : ∀ d ∈ ds, d < l.length) :
    lookupAll l ds = some (ds.map fun d => (l[d]?).getD c0) := by
  induction ds with
  | nil => rfl
  | cons d ds ih =>
    rw [lookupAll, ih (fun x hx => h x (List.mem_cons_of_mem _ hx)), List.map_cons,
      getD_getElem? l c0 (h d List.mem_cons_self), List.getElem?_eq_getElem (h d List.mem_cons_self)]

theorem mapM_indexOf?_map {l : Str} (hn : l.Nodup) (c0 : Char) (ds : List Nat) (h : ∀ d ∈ ds, d < l.length) :
    (ds.map fun d => (l[d]?).getD c0).mapM (fun c => indexOf? c l) = some ds := by
  rw [List.mapM_eq_some_iff_map, List.map_map]
  exact List.map_congr_left fun d hd => indexOf?_getD hn c0 (h d hd)

theorem mapM_indexOf?_some {l : Str} (c0 : Char) {cs : Str} {ds : List Nat}
    (h : cs.mapM (fun c => indexOf? c l) = some ds) :
    cs = (ds.map fun d => (l[d]?).getD c0) ∧ ∀ d ∈ ds, d < l.length :=
  ⟨(List.mapM_some_map_inv h fun _ _ _ e => (getD_of_indexOf? c0 e).2).symm,
   fun _ hd => let ⟨_, _, e⟩ := List.mapM_some_mem_right h hd; (getD_of_indexOf? c0 e).1⟩

/-! ### Python slices with negative bounds -/

theorem pyLast_append {α} (a b : List α) (n : Nat) (hb : b.length = n) : pyLast n (a ++ b) = b := by
  unfold pyLast
  rw [List.length_append, hb, Nat.add_sub_cancel]
  simp

theorem pyButLast_append {α} (a b : List α) (n : Nat) (hb : b.length = n) : pyButLast n (a ++ b) = a := by
  unfold pyButLast
  rw [List.length_append, hb, Nat.add_sub_cancel]
  simp

theorem pyButLast_append_pyLast {α} (n : Nat) (l : List α) : pyButLast n l ++ pyLast n l = l := by
  unfold pyButLast pyLast
  exact List.take_append_drop _ _

theorem pyLast_length {α} (n : Nat) (l : List α) (h : n ≤ l.length) : (pyLast n l).length = n := by
  unfold pyLast; simp; omega

/-! ### the Base58 alphabet -/

theorem alphabet_length : alphabet.length = 58 := by
  rw [alphabet, Gen.base58Alphabet, String.toList_ofList]; rfl

/-- compared as code points, which the kernel does on literals -/
theorem alphabet_nodup : alphabet.Nodup := by
  rw [alphabet, Gen.base58Alphabet, String.toList_ofList]
  exact List.Nodup.of_map Char.toNat (by decide +kernel)

theorem decPad_eq : Gen.b58DecPad.toList = ['1'] := by decide
theorem encPad_eq : Gen.b58EncPad.toList = ['1'] := by decide

/-- the character of digit `d` (`'1'` beyond the table, never used) -/
def b58char (d : Nat) : Char := (alphabet[d]?).getD '1'

theorem b58char_zero : b58char 0 = '1' := by
  rw [b58char, alphabet, Gen.base58Alphabet, String.toList_ofList]; rfl

theorem b58char_mem {d : Nat} (hd : d < 58) : b58char d ∈ alphabet := by
  rw [b58char, getD_getElem? alphabet '1' (alphabet_length ▸ hd)]
  exact List.getElem_mem _

theorem indexOf?_b58char {d : Nat} (hd : d < 58) : indexOf? (b58char d) alphabet = some d :=
  indexOf?_getD alphabet_nodup '1' (alphabet_length ▸ hd)

theorem b58char_of_indexOf? {c : Char} {i : Nat} (h : indexOf? c alphabet = some i) :
    i < 58 ∧ b58char i = c :=
  alphabet_length ▸ getD_of_indexOf? '1' h

theorem lookupAll_eq (ds : List Nat) (h : ∀ d ∈ ds, d < 58) : lookupAll alphabet ds = some (ds.map b58char) :=
  lookupAll_eq_map alphabet '1' ds (alphabet_length ▸ h)

theorem mapM_index_b58 (ds : List Nat) (h : ∀ d ∈ ds, d < 58) :
    (ds.map b58char).mapM (fun c => indexOf? c alphabet) = some ds :=
  mapM_indexOf?_map alphabet_nodup '1' ds (alphabet_length ▸ h)

/-! ### the `while num > 0` loops -/

theorem digitsBE_eq (base : Nat) (hb : 2 ≤ base) (fuel num : Nat) (acc : List Nat) (h : num ≤ fuel) :
    digitsBE base fuel num acc = (Nat.digits base num).reverse ++ acc := by
  induction fuel generalizing num acc with
  | zero =>
    have : num = 0 := by omega
    subst this; simp [digitsBE]
  | succ f ih =>
    unfold digitsBE
    by_cases h0 : num > 0
    · have hlt : num / base < num := Nat.div_lt_self h0 (by omega)
      rw [if_pos h0, ih _ _ (by omega), Nat.digits_def' (by omega) h0]
      simp
    · have : num = 0 := by omega
      subst this; simp

theorem bytesBE_eq_digitsBE (fuel num : Nat) (acc : List Nat) :
    bytesBE fuel num (acc.map UInt8.ofNat) = (digitsBE 256 fuel num acc).map UInt8.ofNat := by
  induction fuel generalizing num acc with
  | zero => rfl
  | succ f ih =>
    rw [bytesBE, digitsBE, show num >>> Gen.b58DecByteShift = num / 256 from Nat.shiftRight_eq_div_pow num 8,
      show num &&& Gen.b58DecByteMask = num % 256 from Nat.and_two_pow_sub_one_eq_mod num 8, ← List.map_cons, ih]
    split <;> rfl

theorem bytesBE_eq (num : Nat) : bytesBE num num [] = (Nat.digits 256 num).reverse.map UInt8.ofNat := by
  rw [← List.map_nil, bytesBE_eq_digitsBE, digitsBE_eq 256 (by omega) _ _ _ (Nat.le_refl _), List.append_nil]

/-! ### zero-padded numerals -/

def lz (l : List Nat) : Nat := (l.takeWhile (· = 0)).length

def znum (b k n : Nat) : List Nat := List.replicate k 0 ++ (Nat.digits b n).reverse

theorem lz_zero_cons (l : List Nat) : lz (0 :: l) = lz l + 1 := by simp [lz]

theorem lz_cons_ne {d : Nat} (h : d ≠ 0) (l : List Nat) : lz (d :: l) = 0 := by simp [lz, h]

theorem znum_succ (b k n : Nat) : znum b (k + 1) n = 0 :: znum b k n := rfl

theorem ofDigitsBE_zero_cons (B : Nat) (l : List Nat) : ofDigitsBE B 0 (0 :: l) = ofDigitsBE B 0 l := by
  rw [ofDigitsBE_cons, Nat.zero_mul]

theorem ofDigitsBE_eq_ofDigits (B : Nat) (l : List Nat) : ofDigitsBE B 0 l = Nat.ofDigits B l.reverse := by
  induction l using List.reverseRecOn with
  | nil => rfl
  | append_singleton l d ih =>
    rw [ofDigitsBE_snoc, ih, List.reverse_append, List.reverse_singleton, List.singleton_append, Nat.ofDigits_cons,
      Nat.mul_comm, Nat.add_comm]

theorem znum_lt {b : Nat} (hb : 1 < b) (k n : Nat) : ∀ d ∈ znum b k n, d < b := by
  intro d hd
  rcases List.mem_append.mp hd with h | h
  · rw [List.eq_of_mem_replicate h]; omega
  · exact Nat.digits_lt_base hb (List.mem_reverse.mp h)

theorem znum_lz_ofDigitsBE {b : Nat} (hb : 1 < b) (l : List Nat) (hl : ∀ d ∈ l, d < b) :
    znum b (lz l) (ofDigitsBE b 0 l) = l := by
  induction l with
  | nil => simp [znum, lz, ofDigitsBE]
  | cons d ds ih =>
    obtain ⟨hd, hds⟩ := List.forall_mem_cons.mp hl
    by_cases h0 : d = 0
    · rw [h0, lz_zero_cons, ofDigitsBE_zero_cons, znum_succ, ih hds]
    · -- no leading zero: the string is the canonical digit list of its value
      rw [lz_cons_ne h0, znum, List.replicate_zero, List.nil_append, ofDigitsBE_eq_ofDigits,
        Nat.digits_ofDigits b hb _ (fun x hx => hl x (List.mem_reverse.mp hx))
          (fun _ => by rw [List.getLast_reverse]; exact h0),
        List.reverse_reverse]

theorem lz_ofDigitsBE_znum (b k n : Nat) : lz (znum b k n) = k ∧ ofDigitsBE b 0 (znum b k n) = n := by
  induction k with
  | zero =>
    rw [znum, List.replicate_zero, List.nil_append]
    refine ⟨?_, by rw [ofDigitsBE_eq_ofDigits, List.reverse_reverse, Nat.ofDigits_digits]⟩
    by_cases hn : n = 0
    · simp [hn, lz]
    · -- the leading digit of a non-zero number is not zero
      obtain ⟨d, ds, e⟩ := List.exists_cons_of_ne_nil
        (l := (Nat.digits b n).reverse) (by simpa using Nat.digits_ne_nil_iff_ne_zero.mpr hn)
      have e' : Nat.digits b n = ds.reverse ++ [d] := by
        rw [← List.reverse_reverse (Nat.digits b n), e, List.reverse_cons]
      have hd : d ≠ 0 := by simpa [e'] using Nat.getLast_digit_ne_zero b hn
      rw [e, lz_cons_ne hd]
  | succ k ih =>
    rw [znum_succ, lz_zero_cons, ofDigitsBE_zero_cons, ih.1, ih.2]
    exact ⟨rfl, rfl⟩

/-! ### bytes as base-256 digits -/

theorem beToNatAux_eq_ofDigitsBE (acc : Nat) (b : Bytes) :
    beToNatAux acc b = ofDigitsBE 256 acc (b.map (·.toNat)) := by
  induction b generalizing acc with
  | nil => rfl
  | cons x xs ih => rw [beToNatAux, ih, List.map_cons, ofDigitsBE_cons]

theorem map_toNat_lt (b : Bytes) : ∀ d ∈ b.map (·.toNat), d < 256 := by
  intro d hd
  obtain ⟨x, _, rfl⟩ := List.mem_map.mp hd
  exact x.toNat_lt

theorem map_ofNat_toNat (b : Bytes) : (b.map (·.toNat)).map UInt8.ofNat = b := by
  rw [List.map_map]
  exact List.map_id'' (fun x => by simp) b

/-! ### the two functions of the model, as numerals -/

theorem encodeBase58_eq (b : Bytes) (hb : b ≠ []) :
    encodeBase58 b = some (List.replicate (b.takeWhile (fun c => decide (c.toNat = 0))).length '1' ++
      (Nat.digits 58 (beToNat b)).reverse.map b58char) := by
  unfold encodeBase58
  rw [if_neg hb]
  simp only [Gen.b58EncBase, Gen.b58EncZeroByte]
  rw [digitsBE_eq 58 (by omega) _ _ _ (Nat.le_refl _), List.append_nil,
    lookupAll_eq _ (fun d hd => Nat.digits_lt_base (by omega) (List.mem_reverse.1 hd)), encPad_eq]
  simp

theorem encodeBase58_znum (b : Bytes) (hb : b ≠ []) :
    encodeBase58 b =
      some ((znum 58 (lz (b.map (·.toNat))) (ofDigitsBE 256 0 (b.map (·.toNat)))).map b58char) := by
  rw [encodeBase58_eq b hb, ← beToNatAux_eq_ofDigitsBE, znum, List.map_append, List.map_replicate, b58char_zero, lz,
    List.takeWhile_map, List.length_map]
  rfl

/-- the decoding loop reads the digits, counting zeros as long as the number is zero -/
theorem decodeLoop_eq (s : Str) (z num : Nat) :
    decodeLoop s z num = (s.mapM fun c => indexOf? c alphabet).map fun ds =>
      (if num = 0 then z + lz ds else z, ofDigitsBE 58 num ds) := by
  induction s generalizing z num with
  | nil => by_cases h : num = 0 <;> simp [decodeLoop, h, lz, ofDigitsBE]
  | cons c cs ih =>
    rw [decodeLoop, List.mapM_cons, decPad_eq]
    by_cases hc : num = 0 ∧ [c] = ['1']
    · obtain ⟨rfl, hc⟩ := hc
      cases hc
      rw [if_pos ⟨rfl, rfl⟩, ih, ← b58char_zero, indexOf?_b58char (by omega)]
      cases cs.mapM fun c => indexOf? c alphabet with
      | none => rfl
      | some ds => simp [lz_zero_cons, ofDigitsBE_zero_cons, Nat.add_assoc, Nat.add_comm 1]
    · rw [if_neg hc]
      cases hi : indexOf? c alphabet with
      | none => rfl
      | some i =>
        -- either the number is already non-zero, or this digit makes it so
        have hnz : num = 0 → i ≠ 0 := fun h0 hi0 =>
          hc ⟨h0, by rw [← (b58char_of_indexOf? hi).2, hi0, b58char_zero]⟩
        have hnum : Gen.b58DecBase * num + i ≠ 0 := by
          simp only [Gen.b58DecBase]
          omega
        dsimp only
        rw [ih, Option.bind_eq_bind, Option.bind_some]
        cases cs.mapM fun c => indexOf? c alphabet with
        | none => rfl
        | some ds =>
          by_cases h0 : num = 0
          · simp [h0, hnz h0, lz_cons_ne (hnz h0), Gen.b58DecBase, ofDigitsBE_cons]
          · simp [h0, Gen.b58DecBase, Nat.mul_comm, ofDigitsBE_cons]

theorem decodeCombined_eq (s : Str) :
    decodeCombined s = (s.mapM fun c => indexOf? c alphabet).map fun ds =>
      (znum 256 (lz ds) (ofDigitsBE 58 0 ds)).map UInt8.ofNat := by
  rw [decodeCombined, decodeLoop_eq]
  cases s.mapM fun c => indexOf? c alphabet with
  | none => rfl
  | some ds =>
    simp only [Option.map_some, if_true, Nat.zero_add, bytesBE_eq, znum, List.map_append, List.map_replicate]
    rfl

theorem decodeCombined_eq_some_iff (s : Str) (c : Bytes) :
    decodeCombined s = some c ↔ ∃ ds, (∀ d ∈ ds, d < 58) ∧ s = ds.map b58char ∧
      c = (znum 256 (lz ds) (ofDigitsBE 58 0 ds)).map UInt8.ofNat := by
  rw [decodeCombined_eq]
  constructor
  · intro h
    obtain ⟨ds, hm, rfl⟩ := Option.map_eq_some_iff.mp h
    obtain ⟨hs, hlt⟩ := mapM_indexOf?_some '1' hm
    exact ⟨ds, alphabet_length ▸ hlt, hs, rfl⟩
  · rintro ⟨ds, hlt, rfl, rfl⟩
    rw [mapM_index_b58 ds hlt]
    rfl

/-! ### the two round trips -/

theorem decodeCombined_encodeBase58 (b : Bytes) (s : Str) (h : encodeBase58 b = some s) :
    decodeCombined s = some b := by
  by_cases hb : b = []
  · rw [hb] at h; cases h
  · rw [encodeBase58_znum b hb] at h
    cases h
    obtain ⟨hk, hn⟩ := lz_ofDigitsBE_znum 58 (lz (b.map (·.toNat))) (ofDigitsBE 256 0 (b.map (·.toNat)))
    refine (decodeCombined_eq_some_iff _ _).mpr ⟨_, znum_lt (by omega) _ _, rfl, ?_⟩
    rw [hk, hn, znum_lz_ofDigitsBE (by omega) _ (map_toNat_lt b), map_ofNat_toNat]

theorem encodeBase58_decodeCombined (s : Str) (c : Bytes) (h : decodeCombined s = some c) (hc : c ≠ []) :
    encodeBase58 c = some s := by
  obtain ⟨ds, hlt, rfl, rfl⟩ := (decodeCombined_eq_some_iff s c).mp h
  obtain ⟨hk, hn⟩ := lz_ofDigitsBE_znum 256 (lz ds) (ofDigitsBE 58 0 ds)
  rw [encodeBase58_znum _ hc, map_toNat_ofNat _ (znum_lt (by omega) _ _), hk, hn,
    znum_lz_ofDigitsBE (by omega) ds hlt]

/-! ### the characters of a Base58 text -/

theorem decodeCombined_chars {s : Str} {c : Bytes} (h : decodeCombined s = some c) : ∀ x ∈ s, x ∈ alphabet := by
  obtain ⟨ds, hlt, rfl, _⟩ := (decodeCombined_eq_some_iff s c).mp h
  intro x hx
  obtain ⟨d, hd, rfl⟩ := List.mem_map.mp hx
  exact b58char_mem (hlt d hd)

theorem encodeBase58_chars {b : Bytes} {r : Str} (h : encodeBase58 b = some r) : ∀ c ∈ r, c ∈ alphabet := by
  by_cases hb : b = []
  · rw [hb] at h; cases h
  · rw [encodeBase58_znum b hb] at h
    cases h
    exact List.forall_mem_map.mpr fun d hd => b58char_mem (znum_lt (by omega) _ _ d hd)

/-- `encode_base58` never writes the empty string: that one decodes to no bytes, which it refuses to encode -/
theorem encodeBase58_ne_nil {b : Bytes} {r : Str} (h : encodeBase58 b = some r) : r ≠ [] := by
  rintro rfl
  cases decodeCombined_encodeBase58 b [] h
  cases h

/-! ### Base58Check -/

theorem rawDecodeBase58_eq (hash256 : Bytes → Bytes) (s : Str) :
    rawDecodeBase58 hash256 s = (decodeCombined s).bind fun c =>
      if (hash256 (pyButLast 4 c)).take 4 = pyLast 4 c then some (pyButLast 4 c) else none := by
  unfold rawDecodeBase58
  cases decodeCombined s with
  | none => rfl
  | some c => exact ite_not _ _ _

theorem rawDecodeBase58_encodeBase58Checksum (hash256 : Bytes → Bytes) (hh : ∀ b, 4 ≤ (hash256 b).length)
    (p : Bytes) (s : Str) (he : encodeBase58Checksum hash256 p = some s) :
    rawDecodeBase58 hash256 s = some p := by
  have hl : ((hash256 p).take 4).length = 4 := by rw [List.length_take]; exact Nat.min_eq_left (hh p)
  rw [rawDecodeBase58_eq, decodeCombined_encodeBase58 _ _ he, Option.bind_some]
  simp only [Gen.b58EncChecksumWidth, pyLast_append _ _ 4 hl, pyButLast_append _ _ 4 hl, if_true]

end Buidl.Base58
