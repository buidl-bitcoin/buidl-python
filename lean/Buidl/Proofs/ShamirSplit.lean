/-
  Buidl.Proofs.ShamirSplit — `split_secret` / `recover_secret`: the shares produced by the code all lie on
  the polynomials of degree < k through the k base points (k−2 random shares, the digest share at 254, the
  secret at 255) (`split_at`); `recover_secret` on enough points of such polynomials returns the secret
  (`recoverSecret_at`), hence so do any ≥ k of the shares.
-/
import Buidl.Proofs.ShamirLagrange
import Buidl.Proofs.Mnemonic
namespace Buidl.Shamir
open Buidl Buidl.Mnemonic Polynomial

theorem takeRandom_length {n : Nat} {ρ ρ' : List Nat} {b : Bytes} (h : takeRandom n ρ = some (b, ρ')) :
    b.length = n := by
  unfold takeRandom at h
  split at h
  · cases h
  · rename_i hlen
    split at h
    · cases h
    · simp only [Option.some.injEq, Prod.mk.injEq] at h
      rw [← h.1]; simp; omega

theorem randomShares_spec (nb : Nat) : ∀ (c i : Nat) (ρ ρ' : List Nat) (l : ShareData),
    randomShares nb c i ρ = some (l, ρ') →
      nodes l = List.range' i c ∧ ∀ o ∈ l, o.2.length = nb := by
  intro c
  induction c with
  | zero =>
    intro i ρ ρ' l h
    simp only [randomShares, Option.some.injEq, Prod.mk.injEq] at h
    rw [← h.1]; simp [nodes]
  | succ c ih =>
    intro i ρ ρ' l h
    rw [randomShares] at h
    cases ht : takeRandom nb ρ with
    | none => rw [ht] at h; cases h
    | some p =>
      obtain ⟨b, ρ1⟩ := p
      rw [ht] at h
      simp only at h
      cases hr : randomShares nb c (i + 1) ρ1 with
      | none => rw [hr] at h; cases h
      | some q =>
        obtain ⟨l', ρ2⟩ := q
        rw [hr] at h
        simp only [Option.some.injEq, Prod.mk.injEq] at h
        obtain ⟨h1, h2⟩ := ih (i + 1) ρ1 ρ2 l' hr
        rw [← h.1]
        refine ⟨?_, ?_⟩
        · simp only [nodes, List.map_cons, List.range'_succ] at h1 ⊢
          rw [h1]
        · intro o ho
          simp only [List.mem_cons] at ho
          rcases ho with rfl | ho
          · exact takeRandom_length ht
          · exact h2 o ho

theorem derivedShares_eq (base : ShareData) (is : List Nat) :
    derivedShares base is = is.mapM fun i => (interpolate i base).map (Prod.mk i) := by
  induction is with
  | nil => rfl
  | cons i r ih =>
    rw [derivedShares, ih, List.mapM_option_cons]
    cases interpolate i base <;> cases List.mapM (fun i => (interpolate i base).map (Prod.mk i)) r <;> rfl

theorem derivedShares_spec (base : ShareData) (is : List Nat) (l : ShareData)
    (h : derivedShares base is = some l) :
    nodes l = is ∧ ∀ o ∈ l, interpolate o.1 base = some o.2 := by
  rw [derivedShares_eq] at h
  have key : ∀ i (o : Nat × Bytes), (interpolate i base).map (Prod.mk i) = some o →
      o.1 = i ∧ interpolate o.1 base = some o.2 := by
    intro i o ho
    obtain ⟨y, hy, rfl⟩ := Option.map_eq_some_iff.mp ho
    exact ⟨rfl, hy⟩
  refine ⟨List.mapM_some_map_inv h fun i _ o ho => (key i o ho).1, fun o ho => ?_⟩
  obtain ⟨i, _, hi⟩ := List.mapM_some_mem_right h ho
  exact (key i o hi).2

theorem splitLens_contains (L : Nat) : Gen.splitLens.contains L = decide (L = 16 ∨ L = 32) := by
  simp only [Gen.splitLens, List.contains_eq_mem, List.mem_cons, List.not_mem_nil, or_false]

theorem splitSecret_reject (hmac256 : Bytes → Bytes → Bytes) (secret : Bytes) (k n : Nat) (ρ : List Nat)
    (h : n < 1 ∨ n > 16 ∨ k < 1 ∨ k > n ∨ ¬ (secret.length = 16 ∨ secret.length = 32)) :
    splitSecret hmac256 secret k n ρ = .reject := by
  unfold splitSecret
  by_cases h1 : n < 1
  · rw [if_pos h1]
  by_cases h2 : n > Gen.splitMaxN
  · rw [if_neg h1, if_pos h2]
  by_cases h3 : k < 1
  · rw [if_neg h1, if_neg h2, if_pos h3]
  by_cases h4 : k > n
  · rw [if_neg h1, if_neg h2, if_neg h3, if_pos h4]
  have h5 : ¬ (secret.length = 16 ∨ secret.length = 32) := by
    rcases h with h | h | h | h | h
    · exact absurd h h1
    · exact absurd h h2
    · exact absurd h h3
    · exact absurd h h4
    · exact h
  rw [if_neg h1, if_neg h2, if_neg h3, if_neg h4]
  simp only [splitLens_contains, h5, decide_false, Bool.not_false, if_true]

/-- with k = 1 the code returns ONE share, `(0, secret)`, and uses no randomness -/
theorem splitSecret_k1 (hmac256 : Bytes → Bytes → Bytes) (secret : Bytes) (n : Nat) (ρ : List Nat)
    (hn1 : 1 ≤ n) (hn : n ≤ 16) (hl : secret.length = 16 ∨ secret.length = 32) :
    splitSecret hmac256 secret 1 n ρ = .ok [(0, secret)] ρ := by
  unfold splitSecret
  rw [if_neg (by omega), if_neg (by show ¬ n > 16; omega), if_neg (by omega), if_neg (by omega)]
  simp only [splitLens_contains, hl, decide_true, Bool.not_true, Bool.false_eq_true, if_false]
  rfl

theorem splitSecret_guard {hmac256 : Bytes → Bytes → Bytes} {secret : Bytes} {k n : Nat} {ρ : List Nat}
    {shares : ShareData} {rest : List Nat} (h : splitSecret hmac256 secret k n ρ = .ok shares rest) :
    1 ≤ k ∧ k ≤ n ∧ n ≤ 16 ∧ (secret.length = 16 ∨ secret.length = 32) := by
  by_cases hl : secret.length = 16 ∨ secret.length = 32
  · refine ⟨?_, ?_, ?_, hl⟩ <;>
    · by_contra hc
      rw [splitSecret_reject hmac256 secret k n ρ (by omega)] at h
      cases h
  · rw [splitSecret_reject hmac256 secret k n ρ (by simp only [hl, not_false_eq_true, or_true])] at h
    cases h

theorem splitSecret_unpack (hmac256 : Bytes → Bytes → Bytes) (secret : Bytes) (k n : Nat) (ρ : List Nat)
    (shares : ShareData) (rest : List Nat) (hk : 2 ≤ k)
    (h : splitSecret hmac256 secret k n ρ = .ok shares rest) :
    k ≤ n ∧ n ≤ 16 ∧ (secret.length = 16 ∨ secret.length = 32) ∧
    ∃ (random : Bytes) (shareData more : ShareData),
      random.length = secret.length - 4 ∧
      nodes shareData = List.range' 0 (k - 2) ∧ (∀ o ∈ shareData, o.2.length = secret.length) ∧
      nodes more = (List.range n).drop (k - 2) ∧
      (∀ o ∈ more, interpolate o.1
        (shareData ++ [(254, digest hmac256 random secret ++ random), (255, secret)]) = some o.2) ∧
      shares = shareData ++ more := by
  obtain ⟨hk1, hkn, hn16, hlen⟩ := splitSecret_guard h
  unfold splitSecret at h
  rw [if_neg (by omega), if_neg (by show ¬ n > 16; omega), if_neg (by omega), if_neg (by omega)] at h
  simp only [splitLens_contains, hlen, decide_true, Bool.not_true, Bool.false_eq_true, if_false,
    show (k == 1) = false by simp; omega] at h
  cases ht : takeRandom (secret.length - Gen.splitRandShort) ρ with
  | none => rw [ht] at h; cases h
  | some p =>
    obtain ⟨random, ρ1⟩ := p
    rw [ht] at h
    simp only at h
    cases hr : randomShares secret.length (k - 2) 0 ρ1 with
    | none => rw [hr] at h; cases h
    | some q =>
      obtain ⟨shareData, ρ2⟩ := q
      rw [hr] at h
      simp only at h
      cases hd : derivedShares (shareData ++ [(Gen.splitDigestX, digest hmac256 random secret ++ random),
          (Gen.splitSecretX, secret)]) ((List.range n).drop (k - 2)) with
      | none => rw [hd] at h; cases h
      | some more =>
        rw [hd] at h
        simp only [SplitResult.ok.injEq] at h
        obtain ⟨r1, r2⟩ := randomShares_spec _ _ _ _ _ _ hr
        obtain ⟨d1, d2⟩ := derivedShares_spec _ _ _ hd
        exact ⟨hkn, hn16, hlen, random, shareData, more, takeRandom_length ht, r1, r2, d1, d2, h.1.symm⟩

theorem mem_drop_range {d n x : Nat} (h : x ∈ (List.range n).drop d) : d ≤ x ∧ x < n := by
  rw [List.range_eq_range', List.drop_range', List.mem_range'_1] at h
  omega

theorem split_nodes (hmac256 : Bytes → Bytes → Bytes) (secret : Bytes) (k n : Nat) (ρ : List Nat)
    (shares : ShareData) (rest : List Nat) (hk : 2 ≤ k)
    (h : splitSecret hmac256 secret k n ρ = .ok shares rest) : nodes shares = List.range n := by
  obtain ⟨hkn, _, _, _, sd, more, _, hs, _, hm, _, hsh⟩ := splitSecret_unpack hmac256 secret k n ρ shares rest hk h
  rw [hsh, nodes, List.map_append]
  show nodes sd ++ nodes more = _
  rw [hs, hm, List.range_eq_range', List.drop_range', Nat.mul_one, List.range'_append_1]
  congr 1; omega

theorem digest_length {hmac256 : Bytes → Bytes → Bytes} (hh : ∀ k m, 4 ≤ (hmac256 k m).length) (random secret : Bytes) :
    (digest hmac256 random secret).length = 4 := by
  simp only [digest, Gen.digestLen, List.length_take]
  have := hh random secret; omega

/-- a split with `k ≥ 2`: polynomials of degree < k, one for each byte position (those through the `k` base points:
    k−2 random shares, the digest share at 254, the secret at 255), pass through the digest share, the secret and
    every share -/
theorem split_at (hmac256 : Bytes → Bytes → Bytes) (hh : ∀ k m, 4 ≤ (hmac256 k m).length)
    (secret : Bytes) (k n : Nat) (ρ : List Nat) (shares : ShareData) (rest : List Nat) (hk : 2 ≤ k)
    (h : splitSecret hmac256 secret k n ρ = .ok shares rest) :
    ∃ (random : Bytes) (P : Nat → GF256[X]), (∀ j, (P j).degree < k) ∧
      At P secret.length (254, digest hmac256 random secret ++ random) ∧ At P secret.length (255, secret) ∧
      ∀ sh ∈ shares, At P secret.length sh := by
  obtain ⟨hkn, hn16, hL, random, sd, more, hrl, hsd1, hsd2, hm1, hm2, rfl⟩ :=
    splitSecret_unpack hmac256 secret k n ρ shares rest hk h
  refine ⟨random, polyOf (sd ++ [(254, digest hmac256 random secret ++ random), (255, secret)]), ?_⟩
  have hdsl : (digest hmac256 random secret ++ random).length = secret.length := by
    rw [List.length_append, digest_length hh, hrl]; omega
  generalize digest hmac256 random secret ++ random = ds at hm2 hdsl ⊢
  have hbn : nodes (sd ++ [(254, ds), (255, secret)]) = List.range' 0 (k - 2) ++ [254, 255] := by
    rw [← hsd1]; simp [nodes]
  have hnot : ∀ x, x ∈ List.range' 0 (k - 2) ++ [254, 255] → x < k - 2 ∨ x = 254 ∨ x = 255 := fun x hx => by
    simpa [List.mem_range'_1] using hx
  have hbwf : WFset (sd ++ [(254, ds), (255, secret)]) secret.length := by
    refine ⟨fun o ho => ?_, ?_, fun o ho => ?_⟩
    · have := hnot o.1 (hbn ▸ List.mem_map_of_mem ho); omega
    · rw [hbn, List.nodup_append]
      refine ⟨List.nodup_range', by decide, fun a ha b hb => ?_⟩
      rw [List.mem_range'_1] at ha
      simp only [List.mem_cons, List.not_mem_nil, or_false] at hb
      omega
    · simp only [List.mem_append, List.mem_cons, List.not_mem_nil, or_false] at ho
      rcases ho with ho | rfl | rfl
      exacts [hsd2 o ho, hdsl, rfl]
  have hblen : (sd ++ [(254, ds), (255, secret)]).length = k := by
    have := congrArg List.length hbn
    simp only [nodes, List.length_map, List.length_append, List.length_range', List.length_cons,
      List.length_nil] at this ⊢
    omega
  refine ⟨fun j => hblen ▸ degree_polyOf hbwf j, at_polyOf hbwf (by simp), at_polyOf hbwf (by simp),
    fun sh hsh => ?_⟩
  rcases List.mem_append.mp hsh with hsh | hsh
  · exact at_polyOf hbwf (List.mem_append_left _ hsh)
  · obtain ⟨hlo, hhi⟩ := mem_drop_range (hm1 ▸ List.mem_map_of_mem hsh : sh.1 ∈ (List.range n).drop (k - 2))
    exact at_of_interpolate hbwf (by simp) (hm2 sh hsh) (by omega) fun hx => by have := hnot _ (hbn ▸ hx); omega

/-- `recover_secret` on any points with distinct nodes other than 254, 255 that lie on polynomials of degree below
    their number: if the polynomials take the value `secret` at 255 and a digest share of it at 254, it returns
    `secret` -/
theorem recoverSecret_at (hmac256 : Bytes → Bytes → Bytes) (hh : ∀ k m, 4 ≤ (hmac256 k m).length)
    {P : Nat → GF256[X]} {sub : ShareData} {L : Nat} {random secret : Bytes} (hs : WFset sub L) (hne : sub ≠ [])
    (hon : ∀ p ∈ sub, At P L p) (hdeg : ∀ j, j < L → (P j).degree < sub.length)
    (h254 : 254 ∉ nodes sub) (h255 : 255 ∉ nodes sub) (hsec : At P L (255, secret))
    (hdig : At P L (254, digest hmac256 random secret ++ random)) : recoverSecret hmac256 sub = some secret := by
  have hdg := digest_length hh random secret
  unfold recoverSecret
  rw [show Gen.recSecretX = 255 from rfl, show Gen.recDigestX = 254 from rfl,
    interpolate_at hs hne hon hdeg (by decide) h255 hsec, interpolate_at hs hne hon hdeg (by decide) h254 hdig]
  simp only [Gen.recDigestTake, Gen.recDigestDrop]
  rw [List.take_left' hdg, List.drop_left' hdg]
  simp

theorem recoverSecret_of_split (hmac256 : Bytes → Bytes → Bytes) (hh : ∀ k m, 4 ≤ (hmac256 k m).length)
    (secret : Bytes) (k n : Nat) (ρ : List Nat) (shares : ShareData) (rest : List Nat) (hk : 2 ≤ k)
    (h : splitSecret hmac256 secret k n ρ = .ok shares rest)
    (sub : ShareData) (hsub : ∀ p ∈ sub, p ∈ shares) (hnd : (sub.map (·.1)).Nodup) (hlen : k ≤ sub.length) :
    recoverSecret hmac256 sub = some secret := by
  obtain ⟨_, hkn, hn16, _⟩ := splitSecret_guard h
  obtain ⟨random, P, hdeg, hdig, hsec, hon⟩ := split_at hmac256 hh secret k n ρ shares rest hk h
  have hnodes := split_nodes hmac256 secret k n ρ shares rest hk h
  have hlt : ∀ x ∈ nodes sub, x < 16 := fun x hx => by
    obtain ⟨o, ho, rfl⟩ := List.mem_map.mp hx
    have : o.1 ∈ nodes shares := List.mem_map_of_mem (hsub o ho)
    rw [hnodes, List.mem_range] at this
    omega
  exact recoverSecret_at hmac256 hh
    ⟨fun o ho => by have := hlt o.1 (List.mem_map_of_mem ho); omega, hnd, fun o ho => (hon o (hsub o ho)).1⟩
    (fun h => by rw [h] at hlen; simp at hlen; omega) (fun p hp => hon p (hsub p hp))
    (fun j _ => lt_of_lt_of_le (hdeg j) (by exact_mod_cast hlen)) (fun hm => by have := hlt _ hm; omega)
    (fun hm => by have := hlt _ hm; omega) hsec hdig

theorem split_data_facts (hmac256 : Bytes → Bytes → Bytes) (hh : ∀ k m, 4 ≤ (hmac256 k m).length)
    (secret : Bytes) (k n : Nat) (ρ : List Nat) (shares : ShareData) (rest : List Nat)
    (h : splitSecret hmac256 secret k n ρ = .ok shares rest) :
    1 ≤ k ∧ k ≤ n ∧ n ≤ 16 ∧ (secret.length = 16 ∨ secret.length = 32) ∧
      (∀ p ∈ shares, p.1 < n ∧ p.2.length = secret.length) ∧ (shares.map (·.1)).Nodup ∧
      (k = 1 → shares = [(0, secret)]) := by
  by_cases hk : 2 ≤ k
  · obtain ⟨_, hkn, hn16, hL⟩ := splitSecret_guard h
    obtain ⟨_, _, _, _, _, hon⟩ := split_at hmac256 hh secret k n ρ shares rest hk h
    have hnodes := split_nodes hmac256 secret k n ρ shares rest hk h
    refine ⟨by omega, hkn, hn16, hL, fun p hp => ⟨?_, (hon p hp).1⟩, ?_, fun h1 => by omega⟩
    · have : p.1 ∈ nodes shares := List.mem_map_of_mem hp
      rwa [hnodes, List.mem_range] at this
    · show (nodes shares).Nodup
      rw [hnodes]; exact List.nodup_range
  · obtain ⟨hk1, hkn, hn16, hlen⟩ := splitSecret_guard h
    have hk1' : k = 1 := by omega
    subst hk1'
    rw [splitSecret_k1 hmac256 secret n ρ hkn hn16 hlen] at h
    cases h
    refine ⟨hk1, hkn, hn16, hlen, fun p hp => ?_, List.nodup_singleton _, fun _ => rfl⟩
    rw [List.mem_singleton.mp hp]
    exact ⟨by show 0 < n; omega, rfl⟩

end Buidl.Shamir
