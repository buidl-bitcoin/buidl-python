/-
  Helper lemmas for C07: number codec (model `encodeNum`/`decodeNum` versus `CScriptNum`),
  `CastToBool`, per-function conformance of the `op_*` models with the consensus `execOp`
  (one `conf_*` lemma per function, collected along `opPairs` in `opPairs_conform`), the dispatch
  table, and one step of `evaluate`.  Whole programs: Buidl.Proofs.InterpIf.
-/
import Buidl.Proofs.Bytes
import Buidl.Model.Interp
import Buidl.Spec.Consensus
namespace Buidl.Interp
open Buidl Buidl.Script
open Buidl.Spec

/-! ## number codec -/

theorem leToNat_concat (init : Bytes) (x : UInt8) :
    leToNat (init ++ [x]) = leToNat init + 256 ^ init.length * x.toNat := by
  rw [leToNat_append]; simp [leToNat]

/-- the value both decoders give a non-empty string: little-endian magnitude, the top bit of the last byte
    is the sign -/
def signedLE (init : Bytes) (x : UInt8) : Int :=
  if 128 ≤ x.toNat then -((leToNat init + 256 ^ init.length * (x.toNat - 128) : Nat) : Int)
  else ((leToNat init + 256 ^ init.length * x.toNat : Nat) : Int)

theorem scriptNum_concat (init : Bytes) (x : UInt8) : Consensus.scriptNum (init ++ [x]) = signedLE init x := by
  unfold Consensus.scriptNum signedLE
  rw [if_neg (by simp), leToNat_concat, List.length_append, List.length_singleton, Nat.add_sub_cancel]
  have hlt := leToNat_lt init
  generalize 256 ^ init.length = P at *
  generalize leToNat init = L at *
  by_cases h128 : 128 ≤ x.toNat
  · have h2 : P * (x.toNat - 128) + P * 128 = P * x.toNat := by
      rw [← Nat.mul_add, Nat.sub_add_cancel h128]
    rw [if_pos h128, if_pos (by omega), show L + P * x.toNat - 128 * P = L + P * (x.toNat - 128) by omega]
  · have h1 : P * x.toNat ≤ P * 127 := Nat.mul_le_mul_left _ (by omega)
    rw [if_neg h128, if_neg (by omega)]

theorem decodeNum_concat (init : Bytes) (x : UInt8) : decodeNum (init ++ [x]) = signedLE init x := by
  unfold decodeNum signedLE
  rw [List.reverse_append]
  simp only [List.reverse_cons, List.reverse_nil, List.nil_append, List.singleton_append, beToNatAux_eq,
    List.length_reverse, beToNat_reverse]
  by_cases h128 : 128 ≤ x.toNat
  · rw [if_pos h128, if_pos h128, Nat.mul_comm, Nat.add_comm]
  · rw [if_neg h128, if_neg h128, Nat.mul_comm, Nat.add_comm]

/-- `decode_num` in terms of the little-endian value: total, and equal to `CScriptNum::set_vch`
    for byte strings of every length -/
theorem decodeNum_eq_scriptNum (b : Bytes) : decodeNum b = Consensus.scriptNum b := by
  rcases List.eq_nil_or_concat b with rfl | ⟨init, x, rfl⟩
  · rfl
  · rw [List.concat_eq_append, decodeNum_concat, scriptNum_concat]

theorem magBytes_concat : ∀ (f n : Nat), n ≤ f → 0 < n →
    ∃ init last, magBytes f n = init ++ [last] ∧ last.toNat ≠ 0 ∧
      leToNat init + 256 ^ init.length * last.toNat = n
  | 0, n, h, hp => by omega
  | f + 1, n, h, hp => by
    unfold magBytes
    rw [if_neg (by omega)]
    by_cases hq : n / 256 = 0
    · refine ⟨[], UInt8.ofNat (n % 256), ?_, ?_, ?_⟩
      · cases f with
        | zero => rfl
        | succ f => rw [magBytes, if_pos hq]; rfl
      · rw [u8_ofNat_toNat]; omega
      · rw [u8_ofNat_toNat]; simp [leToNat]; omega
    · obtain ⟨init, last, he, hl, hv⟩ := magBytes_concat f (n / 256) (by omega) (by omega)
      refine ⟨UInt8.ofNat (n % 256) :: init, last, by rw [he]; rfl, hl, ?_⟩
      rw [leToNat, u8_ofNat_toNat, List.length_cons, Nat.pow_succ]
      generalize 256 ^ init.length = P at hv ⊢
      rw [Nat.mul_right_comm]
      omega

theorem magBytes_value (f n : Nat) (h : n ≤ f) : leToNat (magBytes f n) = n := by
  rcases Nat.eq_zero_or_pos n with rfl | hp
  · cases f <;> rfl
  · obtain ⟨init, last, he, _, hv⟩ := magBytes_concat f n h hp
    rw [he, leToNat_concat, hv]

theorem magLE_eq_magBytes : ∀ f n, Consensus.magLE f n = magBytes f n
  | 0, _ => rfl
  | f + 1, n => by
    unfold Consensus.magLE magBytes
    rw [magLE_eq_magBytes f]

theorem encodeNum_eq_serialize (n : Int) : encodeNum n = Consensus.serialize n := by
  unfold encodeNum Consensus.serialize
  by_cases h0 : n = 0
  · simp [h0]
  · simp only [h0, if_false, magLE_eq_magBytes]
    obtain ⟨init, last, he, _⟩ := magBytes_concat n.natAbs n.natAbs (Nat.le_refl _) (by omega)
    rw [he]
    simp only [List.reverse_append, List.reverse_cons, List.reverse_nil, List.nil_append,
      List.singleton_append, List.getLast?_append, List.getLast?_singleton, Option.some_or,
      List.dropLast_concat, List.reverse_reverse]

theorem minimal_concat (init : Bytes) (x : UInt8) :
    Consensus.minimal (init ++ [x]) =
      if x.toNat % 128 = 0 then (match init.reverse with | [] => false | prev :: _ => decide (128 ≤ prev.toNat))
      else true := by
  unfold Consensus.minimal
  rw [List.reverse_append]
  rfl

/-- an encoding is magnitude bytes and the sign rule; each of the rule's three outcomes ends in a byte that makes
    the string decode to `n` and be minimal -/
theorem encodeNum_spec (n : Int) : decodeNum (encodeNum n) = n ∧ Consensus.minimal (encodeNum n) = true := by
  by_cases h0 : n = 0
  · subst h0; exact ⟨rfl, rfl⟩
  obtain ⟨init, last, he, hl, hv⟩ := magBytes_concat n.natAbs n.natAbs (Nat.le_refl _) (by omega)
  have hlast := last.toNat_lt
  have henc : encodeNum n =
      if 128 ≤ last.toNat then (init ++ [last]) ++ [if n < 0 then 0x80 else 0]
      else if n < 0 then init ++ [UInt8.ofNat (last.toNat + 128)]
      else init ++ [last] := by
    unfold encodeNum
    simp only [h0, if_false, he, List.reverse_append, List.reverse_cons, List.reverse_nil,
      List.nil_append, List.singleton_append, List.reverse_reverse]
  rw [henc]
  by_cases h128 : 128 ≤ last.toNat
  · rw [if_pos h128, decodeNum_concat, minimal_concat]
    constructor
    · unfold signedLE
      rw [leToNat_concat, hv]
      by_cases hneg : n < 0
      · rw [if_pos hneg, if_pos (by decide)]; show -((n.natAbs + _ * 0 : Nat) : Int) = n; omega
      · rw [if_neg hneg, if_neg (by decide)]; show ((n.natAbs + _ * 0 : Nat) : Int) = n; omega
    · rw [if_pos (by split <;> rfl), List.reverse_append]
      exact decide_eq_true h128
  · rw [if_neg h128]
    by_cases hneg : n < 0
    · have hx : (UInt8.ofNat (last.toNat + 128)).toNat = last.toNat + 128 := by rw [u8_ofNat_toNat]; omega
      rw [if_pos hneg, decodeNum_concat, minimal_concat, hx, if_neg (by omega)]
      refine ⟨?_, rfl⟩
      unfold signedLE
      rw [hx, if_pos (by omega), Nat.add_sub_cancel, hv]; omega
    · rw [if_neg hneg, decodeNum_concat, minimal_concat, if_neg (by omega)]
      refine ⟨?_, rfl⟩
      unfold signedLE
      rw [if_neg h128, hv]; omega

theorem decodeNum_encodeNum (n : Int) : decodeNum (encodeNum n) = n := (encodeNum_spec n).1

theorem encodeNum_inj {a b : Int} (h : encodeNum a = encodeNum b) : a = b := by
  simpa [decodeNum_encodeNum] using congrArg decodeNum h

theorem minimal_encodeNum (n : Int) : Consensus.minimal (encodeNum n) = true := (encodeNum_spec n).2

/-! ## CastToBool -/

theorem castToBool_concat (init : Bytes) (x : UInt8) :
    Consensus.castToBool (init ++ [x]) = true ↔ leToNat init ≠ 0 ∨ (x.toNat ≠ 0 ∧ x.toNat ≠ 128) := by
  have hx (y : UInt8) (k : Nat) (hk : k < 256) : y = UInt8.ofNat k ↔ y.toNat = k := by
    rw [← UInt8.toNat_inj, u8_ofNat_toNat, Nat.mod_eq_of_lt hk]
  induction init with
  | nil =>
    have h0 := hx x 0 (by decide)
    have h80 := hx x 128 (by decide)
    by_cases hz : x = 0
    · simp [Consensus.castToBool, leToNat, hz]
    · have : x.toNat ≠ 0 := fun e => hz (h0.2 e)
      simp only [List.nil_append, Consensus.castToBool, ne_eq, hz, not_false_eq_true, if_true, List.isEmpty_nil,
        Bool.true_and, Bool.not_eq_true', beq_eq_false_iff_ne, leToNat, not_true_eq_false, false_or, this, true_and]
      exact not_congr h80
  | cons y init ih =>
    have h0 := hx y 0 (by decide)
    by_cases hz : y = 0
    · have : y.toNat = 0 := h0.1 hz
      rw [List.cons_append, Consensus.castToBool, if_neg (fun h => h hz), leToNat, this]
      refine ih.trans ?_
      omega
    · have : y.toNat ≠ 0 := fun e => hz (h0.2 e)
      have he : (init ++ [x]).isEmpty = false := by cases init <;> rfl
      rw [List.cons_append, Consensus.castToBool, if_pos hz, he, Bool.false_and, Bool.not_false, leToNat]
      exact ⟨fun _ => by omega, fun _ => rfl⟩

theorem signedLE_ne_zero (init : Bytes) (x : UInt8) :
    signedLE init x ≠ 0 ↔ leToNat init ≠ 0 ∨ (x.toNat ≠ 0 ∧ x.toNat ≠ 128) := by
  unfold signedLE
  have hP : 0 < 256 ^ init.length := Nat.pow_pos (by decide)
  have hmul (k : Nat) : 256 ^ init.length * k = 0 ↔ k = 0 := by
    rw [Nat.mul_eq_zero]; omega
  split
  · have := hmul (x.toNat - 128); omega
  · have := hmul x.toNat; omega

/-- `CastToBool` is the truth test the implementation uses (`decode_num(x) != 0`), for byte
    strings of every length -/
theorem castToBool_iff (b : Bytes) : Consensus.castToBool b = true ↔ decodeNum b ≠ 0 := by
  rcases List.eq_nil_or_concat b with rfl | ⟨init, x, rfl⟩
  · simp [Consensus.castToBool, decodeNum]
  · rw [List.concat_eq_append, decodeNum_concat, castToBool_concat, signedLE_ne_zero]

theorem castToBool_eq (b : Bytes) : Consensus.castToBool b = !(decodeNum b == 0) := by
  rw [Bool.eq_iff_iff, castToBool_iff]
  simp

theorem finalTest_accept (top : Bytes) (s : Stack) :
    finalTest Cfg.repaired (top :: s) = .accept ↔ decodeNum top ≠ 0 := by
  by_cases h : decodeNum top = 0 <;> simp [finalTest, Cfg.repaired, op_verify, h]

theorem boolNum_eq (b : Bool) : boolNum b = Consensus.vchBool b := by cases b <;> rfl

theorem decodeNum_boolNum (b : Bool) : decodeNum (boolNum b) = if b then 1 else 0 := by
  cases b <;> rfl

theorem op_verify_boolNum (b : Bool) (s : Stack) : op_verify (boolNum b :: s) = if b then .ok s else .fail := by
  cases b <;> rfl

/-! ## per-function conformance with `Consensus.execOp` -/

def ctxOf (env : Env) : Consensus.Ctx :=
  { locktime := env.locktime, sequence := env.sequence, version := env.version,
    sha1 := env.sha1, ripemd160 := env.ripemd160, sha256 := env.sha256,
    hash160 := env.hash160, hash256 := env.hash256 }

/-- model result of a stack function as a consensus result (returned False and raised are both
    failures) -/
def liftS (r : Res Stack) (alt : Stack) : Consensus.Res (Stack × Stack) :=
  match r with
  | .ok s => .ok (s, alt)
  | .fail => .fail
  | .err _ => .fail

def liftSA (r : Res (Stack × Stack)) : Consensus.Res (Stack × Stack) :=
  match r with
  | .ok p => .ok p
  | .fail => .fail
  | .err _ => .fail

section
variable (ctx : Consensus.Ctx) (s alt : Stack)

/-- op_0, op_1negate, op_1 … op_16: `h` is read off `execOp` at the opcode number -/
theorem conf_num {n : Int} {c : Nat} (h : Consensus.execOp ctx c s alt = .ok (Consensus.serialize n :: s, alt)) :
    liftS (op_num n s) alt = Consensus.execOp ctx c s alt := by
  rw [h, ← encodeNum_eq_serialize]; rfl

/-- OP_NOP, OP_NOP1, OP_NOP4 … OP_NOP10 -/
theorem conf_nop {c : Nat} (h : Consensus.execOp ctx c s alt = .ok (s, alt)) :
    liftS (op_nop s) alt = Consensus.execOp ctx c s alt := by
  rw [h]; rfl

theorem conf_verify : liftS (op_verify s) alt = Consensus.execOp ctx 105 s alt := by
  rcases s with _ | ⟨x, s⟩
  · rfl
  · show liftS (if decodeNum x = 0 then .fail else .ok s) alt
      = (if Consensus.castToBool x then Consensus.Res.ok s else .fail).map (·, alt)
    rw [castToBool_eq]
    by_cases h : decodeNum x = 0 <;> simp [h, liftS, Consensus.Res.map]

theorem conf_return : liftS (op_return s) alt = Consensus.execOp ctx 106 s alt := rfl

theorem conf_toaltstack : liftSA (op_toaltstack s alt) = Consensus.execOp ctx 107 s alt := by
  rcases s with _ | ⟨x, s⟩ <;> rfl

theorem conf_fromaltstack : liftSA (op_fromaltstack s alt) = Consensus.execOp ctx 108 s alt := by
  rcases alt with _ | ⟨x, a⟩ <;> rfl

theorem conf_2drop : liftS (op_2drop s) alt = Consensus.execOp ctx 109 s alt := by
  rcases s with _ | ⟨b, _ | ⟨a, s⟩⟩ <;> rfl

theorem conf_2dup : liftS (op_2dup s) alt = Consensus.execOp ctx 110 s alt := by
  rcases s with _ | ⟨b, _ | ⟨a, s⟩⟩ <;> rfl

theorem conf_3dup : liftS (op_3dup s) alt = Consensus.execOp ctx 111 s alt := by
  rcases s with _ | ⟨c, _ | ⟨b, _ | ⟨a, s⟩⟩⟩ <;> rfl

theorem conf_2over : liftS (op_2over s) alt = Consensus.execOp ctx 112 s alt := by
  rcases s with _ | ⟨d, _ | ⟨c, _ | ⟨b, _ | ⟨a, s⟩⟩⟩⟩ <;> rfl

/-- OP_2ROT conforms on every stack with fewer than six items (both fail); with six or more it
    does not (F07b) -/
theorem conf_2rot_short (h : s.length < 6) : liftS (op_2rot s) alt = Consensus.execOp ctx 113 s alt := by
  rcases s with _ | ⟨f, _ | ⟨e, _ | ⟨d, _ | ⟨c, _ | ⟨b, _ | ⟨a, s⟩⟩⟩⟩⟩⟩ <;> first | rfl | (simp at h; omega)

theorem conf_2swap : liftS (op_2swap s) alt = Consensus.execOp ctx 114 s alt := by
  rcases s with _ | ⟨d, _ | ⟨c, _ | ⟨b, _ | ⟨a, s⟩⟩⟩⟩ <;> rfl

theorem conf_ifdup : liftS (op_ifdup s) alt = Consensus.execOp ctx 115 s alt := by
  rcases s with _ | ⟨x, s⟩
  · rfl
  · show liftS (if decodeNum x ≠ 0 then .ok (x :: x :: s) else .ok (x :: s)) alt
      = (if Consensus.castToBool x then Consensus.Res.ok (x :: x :: s, alt) else .ok (x :: s, alt))
    rw [castToBool_eq]
    by_cases h : decodeNum x = 0 <;> simp [h, liftS]

theorem conf_depth : liftS (op_depth s) alt = Consensus.execOp ctx 116 s alt := by
  show _ = Consensus.Res.ok (Consensus.serialize (s.length : Int) :: s, alt)
  rw [← encodeNum_eq_serialize]; rfl

theorem conf_drop : liftS (op_drop s) alt = Consensus.execOp ctx 117 s alt := by
  rcases s with _ | ⟨x, s⟩ <;> rfl

theorem conf_dup : liftS (op_dup s) alt = Consensus.execOp ctx 118 s alt := by
  rcases s with _ | ⟨x, s⟩ <;> rfl

theorem conf_nip : liftS (op_nip s) alt = Consensus.execOp ctx 119 s alt := by
  rcases s with _ | ⟨b, _ | ⟨a, s⟩⟩ <;> rfl

theorem conf_over : liftS (op_over s) alt = Consensus.execOp ctx 120 s alt := by
  rcases s with _ | ⟨b, _ | ⟨a, s⟩⟩ <;> rfl

theorem conf_rot : liftS (op_rot s) alt = Consensus.execOp ctx 123 s alt := by
  rcases s with _ | ⟨c, _ | ⟨b, _ | ⟨a, s⟩⟩⟩ <;> rfl

theorem conf_swap : liftS (op_swap s) alt = Consensus.execOp ctx 124 s alt := by
  rcases s with _ | ⟨b, _ | ⟨a, s⟩⟩ <;> rfl

theorem conf_tuck : liftS (op_tuck s) alt = Consensus.execOp ctx 125 s alt := by
  rcases s with _ | ⟨b, _ | ⟨a, s⟩⟩ <;> rfl

theorem conf_size : liftS (op_size s) alt = Consensus.execOp ctx 130 s alt := by
  rcases s with _ | ⟨x, s⟩
  · rfl
  · show _ = Consensus.Res.ok (Consensus.serialize (x.length : Int) :: x :: s, alt)
    rw [← encodeNum_eq_serialize]; rfl

theorem conf_equal : liftS (op_equal s) alt = Consensus.execOp ctx 135 s alt := by
  rcases s with _ | ⟨e1, _ | ⟨e2, s⟩⟩
  · rfl
  · rfl
  · show Consensus.Res.ok (boolNum (e1 == e2) :: s, alt) = .ok (Consensus.vchBool (e2 == e1) :: s, alt)
    rw [boolNum_eq, BEq.comm (a := e1)]

theorem conf_equalverify : liftS (op_equalverify s) alt = Consensus.execOp ctx 136 s alt := by
  rcases s with _ | ⟨e1, _ | ⟨e2, s⟩⟩
  · rfl
  · rfl
  · show liftS (op_verify (boolNum (e1 == e2) :: s)) alt
      = (if (e2 == e1) then Consensus.Res.ok (s, alt) else .fail)
    rw [op_verify_boolNum, BEq.comm (a := e1)]
    cases (e2 == e1) <;> rfl

end

/-- a number consensus reads within its size limit (`num4`, `num5` are `numMax 4`, `numMax 5`) is the model's `decodeNum` -/
theorem numMax_some {k : Nat} {b : Bytes} {n : Int} (h : Consensus.numMax k b = some n) : decodeNum b = n := by
  unfold Consensus.numMax at h
  split at h
  · rw [decodeNum_eq_scriptNum]; exact Option.some.inj h
  · cases h

theorem un4_conf (s alt : Stack) (m : Stack → Res Stack) (f g : Int → Bytes) (h0 : m [] = .fail)
    (h1 : ∀ x r, m (x :: r) = .ok (f (decodeNum x) :: r)) (hfg : ∀ a, f a = g a)
    (h : (Consensus.un4 g s).map (·, alt) ≠ .oversize) :
    liftS (m s) alt = (Consensus.un4 g s).map (·, alt) := by
  rcases s with _ | ⟨x, r⟩
  · rw [h0]; rfl
  · unfold Consensus.un4 at h ⊢
    cases hn : Consensus.num4 x with
    | none => simp [hn, Consensus.Res.map] at h
    | some n => simp only [h1, liftS, Consensus.Res.map, numMax_some hn, hfg, hn]

/-- the model reads (top, second), consensus names them (bn2, bn1): hence `g b a` -/
theorem bin4_conf (s alt : Stack) (f g : Int → Int → Bytes) (hfg : ∀ a b, f a b = g b a)
    (h : (Consensus.bin4 g s).map (·, alt) ≠ .oversize) :
    liftS (binaryNum f s) alt = (Consensus.bin4 g s).map (·, alt) := by
  rcases s with _ | ⟨x2, _ | ⟨x1, r⟩⟩
  · rfl
  · rfl
  · unfold Consensus.bin4 at h ⊢
    cases h1 : Consensus.num4 x1 with
    | none => simp [h1, Consensus.Res.map] at h
    | some n1 =>
      cases h2 : Consensus.num4 x2 with
      | none => simp [h1, h2, Consensus.Res.map] at h
      | some n2 => simp only [binaryNum, liftS, Consensus.Res.map, numMax_some h1, numMax_some h2, hfg, h1, h2]

section
variable (ctx : Consensus.Ctx) (s alt : Stack)

theorem conf_1add (h : Consensus.execOp ctx 139 s alt ≠ .oversize) :
    liftS (op_1add s) alt = Consensus.execOp ctx 139 s alt :=
  un4_conf s alt op_1add (fun e => encodeNum (e + 1)) _ rfl (fun _ _ => rfl)
    (fun _ => encodeNum_eq_serialize _) h

theorem conf_1sub (h : Consensus.execOp ctx 140 s alt ≠ .oversize) :
    liftS (op_1sub s) alt = Consensus.execOp ctx 140 s alt :=
  un4_conf s alt op_1sub (fun e => encodeNum (e - 1)) _ rfl (fun _ _ => rfl)
    (fun _ => encodeNum_eq_serialize _) h

theorem conf_negate (h : Consensus.execOp ctx 143 s alt ≠ .oversize) :
    liftS (op_negate s) alt = Consensus.execOp ctx 143 s alt :=
  un4_conf s alt op_negate (fun e => encodeNum (-e)) _ rfl (fun _ _ => rfl)
    (fun _ => encodeNum_eq_serialize _) h

theorem conf_abs (h : Consensus.execOp ctx 144 s alt ≠ .oversize) :
    liftS (op_abs s) alt = Consensus.execOp ctx 144 s alt :=
  un4_conf s alt op_abs (fun e => encodeNum (if e < 0 then -e else e)) _ rfl (fun _ _ => rfl)
    (fun _ => encodeNum_eq_serialize _) h

theorem conf_not (h : Consensus.execOp ctx 145 s alt ≠ .oversize) :
    liftS (op_not s) alt = Consensus.execOp ctx 145 s alt :=
  un4_conf s alt op_not (fun e => boolNum (e == 0)) _ rfl (fun _ _ => rfl)
    (fun _ => boolNum_eq _) h

theorem conf_0notequal (h : Consensus.execOp ctx 146 s alt ≠ .oversize) :
    liftS (op_0notequal s) alt = Consensus.execOp ctx 146 s alt :=
  un4_conf s alt op_0notequal (fun e => boolNum (!(e == 0))) _ rfl (fun _ _ => rfl)
    (fun _ => by rw [boolNum_eq]; rfl) h

theorem conf_add (h : Consensus.execOp ctx 147 s alt ≠ .oversize) :
    liftS (op_add s) alt = Consensus.execOp ctx 147 s alt :=
  bin4_conf s alt _ _ (fun a b => by rw [encodeNum_eq_serialize, Int.add_comm]) h

theorem conf_sub (h : Consensus.execOp ctx 148 s alt ≠ .oversize) :
    liftS (op_sub s) alt = Consensus.execOp ctx 148 s alt :=
  bin4_conf s alt _ _ (fun a b => by rw [encodeNum_eq_serialize]) h

theorem conf_booland (h : Consensus.execOp ctx 154 s alt ≠ .oversize) :
    liftS (op_booland s) alt = Consensus.execOp ctx 154 s alt :=
  bin4_conf s alt _ _ (fun a b => by rw [boolNum_eq, Bool.and_comm]) h

theorem conf_boolor (h : Consensus.execOp ctx 155 s alt ≠ .oversize) :
    liftS (op_boolor s) alt = Consensus.execOp ctx 155 s alt :=
  bin4_conf s alt _ _ (fun a b => by rw [boolNum_eq, Bool.or_comm]) h

theorem conf_numequal (h : Consensus.execOp ctx 156 s alt ≠ .oversize) :
    liftS (op_numequal s) alt = Consensus.execOp ctx 156 s alt :=
  bin4_conf s alt _ _ (fun a b => by rw [boolNum_eq, BEq.comm (a := a)]) h

theorem conf_numnotequal (h : Consensus.execOp ctx 158 s alt ≠ .oversize) :
    liftS (op_numnotequal s) alt = Consensus.execOp ctx 158 s alt :=
  bin4_conf s alt _ _ (fun a b => by rw [boolNum_eq, BEq.comm (a := a)]; rfl) h

theorem conf_lessthan (h : Consensus.execOp ctx 159 s alt ≠ .oversize) :
    liftS (op_lessthan s) alt = Consensus.execOp ctx 159 s alt :=
  bin4_conf s alt _ _ (fun a b => by rw [boolNum_eq]) h

theorem conf_greaterthan (h : Consensus.execOp ctx 160 s alt ≠ .oversize) :
    liftS (op_greaterthan s) alt = Consensus.execOp ctx 160 s alt :=
  bin4_conf s alt _ _ (fun a b => by rw [boolNum_eq]) h

theorem conf_lessthanorequal (h : Consensus.execOp ctx 161 s alt ≠ .oversize) :
    liftS (op_lessthanorequal s) alt = Consensus.execOp ctx 161 s alt :=
  bin4_conf s alt _ _ (fun a b => by rw [boolNum_eq]) h

theorem conf_greaterthanorequal (h : Consensus.execOp ctx 162 s alt ≠ .oversize) :
    liftS (op_greaterthanorequal s) alt = Consensus.execOp ctx 162 s alt :=
  bin4_conf s alt _ _ (fun a b => by rw [boolNum_eq]) h

theorem conf_min (h : Consensus.execOp ctx 163 s alt ≠ .oversize) :
    liftS (op_min s) alt = Consensus.execOp ctx 163 s alt :=
  bin4_conf s alt _ _ (fun a b => by
    simp only [← encodeNum_eq_serialize]
    by_cases h1 : a < b <;> by_cases h2 : b < a <;> simp [h1, h2] <;> (congr 1; omega)) h

theorem conf_max (h : Consensus.execOp ctx 164 s alt ≠ .oversize) :
    liftS (op_max s) alt = Consensus.execOp ctx 164 s alt :=
  bin4_conf s alt _ _ (fun a b => by
    simp only [← encodeNum_eq_serialize]
    by_cases h1 : a > b <;> by_cases h2 : b > a <;> simp [h1, h2] <;> (congr 1; omega)) h

theorem conf_numequalverify (h : Consensus.execOp ctx 157 s alt ≠ .oversize) :
    liftS (op_numequalverify s) alt = Consensus.execOp ctx 157 s alt := by
  rcases s with _ | ⟨x2, _ | ⟨x1, r⟩⟩
  · rfl
  · rfl
  · have e : Consensus.execOp ctx 157 (x2 :: x1 :: r) alt =
        ((Consensus.bin4 (fun bn1 bn2 => Consensus.vchBool (bn1 == bn2)) (x2 :: x1 :: r)).andThen
          Consensus.verifyTop).map (·, alt) := rfl
    rw [e] at h ⊢
    unfold Consensus.bin4 at h ⊢
    cases h1 : Consensus.num4 x1 with
    | none => simp [h1, Consensus.Res.andThen, Consensus.Res.map] at h
    | some n1 =>
      cases h2 : Consensus.num4 x2 with
      | none => simp [h1, h2, Consensus.Res.andThen, Consensus.Res.map] at h
      | some n2 =>
        simp only [op_numequalverify, op_numequal, binaryNum, Res.bind, numMax_some h1, numMax_some h2,
          op_verify_boolNum, Consensus.Res.andThen, Consensus.verifyTop, h1, h2]
        rw [BEq.comm (a := n2)]
        cases (n1 == n2) <;> rfl

theorem conf_within (h : Consensus.execOp ctx 165 s alt ≠ .oversize) :
    liftS (op_within s) alt = Consensus.execOp ctx 165 s alt := by
  rcases s with _ | ⟨x3, _ | ⟨x2, _ | ⟨x1, r⟩⟩⟩
  · rfl
  · rfl
  · rfl
  · have e : Consensus.execOp ctx 165 (x3 :: x2 :: x1 :: r) alt =
        match Consensus.num4 x1, Consensus.num4 x2, Consensus.num4 x3 with
        | some bn1, some bn2, some bn3 =>
          .ok (Consensus.vchBool (decide (bn2 ≤ bn1) && decide (bn1 < bn3)) :: r, alt)
        | _, _, _ => .oversize := rfl
    rw [e] at h ⊢
    cases h1 : Consensus.num4 x1 with
    | none => simp [h1] at h
    | some n1 =>
      cases h2 : Consensus.num4 x2 with
      | none => simp [h1, h2] at h
      | some n2 =>
        cases h3 : Consensus.num4 x3 with
        | none => simp [h1, h2, h3] at h
        | some n3 =>
          simp only [op_within, liftS, numMax_some h1, numMax_some h2, numMax_some h3, boolNum_eq, ge_iff_le]

theorem conf_ripemd160 (env : Env) : liftS (op_ripemd160 env s) alt = Consensus.execOp (ctxOf env) 166 s alt := by
  rcases s with _ | ⟨x, s⟩ <;> rfl
theorem conf_sha1 (env : Env) : liftS (op_sha1 env s) alt = Consensus.execOp (ctxOf env) 167 s alt := by
  rcases s with _ | ⟨x, s⟩ <;> rfl
theorem conf_sha256 (env : Env) : liftS (op_sha256 env s) alt = Consensus.execOp (ctxOf env) 168 s alt := by
  rcases s with _ | ⟨x, s⟩ <;> rfl
theorem conf_hash160 (env : Env) : liftS (op_hash160 env s) alt = Consensus.execOp (ctxOf env) 169 s alt := by
  rcases s with _ | ⟨x, s⟩ <;> rfl
theorem conf_hash256 (env : Env) : liftS (op_hash256 env s) alt = Consensus.execOp (ctxOf env) 170 s alt := by
  rcases s with _ | ⟨x, s⟩ <;> rfl

theorem op_pick_repaired (top : Bytes) (s : Stack) : op_pick Cfg.repaired (top :: s) =
    if decodeNum top < 0 then .fail else if (s.length : Int) < decodeNum top + 1 then .fail
    else match s[(decodeNum top).toNat]? with
      | some x => .ok (x :: s)
      | none => .err .indexError := by
  unfold op_pick
  by_cases hneg : decodeNum top < 0
  · simp [Cfg.repaired, hneg]
  · have h0 : 0 ≤ decodeNum top := by omega
    simp [Cfg.repaired, hneg, h0]
    rfl

theorem op_roll_repaired (top : Bytes) (s : Stack) : op_roll Cfg.repaired (top :: s) =
    if decodeNum top < 0 then .fail else if (s.length : Int) < decodeNum top + 1 then .fail
    else match s[(decodeNum top).toNat]? with
      | some x => .ok (x :: s.eraseIdx (decodeNum top).toNat)
      | none => .err .indexError := by
  unfold op_roll
  by_cases hneg : decodeNum top < 0
  · simp [Cfg.repaired, hneg]
  · have h0 : 0 ≤ decodeNum top := by omega
    simp only [Cfg.repaired, hneg, h0, decide_false, Bool.and_false, Bool.false_eq_true, if_false, if_true]
    by_cases hz : decodeNum top = 0
    · -- the model's shortcut for index 0 is the general case
      rw [hz]
      cases s with
      | nil => rfl
      | cons x tl => rw [if_neg (by simp; omega)]; rfl
    · rw [if_neg hz]
      rfl

/-- the index test of OP_PICK / OP_ROLL: the repaired model (sign, then length) against consensus (one test);
    `f` is what either opcode builds from the element found -/
theorem pickRoll_index (l : Stack) (n : Int) (alt : Stack) (f : Bytes → Stack) :
    liftS (if n < 0 then .fail else if (l.length : Int) < n + 1 then .fail
      else match l[n.toNat]? with
        | some x => .ok (f x)
        | none => .err .indexError) alt
    = if (decide (n < 0) || decide (n ≥ (l.length : Int))) = true then Consensus.Res.fail
      else match l[n.toNat]? with
        | none => .fail
        | some vch => .ok (f vch, alt) := by
  by_cases hneg : n < 0
  · rw [if_pos hneg, if_pos (by rw [decide_eq_true hneg]; rfl)]; rfl
  · by_cases hlen : (l.length : Int) < n + 1
    · rw [if_neg hneg, if_pos hlen, if_pos (by rw [decide_eq_true (show n ≥ (l.length : Int) by omega), Bool.or_true])]
      rfl
    · rw [if_neg hneg, if_neg hlen, if_neg (by
        rw [decide_eq_false hneg, decide_eq_false (show ¬ n ≥ (l.length : Int) by omega)]; exact Bool.false_ne_true)]
      cases l[n.toNat]? <;> rfl

/-- OP_PICK, repaired (F07c) -/
theorem conf_pick (h : Consensus.execOp ctx 121 s alt ≠ .oversize) :
    liftS (op_pick Cfg.repaired s) alt = Consensus.execOp ctx 121 s alt := by
  rcases s with _ | ⟨top, l⟩
  · rfl
  · rw [op_pick_repaired]
    refine (pickRoll_index l (decodeNum top) alt (· :: l)).trans ?_
    rcases l with _ | ⟨x, s'⟩
    · -- one item: consensus fails before looking at it
      rw [if_pos (by simp; omega)]; rfl
    · have e : Consensus.execOp ctx 121 (top :: x :: s') alt =
          match Consensus.num4 top with
          | none => .oversize
          | some n =>
            if n < 0 || n ≥ ((x :: s').length : Int) then .fail
            else match (x :: s')[n.toNat]? with
              | none => .fail
              | some vch => .ok (vch :: x :: s', alt) := rfl
      rw [e] at h ⊢
      cases hn4 : Consensus.num4 top with
      | none => rw [hn4] at h; exact absurd rfl h
      | some n => rw [numMax_some hn4]

/-- OP_ROLL, repaired (F07c) -/
theorem conf_roll (h : Consensus.execOp ctx 122 s alt ≠ .oversize) :
    liftS (op_roll Cfg.repaired s) alt = Consensus.execOp ctx 122 s alt := by
  rcases s with _ | ⟨top, l⟩
  · rfl
  · rw [op_roll_repaired]
    refine (pickRoll_index l (decodeNum top) alt (· :: l.eraseIdx (decodeNum top).toNat)).trans ?_
    rcases l with _ | ⟨x, s'⟩
    · rw [if_pos (by simp; omega)]; rfl
    · have e : Consensus.execOp ctx 122 (top :: x :: s') alt =
          match Consensus.num4 top with
          | none => .oversize
          | some n =>
            if n < 0 || n ≥ ((x :: s').length : Int) then .fail
            else match (x :: s')[n.toNat]? with
              | none => .fail
              | some vch => .ok (vch :: (x :: s').eraseIdx n.toNat, alt) := rfl
      rw [e] at h ⊢
      cases hn4 : Consensus.num4 top with
      | none => rw [hn4] at h; exact absurd rfl h
      | some n => rw [numMax_some hn4]

end

/-- the last test of CLTV / CSV in consensus, once the check is known to fail -/
theorem ite_not_fail {b : Bool} (hb : b ≠ true) {x : Consensus.Res (Stack × Stack)} :
    (if (!b) = true then Consensus.Res.fail else x) = .fail := by
  rw [Bool.eq_false_iff.mpr hb]; rfl

theorem checkLockTime_iff (ctx : Consensus.Ctx) (m : Nat) :
    Consensus.checkLockTime ctx m = true ↔
      ctx.sequence ≠ 4294967295 ∧ locktimeComparable ctx.locktime m = true ∧ ¬ ctx.locktime < m := by
  have e : Consensus.checkLockTime ctx m = (if !locktimeComparable ctx.locktime m then false
      else if m > ctx.locktime then false else if ctx.sequence = 4294967295 then false else true) := rfl
  rw [e]
  cases locktimeComparable ctx.locktime m
  · simp
  · by_cases h1 : m > ctx.locktime <;> by_cases h2 : ctx.sequence = 4294967295 <;> simp [h1, h2]

/-- CHECKLOCKTIMEVERIFY: for every locktime (a 32-bit value, as `Locktime()` guarantees), sequence,
    and operand of at most 5 bytes the model's outcome is consensus' -/
theorem conf_cltv (env : Env) (s alt : Stack) (hlt : env.locktime ≤ 4294967295)
    (h : Consensus.execOp (ctxOf env) 177 s alt ≠ .oversize) :
    liftS (op_checklocktimeverify env s) alt = Consensus.execOp (ctxOf env) 177 s alt := by
  rcases s with _ | ⟨top, s⟩
  · -- on the empty stack both branches of the sequence test fail
    rw [show op_checklocktimeverify env [] = .fail from ite_self _]; rfl
  · have e : Consensus.execOp (ctxOf env) 177 (top :: s) alt =
        match Consensus.num5 top with
        | none => .oversize
        | some n =>
          if n < 0 then .fail
          else if !Consensus.checkLockTime (ctxOf env) n.toNat then .fail
          else .ok (top :: s, alt) := rfl
    rw [e] at h ⊢
    cases hn : Consensus.num5 top with
    | none => rw [hn] at h; exact absurd rfl h
    | some n =>
      unfold op_checklocktimeverify
      simp only [numMax_some hn]
      have hiff : Consensus.checkLockTime (ctxOf env) n.toNat = true ↔ env.sequence ≠ 4294967295 ∧
          locktimeComparable env.locktime n.toNat = true ∧ ¬ env.locktime < n.toNat :=
        checkLockTime_iff (ctxOf env) n.toNat
      -- the model's exits in turn; consensus fails at each but the last
      by_cases h1 : env.sequence = Gen.opMaxSequence
      · rw [if_pos h1]
        split
        · rfl
        · exact (ite_not_fail fun hc => (hiff.1 hc).1 h1).symm
      rw [if_neg h1]
      by_cases h2 : n < 0
      · rw [if_pos h2, if_pos h2]; rfl
      rw [if_neg h2, if_neg h2]
      by_cases h3 : n.toNat > Gen.opMaxLocktime
      · have : 4294967295 < n.toNat := h3
        rw [if_pos h3, ite_not_fail fun hc => (hiff.1 hc).2.2 (by omega)]
        rfl
      rw [if_neg h3]
      cases h4 : locktimeComparable env.locktime n.toNat
      · rw [ite_not_fail fun hc => Bool.false_ne_true (h4.symm.trans (hiff.1 hc).2.1)]
        rfl
      rw [Bool.not_true, if_neg Bool.false_ne_true]
      by_cases h5 : env.locktime < n.toNat
      · rw [if_pos h5, ite_not_fail fun hc => (hiff.1 hc).2.2 h5]
        rfl
      · rw [if_neg h5, hiff.2 ⟨h1, h4, h5⟩]
        rfl

theorem and_bit' (x i : Nat) : x &&& 2 ^ i = if x.testBit i then 2 ^ i else 0 :=
  and_two_pow x i

theorem and_bit (x i : Nat) : x &&& 2 ^ i = 0 ∨ x &&& 2 ^ i = 2 ^ i := by
  rw [and_bit']; cases x.testBit i <;> simp

theorem and_mask16 (x : Nat) : x &&& 65535 = x % 65536 := Nat.and_two_pow_sub_one_eq_mod x 16

theorem and_typemask (x : Nat) : x &&& (4194304 ||| 65535) = (x &&& 4194304) + (x &&& 65535) := by
  rw [Nat.and_or_distrib_left]
  have hm : x &&& 65535 < 2 ^ 22 := by rw [and_mask16]; omega
  rcases and_bit x 22 with h | h
  · have h' : x &&& 4194304 = 0 := h
    rw [h']; simp
  · have h' : x &&& 4194304 = 2 ^ 22 := h
    have := Nat.two_pow_add_eq_or_of_lt hm 1
    simp only [Nat.mul_one] at this
    rw [h']; omega

theorem checkSequence_iff (ctx : Consensus.Ctx) (m : Nat) (hm : m &&& 2147483648 = 0) :
    Consensus.checkSequence ctx m = true ↔
      ¬ ctx.version < 2 ∧ seqIsRelative ctx.sequence = true ∧ seqComparable ctx.sequence m = true ∧
        ¬ ctx.sequence &&& 65535 < m &&& 65535 := by
  simp only [Consensus.checkSequence, Consensus.SEQUENCE_LOCKTIME_DISABLE_FLAG,
    Consensus.SEQUENCE_LOCKTIME_TYPE_FLAG, Consensus.SEQUENCE_LOCKTIME_MASK, seqComparable, seqIsRelativeBlock,
    seqIsRelativeTime, seqIsRelative, Gen.seqDisableFlag, Gen.seqTimeFlag, Nat.one_shiftLeft,
    show (2 : Nat) ^ 31 = 2147483648 from rfl, show (2 : Nat) ^ 22 = 4194304 from rfl, and_typemask, and_mask16, hm]
  have hs := and_bit ctx.sequence 22
  have hm22 := and_bit m 22
  rw [show (2 : Nat) ^ 22 = 4194304 from rfl] at hs hm22
  generalize ctx.sequence &&& 2147483648 = d
  generalize ctx.sequence &&& 4194304 = t at hs ⊢
  generalize m &&& 4194304 = t' at hm22 ⊢
  have := Nat.mod_lt ctx.sequence (show 0 < 65536 by decide)
  have := Nat.mod_lt m (show 0 < 65536 by decide)
  generalize ctx.sequence % 65536 = l at *
  generalize m % 65536 = l' at *
  by_cases hv : ctx.version < 2
  · simp [hv]
  · by_cases hd : d = 0
    · rcases hs with rfl | rfl <;> rcases hm22 with rfl | rfl <;> simp [hv, hd] <;> omega
    · simp [hv, hd]

/-- CHECKSEQUENCEVERIFY (repaired, F07d) against BIP112, including the disable-flag NOP.  With an operand of
    2^32 or more (only possible with 5 bytes) the implementation's `Sequence(element)` raises ValueError where
    consensus would go on with the masked value (N07f, outside the property's operand range): `hok` excludes
    that one outcome. -/
theorem conf_csv_aux (env : Env) (s alt : Stack)
    (hok : ∀ top rest, s = top :: rest → 4294967295 < (decodeNum top).toNat →
      op_checksequenceverify Cfg.repaired env s ≠ .err .valueError)
    (h : Consensus.execOp (ctxOf env) 178 s alt ≠ .oversize) :
    liftS (op_checksequenceverify Cfg.repaired env s) alt = Consensus.execOp (ctxOf env) 178 s alt := by
  rcases s with _ | ⟨top, s⟩
  · rfl
  · have e : Consensus.execOp (ctxOf env) 178 (top :: s) alt =
        match Consensus.num5 top with
        | none => .oversize
        | some n =>
          if n < 0 then .fail
          else if n.toNat &&& 2147483648 ≠ 0 then .ok (top :: s, alt)
          else if !Consensus.checkSequence (ctxOf env) n.toNat then .fail
          else .ok (top :: s, alt) := rfl
    rw [e] at h ⊢
    have hok := hok top s rfl
    cases hn : Consensus.num5 top with
    | none => rw [hn] at h; exact absurd rfl h
    | some n =>
      unfold op_checksequenceverify at hok ⊢
      simp only [numMax_some hn, Cfg.repaired, Bool.not_true, Bool.false_and, Bool.true_and, Bool.false_eq_true,
        if_false, Gen.seqDisableFlag, bne_iff_ne] at hok ⊢
      by_cases hneg : n < 0
      · rw [if_pos hneg, if_pos hneg]; rfl
      rw [if_neg hneg] at hok; rw [if_neg hneg, if_neg hneg]
      by_cases hd : n.toNat &&& 2147483648 ≠ 0
      · rw [if_pos hd, if_pos hd]; rfl
      · rw [if_neg hd] at hok; rw [if_neg hd, if_neg hd]
        have hiff : Consensus.checkSequence (ctxOf env) n.toNat = true ↔
            ¬ env.version < 2 ∧ seqIsRelative env.sequence = true ∧ seqComparable env.sequence n.toNat = true ∧
              ¬ env.sequence &&& 65535 < n.toNat &&& 65535 :=
          checkSequence_iff (ctxOf env) n.toNat (Decidable.of_not_not hd)
        -- the model's exits in turn; consensus fails at each but the last
        cases h1 : seqIsRelative env.sequence
        · rw [ite_not_fail fun hc => Bool.false_ne_true (h1.symm.trans (hiff.1 hc).2.1)]
          rfl
        rw [Bool.not_true, if_neg Bool.false_ne_true]
        by_cases h2 : env.version < Gen.csvMinVersion
        · rw [if_pos h2, ite_not_fail fun hc => (hiff.1 hc).1 h2]
          rfl
        rw [if_neg h2]
        by_cases hmax : n.toNat > Gen.opMaxSequence
        · refine absurd ?_ (hok hmax)
          rw [h1, Bool.not_true, if_neg Bool.false_ne_true, if_neg h2, if_pos hmax]
        rw [if_neg hmax]
        cases h3 : seqComparable env.sequence n.toNat
        · rw [ite_not_fail fun hc => Bool.false_ne_true (h3.symm.trans (hiff.1 hc).2.2.1)]
          rfl
        rw [Bool.not_true, if_neg Bool.false_ne_true]
        by_cases h4 : env.sequence &&& Gen.seqMask < n.toNat &&& Gen.seqMask
        · rw [if_pos h4, ite_not_fail fun hc => (hiff.1 hc).2.2.2 h4]
          rfl
        · rw [if_neg h4, hiff.2 ⟨h2, h1, h3, h4⟩]
          rfl

theorem conf_csv (env : Env) (s alt : Stack)
    (hop : ∀ top rest, s = top :: rest → decodeNum top < 4294967296)
    (h : Consensus.execOp (ctxOf env) 178 s alt ≠ .oversize) :
    liftS (op_checksequenceverify Cfg.repaired env s) alt = Consensus.execOp (ctxOf env) 178 s alt :=
  conf_csv_aux env s alt (fun top rest e hgt => absurd (hop top rest e) (by omega)) h

/-! ## the dispatch table and the master conformance theorem -/

/-- opcode ↦ function for the flow-free part of the subset (everything except IF/NOTIF/ELSE/ENDIF,
    the two alt-stack opcodes and OP_2ROT) -/
def opPairs : List (Nat × OpFn) := [(0, .num 0), (79, .num (-1)), (81, .num 1), (82, .num 2), (83, .num 3), (84, .num 4), (85, .num 5), (86, .num 6), (87, .num 7), (88, .num 8), (89, .num 9), (90, .num 10), (91, .num 11), (92, .num 12), (93, .num 13), (94, .num 14), (95, .num 15), (96, .num 16), (97, .nop), (105, .verify), (106, .return_), (109, .drop2), (110, .dup2), (111, .dup3), (112, .over2), (114, .swap2), (115, .ifdup), (116, .depth), (117, .drop), (118, .dup), (119, .nip), (120, .over), (121, .pick), (122, .roll), (123, .rot), (124, .swap), (125, .tuck), (130, .size), (135, .equal), (136, .equalverify), (139, .add1), (140, .sub1), (143, .negate), (144, .abs), (145, .not), (146, .notequal0), (147, .add), (148, .sub), (154, .booland), (155, .boolor), (156, .numequal), (157, .numequalverify), (158, .numnotequal), (159, .lessthan), (160, .greaterthan), (161, .lessthanorequal), (162, .greaterthanorequal), (163, .min), (164, .max), (165, .within), (166, .ripemd160), (167, .sha1), (168, .sha256), (169, .hash160), (170, .hash256), (176, .nop), (177, .checklocktimeverify), (178, .checksequenceverify), (179, .nop), (180, .nop), (181, .nop), (182, .nop), (183, .nop), (184, .nop), (185, .nop)]

theorem forall_mem_cons_of {α : Type} {P : α → Prop} {a : α} {l : List α} (ha : P a) (hl : ∀ x ∈ l, P x) :
    ∀ x ∈ a :: l, P x :=
  List.forall_mem_cons.2 ⟨ha, hl⟩

/-- what conformance says of one entry `p` of `opPairs`: on every stack, function `p.2` is consensus' opcode `p.1`
    (the provisos: a 32-bit locktime, no ValueError from CHECKSEQUENCEVERIFY, no oversized operand) -/
def ConfAt (env : Env) (p : Nat × OpFn) : Prop :=
  ∀ s alt, env.locktime ≤ 4294967295 →
    (p.1 = 178 → op_checksequenceverify Cfg.repaired env s ≠ .err .valueError) →
    Consensus.execOp (ctxOf env) p.1 s alt ≠ .oversize →
    liftS (applyStackFn Cfg.repaired env p.2 s) alt = Consensus.execOp (ctxOf env) p.1 s alt

theorem ConfAt.always {env : Env} {c : Nat} {fn : OpFn}
    (h : ∀ s alt, liftS (applyStackFn Cfg.repaired env fn s) alt = Consensus.execOp (ctxOf env) c s alt) :
    ConfAt env (c, fn) :=
  fun s alt _ _ _ => h s alt

theorem ConfAt.short {env : Env} {c : Nat} {fn : OpFn}
    (h : ∀ s alt, Consensus.execOp (ctxOf env) c s alt ≠ .oversize →
      liftS (applyStackFn Cfg.repaired env fn s) alt = Consensus.execOp (ctxOf env) c s alt) :
    ConfAt env (c, fn) :=
  fun s alt _ _ ho => h s alt ho

/-- entry by entry, in the order of `opPairs`: the lemma that owns the entry -/
theorem opPairs_conform (env : Env) : ∀ p ∈ opPairs, ConfAt env p :=
  forall_mem_cons_of (.always fun s alt => conf_num _ s alt rfl) <|
  forall_mem_cons_of (.always fun s alt => conf_num _ s alt rfl) <|
  forall_mem_cons_of (.always fun s alt => conf_num _ s alt rfl) <|
  forall_mem_cons_of (.always fun s alt => conf_num _ s alt rfl) <|
  forall_mem_cons_of (.always fun s alt => conf_num _ s alt rfl) <|
  forall_mem_cons_of (.always fun s alt => conf_num _ s alt rfl) <|
  forall_mem_cons_of (.always fun s alt => conf_num _ s alt rfl) <|
  forall_mem_cons_of (.always fun s alt => conf_num _ s alt rfl) <|
  forall_mem_cons_of (.always fun s alt => conf_num _ s alt rfl) <|
  forall_mem_cons_of (.always fun s alt => conf_num _ s alt rfl) <|
  forall_mem_cons_of (.always fun s alt => conf_num _ s alt rfl) <|
  forall_mem_cons_of (.always fun s alt => conf_num _ s alt rfl) <|
  forall_mem_cons_of (.always fun s alt => conf_num _ s alt rfl) <|
  forall_mem_cons_of (.always fun s alt => conf_num _ s alt rfl) <|
  forall_mem_cons_of (.always fun s alt => conf_num _ s alt rfl) <|
  forall_mem_cons_of (.always fun s alt => conf_num _ s alt rfl) <|
  forall_mem_cons_of (.always fun s alt => conf_num _ s alt rfl) <|
  forall_mem_cons_of (.always fun s alt => conf_num _ s alt rfl) <|
  forall_mem_cons_of (.always fun s alt => conf_nop _ s alt rfl) <|
  forall_mem_cons_of (.always (conf_verify _)) <|
  forall_mem_cons_of (.always (conf_return _)) <|
  forall_mem_cons_of (.always (conf_2drop _)) <|
  forall_mem_cons_of (.always (conf_2dup _)) <|
  forall_mem_cons_of (.always (conf_3dup _)) <|
  forall_mem_cons_of (.always (conf_2over _)) <|
  forall_mem_cons_of (.always (conf_2swap _)) <|
  forall_mem_cons_of (.always (conf_ifdup _)) <|
  forall_mem_cons_of (.always (conf_depth _)) <|
  forall_mem_cons_of (.always (conf_drop _)) <|
  forall_mem_cons_of (.always (conf_dup _)) <|
  forall_mem_cons_of (.always (conf_nip _)) <|
  forall_mem_cons_of (.always (conf_over _)) <|
  forall_mem_cons_of (.short (conf_pick _)) <|
  forall_mem_cons_of (.short (conf_roll _)) <|
  forall_mem_cons_of (.always (conf_rot _)) <|
  forall_mem_cons_of (.always (conf_swap _)) <|
  forall_mem_cons_of (.always (conf_tuck _)) <|
  forall_mem_cons_of (.always (conf_size _)) <|
  forall_mem_cons_of (.always (conf_equal _)) <|
  forall_mem_cons_of (.always (conf_equalverify _)) <|
  forall_mem_cons_of (.short (conf_1add _)) <|
  forall_mem_cons_of (.short (conf_1sub _)) <|
  forall_mem_cons_of (.short (conf_negate _)) <|
  forall_mem_cons_of (.short (conf_abs _)) <|
  forall_mem_cons_of (.short (conf_not _)) <|
  forall_mem_cons_of (.short (conf_0notequal _)) <|
  forall_mem_cons_of (.short (conf_add _)) <|
  forall_mem_cons_of (.short (conf_sub _)) <|
  forall_mem_cons_of (.short (conf_booland _)) <|
  forall_mem_cons_of (.short (conf_boolor _)) <|
  forall_mem_cons_of (.short (conf_numequal _)) <|
  forall_mem_cons_of (.short (conf_numequalverify _)) <|
  forall_mem_cons_of (.short (conf_numnotequal _)) <|
  forall_mem_cons_of (.short (conf_lessthan _)) <|
  forall_mem_cons_of (.short (conf_greaterthan _)) <|
  forall_mem_cons_of (.short (conf_lessthanorequal _)) <|
  forall_mem_cons_of (.short (conf_greaterthanorequal _)) <|
  forall_mem_cons_of (.short (conf_min _)) <|
  forall_mem_cons_of (.short (conf_max _)) <|
  forall_mem_cons_of (.short (conf_within _)) <|
  forall_mem_cons_of (.always (conf_ripemd160 · · env)) <|
  forall_mem_cons_of (.always (conf_sha1 · · env)) <|
  forall_mem_cons_of (.always (conf_sha256 · · env)) <|
  forall_mem_cons_of (.always (conf_hash160 · · env)) <|
  forall_mem_cons_of (.always (conf_hash256 · · env)) <|
  forall_mem_cons_of (.always fun s alt => conf_nop _ s alt rfl) <|
  forall_mem_cons_of (fun s alt hlt _ h => conf_cltv env s alt hlt h) <|
  forall_mem_cons_of (fun s alt _ hve h => conf_csv_aux env s alt (fun _ _ _ _ => hve rfl) h) <|
  forall_mem_cons_of (.always fun s alt => conf_nop _ s alt rfl) <|
  forall_mem_cons_of (.always fun s alt => conf_nop _ s alt rfl) <|
  forall_mem_cons_of (.always fun s alt => conf_nop _ s alt rfl) <|
  forall_mem_cons_of (.always fun s alt => conf_nop _ s alt rfl) <|
  forall_mem_cons_of (.always fun s alt => conf_nop _ s alt rfl) <|
  forall_mem_cons_of (.always fun s alt => conf_nop _ s alt rfl) <|
  forall_mem_cons_of (.always fun s alt => conf_nop _ s alt rfl) <|
  fun _ hx => absurd hx List.not_mem_nil

theorem fn_conforms (env : Env) (c : Nat) (fn : OpFn) (hp : (c, fn) ∈ opPairs) (s alt : Stack)
    (hlt : env.locktime ≤ 4294967295)
    (hve : c = 178 → op_checksequenceverify Cfg.repaired env s ≠ .err .valueError)
    (h : Consensus.execOp (ctxOf env) c s alt ≠ .oversize) :
    liftS (applyStackFn Cfg.repaired env fn s) alt = Consensus.execOp (ctxOf env) c s alt :=
  opPairs_conform env _ hp s alt hlt hve h

/-- `op_lookup[command]` resolved to a modelled function -/
def resolve (tap : Bool) (c : Nat) : Option OpFn := (lookup (table tap) c).bind OpFn.ofName

theorem lookup_mem {tbl : List (Nat × String)} {c : Nat} {v : String} (h : lookup tbl c = some v) :
    (c, v) ∈ tbl := by
  unfold lookup at h
  split at h
  · rename_i p hp
    have hc : p.1 = c := beq_iff_eq.mp (List.find?_some (p := fun q : Nat × String => q.1 == c) hp)
    cases h
    rw [← hc]
    exact List.mem_of_find?_eq_some hp
  · cases h

theorem lookup_eq_none_iff {tbl : List (Nat × String)} {c : Nat} :
    lookup tbl c = none ↔ c ∉ tbl.map (·.1) := by
  unfold lookup
  split
  · rename_i p hp
    simp only [reduceCtorEq, false_iff, Decidable.not_not, List.mem_map]
    exact ⟨p, List.mem_of_find?_eq_some hp, beq_iff_eq.mp (List.find?_some (p := fun q : Nat × String => q.1 == c) hp)⟩
  · rename_i hn
    simp only [true_iff, List.mem_map, not_exists, not_and]
    intro p hp e
    exact absurd (beq_iff_eq.mpr e) (List.find?_eq_none.mp hn p hp)

/-- the legacy dispatch table of /repo (Buidl.Gen.Op, re-extracted on every run) maps every opcode
    of the subset to the function the conformance lemma is about, with the matching calling
    convention -/
theorem table_pairs : ∀ p ∈ opPairs, resolve false p.1 = some p.2 ∧ p.2.conv = convOf p.1 ∧
    Consensus.unsupportedOp p.1 = false ∧ Consensus.disabledOp p.1 = false ∧
    p.1 ≠ 99 ∧ p.1 ≠ 100 ∧ p.1 ≠ 103 ∧ p.1 ≠ 104 := by decide +kernel

theorem table_pairs_plain : ∀ p ∈ opPairs,
    p.2 ≠ .if_ ∧ p.2 ≠ .notif ∧ p.2 ≠ .toaltstack ∧ p.2 ≠ .fromaltstack := by decide

theorem table_flow : resolve false 99 = some .if_ ∧ resolve false 100 = some .notif ∧
    resolve false 107 = some .toaltstack ∧ resolve false 108 = some .fromaltstack ∧
    resolve false 113 = some .rot2 ∧ resolve false 103 = none ∧ resolve false 104 = none := by
  decide +kernel

/-! the tapscript table where other files need it: against the legacy table, and the signature opcodes of both -/

theorem tap_legacy_entries :
    ∀ p ∈ table false, (172 ≤ p.1 ∧ p.1 ≤ 175) ∨ lookup (table true) p.1 = some p.2 := by
  decide +kernel

theorem tap_lookup_legacy {c : Nat} {v : String} (h : lookup (table false) c = some v)
    (h4 : ¬ (172 ≤ c ∧ c ≤ 175)) : lookup (table true) c = some v :=
  (tap_legacy_entries _ (lookup_mem h)).resolve_left h4

theorem tap_resolve_legacy {c : Nat} {fn : OpFn} (h : resolve false c = some fn)
    (h4 : ¬ (172 ≤ c ∧ c ≤ 175)) : resolve true c = some fn := by
  unfold resolve at h ⊢
  cases hl : lookup (table false) c with
  | none => rw [hl] at h; cases h
  | some v => rw [hl] at h; rw [tap_lookup_legacy hl h4]; exact h

theorem tap_table_pairs : ∀ p ∈ opPairs, resolve true p.1 = some p.2 := by
  intro p hp
  obtain ⟨hr, _, hun, _⟩ := table_pairs p hp
  refine tap_resolve_legacy hr fun h => ?_
  simp only [Consensus.unsupportedOp, Bool.or_eq_false_iff, Bool.and_eq_false_imp, decide_eq_true_eq,
    decide_eq_false_iff_not] at hun
  omega

theorem table_sig : resolve false 172 = some .checksig ∧ resolve false 174 = some .checkmultisig := by
  decide +kernel

theorem tap_table_sig : resolve true 172 = some .checksigSchnorr ∧ resolve true 173 = some .checksigverifySchnorr ∧
    resolve true 186 = some .checksigaddSchnorr ∧ resolve true 174 = some .return_ ∧
    resolve true 175 = some .return_ ∧ resolve false 186 = none := by decide +kernel

/-! ## one step of `evaluate` on an opcode of the subset -/

theorem stepOp_resolved (cfg : Cfg) (env : Env) (st : St) (c : Nat) (fn : OpFn)
    (hr : resolve st.tap c = some fn) (hc : fn.conv = convOf c) :
    stepOp cfg env st c =
      match (generalizing := false) fn with
      | .if_ => (op_if st.stack st.cmds).toOut fun p => .ok { st with stack := p.1, cmds := p.2 }
      | .notif => (op_notif st.stack st.cmds).toOut fun p => .ok { st with stack := p.1, cmds := p.2 }
      | .toaltstack => (op_toaltstack st.stack st.alt).toOut fun p => .ok { st with stack := p.1, alt := p.2 }
      | .fromaltstack => (op_fromaltstack st.stack st.alt).toOut fun p => .ok { st with stack := p.1, alt := p.2 }
      | fn => (applyStackFn cfg env fn st.stack).toOut fun s => .ok { st with stack := s } := by
  unfold resolve at hr
  unfold stepOp
  cases hl : lookup (table st.tap) c with
  | none => rw [hl] at hr; cases hr
  | some name =>
    rw [hl] at hr
    simp only [show OpFn.ofName name = some fn from hr, hc, ne_eq, not_true_eq_false, if_false]
    rfl

/-- a table entry called the wrong way for its signature: Python's TypeError -/
theorem stepOp_conv_mismatch (cfg : Cfg) (env : Env) (st : St) (c : Nat) (fn : OpFn)
    (hr : resolve st.tap c = some fn) (hc : fn.conv ≠ convOf c) :
    stepOp cfg env st c = .error (.err .typeError) := by
  unfold resolve at hr
  unfold stepOp
  cases hl : lookup (table st.tap) c with
  | none => rw [hl] at hr; cases hr
  | some name =>
    rw [hl] at hr
    simp only [show OpFn.ofName name = some fn from hr, hc, ne_eq, not_false_eq_true, if_true]

theorem stepOp_plain (cfg : Cfg) (env : Env) (st : St) (c : Nat) (fn : OpFn)
    (hr : resolve st.tap c = some fn) (hc : fn.conv = convOf c)
    (hf : fn ≠ .if_ ∧ fn ≠ .notif ∧ fn ≠ .toaltstack ∧ fn ≠ .fromaltstack) :
    stepOp cfg env st c =
      (applyStackFn cfg env fn st.stack).toOut fun s => .ok { st with stack := s } := by
  rw [stepOp_resolved cfg env st c fn hr hc]
  obtain ⟨h1, h2, h3, h4⟩ := hf
  split <;> first | rfl | contradiction

/-- in the table chosen by `tap`, opcode `c` is the function `fn` of the stack (and the transaction),
    called the way its number demands -/
structure OpIs (tap : Bool) (c : Nat) (fn : OpFn) : Prop where
  resolve : resolve tap c = some fn
  conv : fn.conv = convOf c
  plain : fn ≠ .if_ ∧ fn ≠ .notif ∧ fn ≠ .toaltstack ∧ fn ≠ .fromaltstack

theorem OpIs.of_pair {tap : Bool} {c : Nat} {fn : OpFn} (h : (c, fn) ∈ opPairs) : OpIs tap c fn :=
  ⟨match tap with
    | false => (table_pairs _ h).1
    | true => tap_table_pairs _ h,
   (table_pairs _ h).2.1, table_pairs_plain _ h⟩

theorem OpIs.stepOp {t : Bool} {c : Nat} {fn : OpFn} (h : OpIs t c fn) (cfg : Cfg) (env : Env) (st : St)
    (ht : st.tap = t) :
    stepOp cfg env st c = (applyStackFn cfg env fn st.stack).toOut fun s => .ok { st with stack := s } :=
  stepOp_plain cfg env st c fn (ht ▸ h.resolve) h.conv h.plain

theorem opIs_tap_checksig : OpIs true 0xAC .checksigSchnorr := ⟨tap_table_sig.1, by decide, by decide⟩
theorem opIs_tap_checksigverify : OpIs true 0xAD .checksigverifySchnorr := ⟨tap_table_sig.2.1, by decide, by decide⟩
theorem opIs_tap_checksigadd : OpIs true 0xBA .checksigaddSchnorr := ⟨tap_table_sig.2.2.1, by decide, by decide⟩

theorem stepOp_unknown (cfg : Cfg) (env : Env) (st : St) (c : Nat)
    (hk : lookup (table st.tap) c = none) : stepOp cfg env st c = .error (.err .keyError) := by
  unfold stepOp; simp [hk]

/-! ## vocabulary for whole programs (used by `InterpIf` and `Verify`) -/

def Out.toSpec : Out → Option Consensus.Out
  | .accept => some .accept
  | .reject => some .reject
  | .err _ => some .reject
  | .outOfFuel => none

theorem finalTest_spec (ctx : Consensus.Ctx) (stack alt : Stack) :
    (finalTest Cfg.repaired stack).toSpec = some (Consensus.runFrom ctx ⟨stack, alt, []⟩ []) := by
  rcases stack with _ | ⟨top, s⟩
  · rfl
  · simp only [finalTest, Cfg.repaired, if_true, op_verify, Consensus.runFrom, ne_eq, not_true_eq_false,
      if_false, castToBool_eq]
    by_cases h : decodeNum top = 0 <;> simp [h, Out.toSpec]

/-- a push outside the P2SH / witness-program patterns: none of `evaluate`'s rules fires -/
def plainPush (b : Bytes) : Bool := b.length != 20 && b.length != 32

def slOp (c : Nat) : Bool :=
  opPairs.any (fun p => p.1 == c) || c == 107 || c == 108 || c == 103 || c == 104

/-- commands of a straight-line program: data pushes that are not 20 or 32 bytes long and every
    opcode of the subset except IF/NOTIF and 2ROT (ELSE/ENDIF allowed: both sides reject them) -/
def slCmd : Cmd → Bool
  | .push b => plainPush b
  | .op c => slOp c

theorem witnessRules_plain (cfg : Cfg) (env : Env) (st : St) (b : Bytes) (s : Stack) (hs : st.stack = b :: s)
    (h : plainPush b = true) : witnessRules cfg env st = .ok st := by
  unfold witnessRules
  simp only [plainPush, Bool.and_eq_true, bne_iff_ne, ne_eq] at h
  rw [hs]
  split
  · rename_i s1 s0 heq
    have : s1 = b := by injection heq with h1 h2; exact h1.symm
    subst this
    simp [h.1, h.2]
  · rfl


/-- after a plain push neither the "nothing remains" test nor the witness-program rules change the state -/
theorem afterPush_plain (cfg : Cfg) (env : Env) (st : St) (b : Bytes) (s : Stack) (hs : st.stack = b :: s)
    (h : plainPush b = true) :
    (if (cfg.triggersOnlyAtEnd && !st.cmds.isEmpty) = true then (Except.ok st : Step)
      else witnessRules cfg env st) = .ok st := by
  split
  · rfl
  · exact witnessRules_plain cfg env st b s hs h

theorem run_nil (cfg : Cfg) (env : Env) (fuel : Nat) (st : St) (h : st.cmds = []) :
    run cfg env fuel st = finalTest cfg st.stack := by
  unfold run; simp [h]

theorem run_cons (cfg : Cfg) (env : Env) (fuel : Nat) (st : St) (c : Cmd) (rest : List Cmd)
    (h : st.cmds = c :: rest) :
    run cfg env (fuel + 1) st =
      match step cfg env { st with cmds := rest } c with
      | .error o => o
      | .ok st' => run cfg env fuel st' := by
  conv => lhs; unfold run
  simp [h]
  rfl

/-- what consensus sees of one interpreter step -/
def stepSpec : Step → Consensus.Res (Stack × Stack)
  | .ok st => .ok (st.stack, st.alt)
  | .error _ => .fail

theorem stepSpec_toOut (st : St) (r : Res Stack) :
    stepSpec (r.toOut fun s => .ok { st with stack := s }) = liftS r st.alt := by
  cases r <;> rfl

theorem OpIs.stepSpec {t : Bool} {c : Nat} {fn : OpFn} (h : OpIs t c fn) (cfg : Cfg) (env : Env) (st : St)
    (ht : st.tap = t) : stepSpec (Interp.stepOp cfg env st c) = liftS (applyStackFn cfg env fn st.stack) st.alt := by
  rw [h.stepOp cfg env st ht, stepSpec_toOut]

theorem stepSpec_toOut_alt (st : St) (r : Res (Stack × Stack)) :
    stepSpec (r.toOut fun p => .ok { st with stack := p.1, alt := p.2 }) = liftSA r := by
  cases r <;> rfl

/-- a concrete environment for witnesses (identity "hashes") -/
def testEnv (lt seq ver : Nat) : Env :=
  { locktime := lt, sequence := seq, version := ver, sha1 := id, ripemd160 := id, sha256 := id,
    hash160 := id, hash256 := id }

end Buidl.Interp
