/-
  Buidl.Proofs.HDParse — what HDPublicKey.parse returns (`PubSerWF` with its own version bytes) and idempotence of
  "normalise the version bytes and serialise again" (used by the descriptor constructor).  Mathlib-free; relative
  to the Base58Check round trip and the SEC round trip, which Buidl.Proofs.HD discharges.
-/
import Buidl.Proofs.HDPath
import Buidl.Proofs.PyStr
namespace Buidl.HD
open Buidl Buidl.EC Buidl.PyStr

theorem byteToInt_le {b : Bytes} {n : Nat} (h : byteToInt b = some n) : n ≤ 255 := by
  unfold byteToInt at h
  cases b with
  | nil => simp at h
  | cons x xs =>
    simp at h; subst h
    have := x.toNat_lt
    omega

theorem pub_rawParse_wf {raw : Bytes} {pk : HDPub} (hl : raw.length = 78) (hp : HDPub.rawParse raw none = some pk) :
    PubSerWF pk pk.pubVersion ∧ (pk.network = "testnet" ∨ pk.network = "mainnet") ∧ ∃ b, parsePoint b = some pk.point := by
  simp only [HDPub.rawParse, sread, Gen.hdPubParVersionW, Gen.hdPubParDepthW, Gen.hdPubParFpW,
    Gen.hdPubParChildW, Gen.hdPubParChainW, Gen.hdPubParSecW, Option.bind_eq_bind, Option.bind_eq_some_iff] at hp
  obtain ⟨net, hnet, depth, hdepth, pt, hpt, hpk⟩ := hp
  obtain ⟨hver, rfl⟩ := netOfVersion_eq_some_iff.mp hnet
  cases hpk
  refine ⟨⟨byteToInt_le hdepth, ?_, ?_, ?_, hver⟩, ?_, _, hpt⟩
  · exact Nat.lt_of_lt_of_le (beToNat_lt _)
      (Nat.pow_le_pow_right (j := 4) (by decide) (List.length_take_le _ _))
  · simp; omega
  · simp; omega
  · show (if _ then _ else _) = _ ∨ _
    split
    · exact Or.inl rfl
    · exact Or.inr rfl

theorem pub_parse_wf {h : Bytes → Bytes} {x : Str} {pk : HDPub} (hp : HDPub.parse h x = some pk) :
    PubSerWF pk pk.pubVersion ∧ (pk.network = "testnet" ∨ pk.network = "mainnet") ∧ ∃ b, parsePoint b = some pk.point := by
  obtain ⟨raw, -, hl, hr⟩ := HDPub.parse_eq_some_iff.mp hp
  exact pub_rawParse_wf hl hr

/-- the SEC round trip for one point (C03: `parsePoint_sec`, for every curve point) -/
def SecOK (Q : Pt) : Prop := ∀ s, sec Q true = some s → s.length = 33 ∧ parsePoint s = some Q

/-- `HDPublicKey(**attrs without pub_version)`: the key with the default version bytes of its network -/
def normPub (pk : HDPub) : Option HDPub :=
  mkPub pk.point pk.chainCode pk.depth pk.parentFp pk.childNumber pk.network none

theorem hdXpub_default {net : String} (h : net = "testnet" ∨ net = "mainnet") :
    ∃ v, dictGet Gen.hdXpub net = some v ∧ (inSet Gen.hdAllTestnetXpubs v = true ∨ inSet Gen.hdAllMainnetXpubs v = true) ∧
      (if inSet Gen.hdAllTestnetXpubs v = true then "testnet" else "mainnet") = net := by
  rcases h with rfl | rfl
  · exact ⟨_, rfl, by decide, by decide⟩
  · exact ⟨_, rfl, by decide, by decide⟩

theorem norm_xpub_idempotent (h : Bytes → Bytes) (hb : B58RoundTrip h) (hsec : ∀ b Q, parsePoint b = some Q → SecOK Q)
    {x₀ : Str} {pk : HDPub} (hp : HDPub.parse h x₀ = some pk) {n : HDPub} {x : Str} (hn : normPub pk = some n)
    (hx : n.xpub h none = some x) :
    HDPub.parse h x = some n ∧ n.network = pk.network ∧ normPub n = some n := by
  obtain ⟨wf, hnet, b, hpt⟩ := pub_parse_wf hp
  obtain ⟨v, hv, hmem, hnv⟩ := hdXpub_default hnet
  have hn' : n = { pk with pubVersion := v } := by
    simpa [normPub, mkPub, versionOr, hv, eq_comm] using hn
  subst hn'
  have := pub_parse_xpub_rel h hb _ v ⟨wf.depth, wf.child, wf.fp, wf.cc, hmem⟩ (hsec b _ hpt) x hx
  refine ⟨?_, rfl, ?_⟩
  · rw [this]
    unfold parsedPub
    rw [← hnv]
    split <;> rfl
  · simp [normPub, mkPub, versionOr, hv]

end Buidl.HD
