/-
  Buidl.Proofs.Compose — closing the loop between the interpreter (C06) and the signature schemes
  (C01 ECDSA, C02 BIP340, C03 group law / encodings, C12 taproot tweak).

  C06 states soundness / completeness of `verifyInput` relative to ORACLES of the environment `Env`
  (`pkErr`, `sigPre`, `ecdsaOK`, `xonlyErr`, `schnorrPre`, `schnorrOK`).  `realEnv` instantiates them
  with the executable models of the real code, exactly as buidl/op.py consults them:

    op_checksig          point = S256Point.parse(sec_pubkey)          → `EC.parsePoint`      (pkErr)
                         sig = Signature.parse(tmp[:-1])              → `ECDSA.parseDer`     (sigPre)
                         z = tx_obj.sig_hash(input_index, tmp[-1])    → parameter `zOf`      (sigPre)
                         point.verify(z, sig)                         → `ECDSA.verify`       (ecdsaOK)
    op_checksig_schnorr  point = S256Point.parse_xonly(pubkey)        → `EC.parseXonly`      (xonlyErr)
                         sig = SchnorrSignature.parse(signature)      → `Schnorr.parse`      (schnorrPre)
                         msg = tx_obj.sig_hash(input_index, ht)       → parameter `msgOf`    (schnorrPre)
                         point.verify_schnorr(msg, sig)               → `Schnorr.verifySchnorr` (schnorrOK)

  The digest functions `zOf` / `msgOf` (hash type ↦ digest, `none` = `sig_hash` raises) are parameters:
  C05 proves what they are for the three signature-hash algorithms.  Hash functions, locktime,
  control-block parsing and the taproot commitment stay those of the base environment.

  One place where `Env` cannot mirror the code: `ecdsaOK` / `schnorrOK` are `Bool`, so an exception
  raised INSIDE `point.verify` (the sum `uG + vQ` is the point at infinity: AttributeError) or inside
  `verify_schnorr` (the key parsed from 32 zero bytes is the point at infinity: no `parity`) has no
  channel; `realEnv` answers `false` there.  The theorems below are unaffected (they speak about
  acceptance, and `true` is answered only when the real verification returns True).

  At the end: the predicates "made by the library's signers" (`LibKey`, `LibSig`, `LibSigned` for ECDSA partial
  signatures, `LibSchnorrSig`, `SignedOrEmpty` for tapscript elements) with which C10ComposeEC / C13ComposeEC are stated.
-/
import Buidl.Props.C01
import Buidl.Props.C02
import Buidl.Props.C03
import Buidl.Proofs.Verify
import Buidl.Props.C12
import Buidl.Proofs.InterpTap
import Buidl.Model.PsbtCodec

namespace Buidl.Compose
open Buidl Buidl.EC Buidl.Script Buidl.Interp

attribute [local irreducible] pmul

/-! ## the environment of the real code -/

/-- `S256Point.parse_xonly(pk).verify_schnorr(msg, SchnorrSignature.parse(sig))`
    (`Schnorr.verifyRaw` with `parse_xonly` in place of `parse`, as op_checksig_schnorr does) -/
def verifyRawXonly (sha256 : Bytes → Bytes) (c : Schnorr.Cache) (pk msg sig : Bytes) :
    Option (Bool × Schnorr.Cache) := do
  let Pk ← parseXonly pk
  let (R, s) ← Schnorr.parse sig
  Schnorr.verifySchnorr sha256 c Pk msg R s

/-- the ECDSA oracle of op_checksig / op_checkmultisig on raw bytes -/
def ecdsaReal (zOf : Nat → Option Nat) (pk : Bytes) (ht : Nat) (der : Bytes) : Bool :=
  match parsePoint pk, ECDSA.parseDer der, zOf ht with
  | some Q, some (r, s), some z => ECDSA.verify Q z r s == some true
  | _, _, _ => false

/-- the Schnorr oracle of op_checksig_schnorr / op_checksigadd_schnorr on raw bytes -/
def schnorrReal (sha256 : Bytes → Bytes) (c : Schnorr.Cache) (msgOf : Nat → Option Bytes)
    (pk : Bytes) (ht : Nat) (sig : Bytes) : Bool :=
  match msgOf ht with
  | none => false
  | some m =>
    match verifyRawXonly sha256 c pk m sig with
    | some (b, _) => b
    | none => false

/-- **the environment whose oracles are the real code**: `base` supplies the hash functions, locktime,
    sequence, version, control-block parsing and taproot commitment; `zOf` / `msgOf` the signature
    hashes; `c` the state of TAG_HASH_CACHE -/
def realEnv (base : Env) (zOf : Nat → Option Nat) (msgOf : Nat → Option Bytes) (c : Schnorr.Cache) : Env :=
  { base with
    pkErr := fun pk => if (parsePoint pk).isSome then none else some .valueError
    sigPre := fun der ht =>
      if (ECDSA.parseDer der).isSome && (zOf ht).isSome then none else some .valueError
    ecdsaOK := ecdsaReal zOf
    xonlyErr := fun pk => if (parseXonly pk).isSome then none else some .valueError
    schnorrPre := fun sig ht =>
      if (Schnorr.parse sig).isSome && (msgOf ht).isSome then none else some .valueError
    schnorrOK := schnorrReal base.sha256 c msgOf }

variable (base : Env) (zOf : Nat → Option Nat) (msgOf : Nat → Option Bytes) (c : Schnorr.Cache)

@[simp] theorem realEnv_hash160 : (realEnv base zOf msgOf c).hash160 = base.hash160 := rfl
@[simp] theorem realEnv_sha256 : (realEnv base zOf msgOf c).sha256 = base.sha256 := rfl

theorem verifyRawXonly_eq_verifyRaw (sha256 : Bytes → Bytes) (pk msg sig : Bytes) (h : pk.length = 32) :
    verifyRawXonly sha256 c pk msg sig = Schnorr.verifyRaw sha256 c pk msg sig := by
  simp only [verifyRawXonly, Schnorr.verifyRaw, parsePoint_of_length_32 h]

/-! ## what the ECDSA oracle means -/

theorem ecdsaReal_iff (pk der : Bytes) (ht : Nat) :
    ecdsaReal zOf pk ht der = true ↔ ∃ Q r s z, parsePoint pk = some Q ∧ ECDSA.parseDer der = some (r, s) ∧
      zOf ht = some z ∧ ECDSA.verify Q z r s = some true := by
  unfold ecdsaReal
  cases parsePoint pk with
  | none => simp
  | some Q =>
    cases ECDSA.parseDer der with
    | none => simp
    | some rs =>
      obtain ⟨r, s⟩ := rs
      cases zOf ht <;> simp

/-- the two parsing oracles add nothing: `ecdsaReal` answers `true` only when everything parses -/
theorem ecdsaAuth_iff (pk tmp : Bytes) :
    EcdsaAuth (realEnv base zOf msgOf c) pk tmp ↔
      ∃ der ht Q r s z, splitHashType tmp = .ok (der, ht) ∧ parsePoint pk = some Q ∧
        ECDSA.parseDer der = some (r, s) ∧ zOf ht = some z ∧ ECDSA.verify Q z r s = some true := by
  constructor
  · rintro ⟨der, ht, hsp, -, -, hv⟩
    obtain ⟨Q, r, s, z, h⟩ := (ecdsaReal_iff zOf pk der ht).mp hv
    exact ⟨der, ht, Q, r, s, z, hsp, h⟩
  · rintro ⟨der, ht, Q, r, s, z, hsp, hQ, hd, hz, hv⟩
    exact ⟨der, ht, hsp, by simp [realEnv, hQ], by simp [realEnv, hd, hz],
      (ecdsaReal_iff zOf pk der ht).mpr ⟨Q, r, s, z, hQ, hd, hz, hv⟩⟩

theorem splitHashType_snoc (der : Bytes) (ht : UInt8) :
    splitHashType (der ++ [ht]) = .ok (der, ht.toNat) := by
  simp [splitHashType]

/-! ## what the Schnorr oracle means -/

theorem realEnv_schnorr_iff (x body : Bytes) (ht : Nat) :
    optErr ((realEnv base zOf msgOf c).xonlyErr x) (optErr ((realEnv base zOf msgOf c).schnorrPre body ht)
        (.ok (some ((realEnv base zOf msgOf c).schnorrOK x ht body)))) = .ok (some true) ↔
      ∃ m c', msgOf ht = some m ∧ verifyRawXonly base.sha256 c x m body = some (true, c') := by
  simp only [realEnv, schnorrReal, verifyRawXonly]
  cases parseXonly x with
  | none => simp [optErr]
  | some Pk =>
    cases Schnorr.parse body with
    | none => simp [optErr]
    | some Rs =>
      cases msgOf ht with
      | none => simp [optErr]
      | some m =>
        simp only [optErr, Option.isSome_some, ↓reduceIte, Bool.and_self, Option.bind_eq_bind, Option.bind_some,
          Res.ok.injEq, Option.some.injEq, exists_and_left, exists_eq_left']
        cases Schnorr.verifySchnorr base.sha256 c Pk m Rs.1 Rs.2 with
        | none => simp
        | some bc => obtain ⟨b, c'⟩ := bc; simp

theorem schnorrCheck_true_iff (x sig : Bytes) :
    schnorrCheck (realEnv base zOf msgOf c) x sig = .ok (some true) ↔
      ∃ body ht m c', ((sig.length = 65 ∧ ∃ b : UInt8, sig = body ++ [b] ∧ ht = b.toNat) ∨
          (sig.length ≠ 65 ∧ sig.length ≠ 0 ∧ body = sig ∧ ht = 0)) ∧
        msgOf ht = some m ∧ verifyRawXonly base.sha256 c x m body = some (true, c') := by
  by_cases h65 : sig.length = 65
  · obtain ⟨body, b, rfl⟩ : ∃ body b, sig = body ++ [b] :=
      ⟨sig.dropLast, sig.getLast (by rintro rfl; cases h65), (List.dropLast_concat_getLast _).symm⟩
    rw [schnorrCheck_snoc _ x body b h65, realEnv_schnorr_iff]
    constructor
    · rintro ⟨m, c', hm, hv⟩
      exact ⟨body, b.toNat, m, c', Or.inl ⟨h65, b, rfl, rfl⟩, hm, hv⟩
    · rintro ⟨body', ht, m, c', ⟨-, b', hb', rfl⟩ | ⟨hne, -⟩, hm, hv⟩
      · obtain ⟨rfl, hb⟩ := List.append_inj' hb' rfl
        cases hb
        exact ⟨m, c', hm, hv⟩
      · exact absurd h65 hne
  · by_cases h0 : sig.length = 0
    · cases List.length_eq_zero_iff.mp h0
      refine ⟨fun h => absurd h (schnorrCheck_nil_ne_true _ x), ?_⟩
      rintro ⟨_, _, _, _, ⟨h, -⟩ | ⟨-, hne, -⟩, -⟩
      · cases h
      · exact absurd rfl hne
    · rw [schnorrCheck_default _ x sig h65 h0, realEnv_schnorr_iff]
      constructor
      · rintro ⟨m, c', hm, hv⟩
        exact ⟨sig, 0, m, c', Or.inr ⟨h65, h0, rfl, rfl⟩, hm, hv⟩
      · rintro ⟨_, _, m, c', ⟨h, -⟩ | ⟨-, -, rfl, rfl⟩, hm, hv⟩
        · exact absurd h h65
        · exact ⟨m, c', hm, hv⟩

/-! ## ECDSA: from `PrivateKey.sign` to the oracle, and from the oracle to the ECDSA predicate -/

theorem pubkey_sec {d : Nat} (h1 : 1 ≤ d) (h2 : d < N) (cmp : Bool) :
    ∃ pkb, sec (smul (d : Int) G) cmp = some pkb ∧ parsePoint pkb = some (smul (d : Int) G) := by
  have hv : Valid P A B (smul (d : Int) G) := smul_valid G_valid d
  cases hq : smul (d : Int) G with
  | inf => exact absurd hq (smul_G_ne_inf h1 h2)
  | aff x y =>
    obtain ⟨pkb, hp⟩ := Props.C03.sec_defined x y cmp
    rw [hq] at hv
    exact ⟨pkb, hp, parsePoint_sec hv cmp hp⟩

theorem sign_der {hmac : Bytes → Bytes → Bytes} {fuel d z r s : Nat}
    (hsign : ECDSA.sign hmac fuel d z = .ok (r, s)) (hr : r < N) (hs0 : s ≠ 0) :
    ECDSA.verify (smul (d : Int) G) z r s = some true ∧
      ∃ derb, ECDSA.der r s = some derb ∧ ECDSA.parseDer derb = some (r, s) := by
  have hv := Props.C01.verify_sign hmac fuel d z r s hsign hr hs0
  obtain ⟨hr1, _, hs1, hs2⟩ := Props.C01.verify_true_in_range _ z r s hv
  exact ⟨hv, Props.C01.der_roundtrip r s hr1 (lt_trans hr ECDSA.N_lt) hs1 (lt_trans hs2 ECDSA.N_lt)⟩

/-- `r < N`, `s ≠ 0` are the hypotheses of `Props.C01.verify_sign`: two events of probability ≈ 2⁻¹²⁸ -/
theorem ecdsaAuth_of_sign (hmac : Bytes → Bytes → Bytes) (fuel d z r s : Nat)
    (hsign : ECDSA.sign hmac fuel d z = .ok (r, s)) (hr : r < N) (hs0 : s ≠ 0)
    (htb : UInt8) (hz : zOf htb.toNat = some z) (cmp : Bool) (derb pkb : Bytes)
    (hder : ECDSA.der r s = some derb) (hsec : sec (smul (d : Int) G) cmp = some pkb) :
    EcdsaAuth (realEnv base zOf msgOf c) pkb (derb ++ [htb]) := by
  obtain ⟨hv, b, hb, hpd⟩ := sign_der hsign hr hs0
  cases hder.symm.trans hb
  rw [ecdsaAuth_iff]
  exact ⟨derb, htb.toNat, _, r, s, z, splitHashType_snoc derb htb,
    parsePoint_sec (smul_valid G_valid d) cmp hsec, hpd, hz, hv⟩

theorem sign_encodings (hmac : Bytes → Bytes → Bytes) (fuel d z r s : Nat)
    (hsign : ECDSA.sign hmac fuel d z = .ok (r, s)) (hr : r < N) (hs0 : s ≠ 0) (cmp : Bool) :
    ∃ derb pkb, ECDSA.der r s = some derb ∧ sec (smul (d : Int) G) cmp = some pkb := by
  obtain ⟨_, b, hb, _⟩ := sign_der hsign hr hs0
  obtain ⟨hd1, hd2⟩ := (ECDSA.sign_ok hsign).1
  obtain ⟨pkb, hp, _⟩ := pubkey_sec hd1 hd2 cmp
  exact ⟨b, pkb, hb, hp⟩

/-- a signature with `r < n`, `s ≠ 0` exists: an "HMAC" answering 00…01 gives nonce 1; secret 1, digest 0 -/
theorem sign_one : ECDSA.sign (fun _ _ => List.replicate 31 0 ++ [1]) 1 1 0 = .ok (Gen.secpGx, Gen.secpGx) ∧
    Gen.secpGx < N ∧ Gen.secpGx ≠ 0 := by decide +kernel

/-- `S256Point.parse` dispatches on the length: 33 or 65 bytes are SEC, 32 bytes an x-only key
    (32 zero bytes are the point at infinity) -/
theorem parsePoint_shape {pk : Bytes} {Q : Pt} (h : parsePoint pk = some Q) :
    Valid P A B Q ∧ ((∃ cmp, sec Q cmp = some pk) ∨ (pk.length = 32 ∧ parseXonly pk = some Q)) := by
  refine ⟨Props.C03.parse_sound.1 h, ?_⟩
  by_cases h32 : pk.length = 32
  · exact Or.inr ⟨h32, parsePoint_of_length_32 h32 ▸ h⟩
  · by_cases hl : pk.length = 33 ∨ pk.length = 65
    · exact Or.inl (Props.C03.parse_sec_canonical (parsePoint_of_length_sec hl ▸ h)).2
    · rw [parsePoint_bad_length pk ⟨h32, fun e => hl (Or.inl e), fun e => hl (Or.inr e)⟩] at h
      cases h

structure EcdsaWitness (pk tmp : Bytes) : Prop where
  intro ::
  ex : ∃ der ht Q r s z, splitHashType tmp = .ok (der, ht) ∧ parsePoint pk = some Q ∧ Valid P A B Q ∧
    ((∃ cmp, sec Q cmp = some pk) ∨ (pk.length = 32 ∧ parseXonly pk = some Q)) ∧
    ECDSA.parseDer der = some (r, s) ∧ zOf ht = some z ∧ Spec.ECDSA.Valid Q z r s

theorem ecdsaWitness_of_auth {pk tmp : Bytes} (h : EcdsaAuth (realEnv base zOf msgOf c) pk tmp) :
    EcdsaWitness zOf pk tmp := by
  obtain ⟨der, ht, Q, r, s, z, hsp, hQ, hd, hz, hv⟩ := (ecdsaAuth_iff base zOf msgOf c pk tmp).mp h
  obtain ⟨hval, hshape⟩ := parsePoint_shape hQ
  exact ⟨der, ht, Q, r, s, z, hsp, hQ, hval, hshape, hd, hz, Props.C01.verify_sound Q z r s hv⟩

/-! ## m-of-n: the signatures match distinct keys of the script, in order, each by the ECDSA predicate -/

inductive RealSigMatch (zOf : Nat → Option Nat) : List (Bytes × Nat) → List Bytes → Prop where
  | nil (keys : List Bytes) : RealSigMatch zOf [] keys
  | cons (der : Bytes) (ht : Nat) (sigs : List (Bytes × Nat)) (pre : List Bytes) (p : Bytes) (rest : List Bytes)
      (Q : Pt) (r s z : Nat) : parsePoint p = some Q → Valid P A B Q → ECDSA.parseDer der = some (r, s) →
      zOf ht = some z → Spec.ECDSA.Valid Q z r s → RealSigMatch zOf sigs rest →
      RealSigMatch zOf ((der, ht) :: sigs) (pre ++ p :: rest)

theorem realSigMatch_of_sigMatch {sigs : List (Bytes × Nat)} {keys : List Bytes}
    (h : SigMatch (realEnv base zOf msgOf c) sigs keys) : RealSigMatch zOf sigs keys := by
  induction h with
  | nil pts => exact RealSigMatch.nil pts
  | cons der ht sigs pre p rest hok _ ih =>
    obtain ⟨Q, r, s, z, hQ, hd, hz, hv⟩ := (ecdsaReal_iff zOf p der ht).mp hok
    exact RealSigMatch.cons der ht sigs pre p rest Q r s z hQ (Props.C03.parse_sound.1 hQ) hd hz
      (Props.C01.verify_sound Q z r s hv) ih

theorem multisig_real {m : Nat} {pks : List Bytes} (h : MultisigAuth (realEnv base zOf msgOf c) m pks) :
    ∃ (raw : List Bytes) (sigs : List (Bytes × Nat)), raw.length = m ∧ splitSigs raw = .ok sigs ∧
      RealSigMatch zOf sigs pks.reverse := by
  obtain ⟨raw, sigs, hl, hsp, hm, _, _⟩ := h
  exact ⟨raw, sigs, hl, hsp, realSigMatch_of_sigMatch base zOf msgOf c hm⟩

/-! ## Schnorr / taproot key path -/

theorem p2trCmds_eq (X : Pt) : Taproot.p2trCmds X = p2trSpk (xonly X) := rfl

theorem schnorrCheck_of_bip340 (hc : Schnorr.CacheOK base.sha256 c) (x m sig : Bytes) (hxl : x.length = 32)
    (hsl : sig.length = 64) (hv : Spec.BIP340.verify base.sha256 x m sig = true) :
    (msgOf 0 = some m → schnorrCheck (realEnv base zOf msgOf c) x sig = .ok (some true)) ∧
    (∀ htb : UInt8, msgOf htb.toNat = some m →
      schnorrCheck (realEnv base zOf msgOf c) x (sig ++ [htb]) = .ok (some true)) := by
  obtain ⟨c', hraw⟩ := (Props.C02.verifySchnorr_eq_spec base.sha256 c hc x m sig hxl hsl).mpr hv
  rw [← verifyRawXonly_eq_verifyRaw c base.sha256 x m sig hxl] at hraw
  exact ⟨fun hm => (schnorrCheck_true_iff base zOf msgOf c x sig).mpr
      ⟨sig, 0, m, c', Or.inr ⟨by omega, by omega, rfl, rfl⟩, hm, hraw⟩,
    fun htb hm => (schnorrCheck_true_iff base zOf msgOf c x _).mpr
      ⟨sig, _, m, c', Or.inl ⟨by simp [hsl], htb, rfl, rfl⟩, hm, hraw⟩⟩

theorem bip340_of_schnorrCheck (hc : Schnorr.CacheOK base.sha256 c) (x sig : Bytes) (hl : x.length = 32)
    (h : schnorrCheck (realEnv base zOf msgOf c) x sig = .ok (some true)) :
    ∃ body ht m, ((sig.length = 65 ∧ ∃ b : UInt8, sig = body ++ [b] ∧ ht = b.toNat) ∨
        (sig.length ≠ 65 ∧ sig.length ≠ 0 ∧ body = sig ∧ ht = 0)) ∧ msgOf ht = some m ∧
      (∃ c', Schnorr.verifyRaw base.sha256 c x m body = some (true, c')) ∧
      (body.length = 64 → Spec.BIP340.verify base.sha256 x m body = true) := by
  obtain ⟨body, ht, m, c', hcase, hm, hv⟩ := (schnorrCheck_true_iff base zOf msgOf c x sig).mp h
  rw [verifyRawXonly_eq_verifyRaw c base.sha256 x m body hl] at hv
  exact ⟨body, ht, m, hcase, hm, ⟨c', hv⟩,
    fun hb => (Props.C02.verifySchnorr_eq_spec base.sha256 c hc x m body hl hb).mp ⟨c', hv⟩⟩

end Buidl.Compose

/-! ## what the library's signers produce: the predicates the `…_signed` property theorems are stated with -/

namespace Buidl.ComposeEC
open Buidl Buidl.EC Buidl.Script Buidl.Interp
open Buidl.Psbt (Dict dget)

def LibKey (k : Bytes) : Prop := ∃ (d : Nat) (cmp : Bool), 1 ≤ d ∧ d < N ∧ sec (smul (d : Int) G) cmp = some k

/-- `s` is what the library stores as a partial signature under the key `k`: `PrivateKey(d).sign(z).der()`
    followed by a hash-type byte whose digest is `z`, where `k` is the SEC encoding of `d·G`; the two
    hypotheses of C01's `verify_sign` (`r < n`, `s ≠ 0`: negligible events) are part of the predicate
    (`Compose.ecdsaAuth_of_sign` takes the same data unbundled) -/
def LibSig (zOf : Nat → Option Nat) (k s : Bytes) : Prop :=
  ∃ (hmac : Bytes → Bytes → Bytes) (fuel d z r sv : Nat) (htb : UInt8) (cmp : Bool) (derb : Bytes),
    ECDSA.sign hmac fuel d z = .ok (r, sv) ∧ r < N ∧ sv ≠ 0 ∧ zOf htb.toNat = some z ∧
    ECDSA.der r sv = some derb ∧ sec (smul (d : Int) G) cmp = some k ∧ s = derb ++ [htb]

def LibSigned (zOf : Nat → Option Nat) (sigs : Dict Bytes) : Prop :=
  ∀ k s, dget sigs k = some s → LibSig zOf k s

end Buidl.ComposeEC

namespace Buidl.ComposeTapEC
open Buidl Buidl.EC Buidl.Script Buidl.Interp

/-- `s` is a tapscript signature element made by the library for the x-only key `x`: `x = xonly(d·G)` for a
    secret `d ∈ [1, n−1]`, and `s` is the BIP340 signature of the 32-byte digest `m` by `d` (what
    `PrivateKey(d).sign_schnorr(m, aux)` serialises to, C02 `signSchnorr_eq_spec`), either as 64 bytes when `m`
    is the digest of the default hash type or with the hash-type byte of `m` appended; the BIP340 nonce is
    non-zero (explicit hypothesis for an event of probability ≈ 2⁻²⁵⁶) -/
def LibSchnorrSig (sha256 : Bytes → Bytes) (msgOf : Nat → Option Bytes) (x s : Bytes) : Prop :=
  ∃ (d : Nat) (m a sig : Bytes), 1 ≤ d ∧ d < N ∧ m.length = 32 ∧ a.length = 32 ∧
    Spec.BIP340.nonce sha256 d m a ≠ some 0 ∧ x = xonly (smul (d : Int) G) ∧
    Spec.BIP340.sign sha256 d m a = some sig ∧
    ((msgOf 0 = some m ∧ s = sig) ∨ ∃ htb : UInt8, msgOf htb.toNat = some m ∧ s = sig ++ [htb])

/-- a key of a k-of-n leaf either signed (library signature) or contributes the empty element (and is a
    well-formed x-only key, as every key the library puts into a script is) -/
def SignedOrEmpty (sha256 : Bytes → Bytes) (msgOf : Nat → Option Bytes) (x s : Bytes) : Prop :=
  LibSchnorrSig sha256 msgOf x s ∨ (s = [] ∧ ∃ Q, parseXonly x = some Q)

end Buidl.ComposeTapEC
