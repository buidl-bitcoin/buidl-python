/-
  Buidl.Proofs.TaprootRel — the group facts consumed by C12 / C13, as one explicit hypothesis
  `GroupLaw`, and the C12 lemmas that depend on them (first argument `gl`; most are named `…_relGroup`).

  `GroupLaw` is discharged by `Buidl.Taproot.groupLaw` in Buidl.Proofs.TaprootGroup from the
  secp256k1 development of C03 (Buidl.Proofs.Secp256k1 / SecpCodec: group law transported from
  Mathlib, N prime, G of order exactly N, parity of negation, square roots).  Everything here is
  about points `smul k G` — every key the library derives from a secret (Mathlib has no Hasse bound,
  so it is not known that every curve point is a multiple of G).  This file and Buidl.Proofs.MuSig
  do not import the curve development: the few facts they share with it (`smul_congr`,
  `smul_nat_ne_inf`, the `even_point` corollaries) are proved here from the hypothesis or from the model.
-/
import Buidl.Proofs.Taproot

namespace Buidl.Taproot
open Buidl Buidl.EC Buidl.Script

/-- the facts about `smul` / `sadd` on `⟨G⟩` used by the taproot and MuSig theorems -/
structure GroupLaw : Prop where
  add : ∀ a b : Int, sadd (smul a G) (smul b G) = smul (a + b) G
  mul : ∀ a b : Int, smul a (smul b G) = smul (a * b) G
  /-- G has order exactly N -/
  inj : ∀ a b : Int, smul a G = smul b G → a % (N : Int) = b % (N : Int)
  neg_parity : ∀ a : Int, smul a G ≠ .inf → parity (smul (-a) G) + parity (smul a G) = 1
  neg_xonly : ∀ a : Int, xonly (smul (-a) G) = xonly (smul a G)
  xonly_inj : ∀ a b : Int, smul a G ≠ .inf → smul b G ≠ .inf → xonly (smul a G) = xonly (smul b G) →
    smul a G = smul b G ∨ smul a G = smul (-b) G
  lift_x : ∀ a : Int, smul a G ≠ .inf → parseXonly (xonly (smul a G)) = some (evenPoint (smul a G))

/-! ### consequences that need no hypothesis: `smul` reduces its scalar modulo N -/

theorem smul_congr {a b : Int} (X : Pt) (h : a % (N : Int) = b % (N : Int)) : smul a X = smul b X := by
  unfold smul; rw [h]

theorem N_pos' : (0 : Int) < (N : Int) := by decide

/-! ### consequences of `GroupLaw`: the point at infinity, the even representative -/

namespace GroupLaw
variable (gl : GroupLaw)
include gl

theorem smul_eq_inf_iff (a : Int) : smul a G = .inf ↔ a % (N : Int) = 0 := by
  constructor
  · intro h
    have := gl.inj a 0 (by rw [h, smul_zero])
    simpa using this
  · intro h
    rw [smul_congr G (h.trans (Int.zero_emod _).symm), smul_zero]

theorem smul_nat_ne_inf {d : Nat} (h1 : 1 ≤ d) (h2 : d < N) : smul (d : Int) G ≠ .inf := by
  rw [Ne, gl.smul_eq_inf_iff, Int.emod_eq_of_lt (by omega) (by omega)]; omega

theorem evenPoint_smul (a : Int) :
    evenPoint (smul a G) = if parity (smul a G) = 1 then smul (-a) G else smul a G := by
  unfold evenPoint
  split
  · rw [gl.mul]; congr 1; omega
  · rfl

theorem parity_evenPoint_smul (a : Int) (h : smul a G ≠ .inf) : parity (evenPoint (smul a G)) = 0 := by
  rw [gl.evenPoint_smul]
  split
  · next hp => have := gl.neg_parity a h; omega
  · next hp =>
    cases hs : smul a G with
    | inf => exact absurd hs h
    | aff x y => rw [hs] at hp; simp only [parity] at hp ⊢; omega

theorem xonly_evenPoint_smul (a : Int) : xonly (evenPoint (smul a G)) = xonly (smul a G) := by
  rw [gl.evenPoint_smul]
  split
  · exact gl.neg_xonly a
  · rfl

theorem neg_ne_inf (a : Int) (h : smul a G ≠ .inf) : smul (-a) G ≠ .inf := by
  intro h'
  apply h
  rw [gl.smul_eq_inf_iff] at h' ⊢
  have := Int.dvd_of_emod_eq_zero h'
  exact Int.emod_eq_zero_of_dvd (Int.dvd_neg.mp this)

theorem evenPoint_smul_ne_inf (a : Int) (h : smul a G ≠ .inf) : evenPoint (smul a G) ≠ .inf := by
  rw [gl.evenPoint_smul]
  split
  · exact gl.neg_ne_inf a h
  · exact h

theorem evenPointOf_evenPoint (a : Int) (ha : smul a G ≠ .inf) :
    evenPointOf (evenPoint (smul a G)) = evenPointOf (smul a G) := by
  rw [evenPointOf_eq ha, evenPointOf_eq (gl.evenPoint_smul_ne_inf a ha)]
  have h0 := gl.parity_evenPoint_smul a ha
  generalize evenPoint (smul a G) = E at h0 ⊢
  unfold evenPoint
  rw [if_neg (by omega)]

theorem evenPoint_smul_exists (a : Int) :
    ∃ e : Int, evenPoint (smul a G) = smul e G ∧ (e = a ∨ e = -a) ∧
      (parity (smul a G) = 1 → e = -a) ∧ (parity (smul a G) ≠ 1 → e = a) := by
  rw [gl.evenPoint_smul]
  split
  · next h => exact ⟨-a, rfl, Or.inr rfl, fun _ => rfl, fun h' => absurd h h'⟩
  · next h => exact ⟨a, rfl, Or.inl rfl, fun h' => absurd h' h, fun _ => rfl⟩

end GroupLaw

/-! ### C12: private keys -/

theorem privPoint_eq (d : Nat) : privPoint d = if 1 ≤ d ∧ d < N then some (smul (d : Int) G) else none := by
  have := N_pos
  unfold privPoint
  split
  · rw [if_neg (by omega)]
  · split
    · rw [if_neg (by omega)]
    · rw [if_pos (by omega)]

theorem privPoint_some {d : Nat} {pt : Pt} (h : privPoint d = some pt) : 1 ≤ d ∧ d < N ∧ pt = smul (d : Int) G := by
  rw [privPoint_eq] at h
  split at h
  · next hd => exact ⟨hd.1, hd.2, (Option.some.inj h).symm⟩
  · cases h

theorem evenSecret_point_relGroup (gl : GroupLaw) {d e : Nat} {pt : Pt} (hp : privPoint d = some pt)
    (he : evenSecret d pt = some e) :
    smul (e : Int) G = evenPoint pt ∧ parity (evenPoint pt) = 0 ∧ 1 ≤ e ∧ e < N := by
  obtain ⟨h1, h2, rfl⟩ := privPoint_some hp
  have hne := gl.smul_nat_ne_inf h1 h2
  unfold evenSecret at he
  rw [parityOf_eq hne] at he
  cases he
  refine ⟨?_, gl.parity_evenPoint_smul _ hne, ?_, ?_⟩
  · rw [gl.evenPoint_smul]
    split
    · -- `N − d ≡ −d`
      apply smul_congr
      rw [Int.ofNat_sub (by omega), show ((N : Nat) : Int) - (d : Int) = -(d : Int) + 1 * (N : Int) by omega,
        Int.add_mul_emod_self_right]
    · rfl
  · split <;> omega
  · split <;> omega

theorem tweakedKey_privPoint (gl : GroupLaw) (H : Hashes) {d e : Nat} {pt : Pt} (root : Bytes)
    (hp : privPoint d = some pt) (he : evenSecret d pt = some e) :
    tweakedKey H pt root = some (smul (((e + beToNat (tweak H pt root)) % N : Nat) : Int) G) := by
  obtain ⟨f1, _, _, _⟩ := evenSecret_point_relGroup gl hp he
  obtain ⟨h1, h2, hpt⟩ := privPoint_some hp
  rw [tweakedKey_eq H (hpt ▸ gl.smul_nat_ne_inf h1 h2), ← f1, gl.add]
  congr 1
  apply smul_congr
  unfold tweak
  rw [Int.natCast_emod, Int.emod_emod]
  rfl

/-- `PrivateKey.tweaked_key` on a valid secret: for some `d' < N` (`tweakedKey_privPoint` has its value) the tweaked
    public key is `d'·G`, and the tweaked private key is `(d', d'·G)` unless `d' = 0` -/
theorem privTweakedKey_eq (gl : GroupLaw) (H : Hashes) {d : Nat} {pt : Pt} (root : Bytes) (hp : privPoint d = some pt) :
    ∃ d', d' < N ∧ tweakedKey H pt root = some (smul (d' : Int) G) ∧
      privTweakedKey H d root = if d' = 0 then none else some (d', smul (d' : Int) G) := by
  obtain ⟨h1, h2, hpt⟩ := privPoint_some hp
  obtain ⟨e, he⟩ : ∃ e, evenSecret d pt = some e := by
    unfold evenSecret
    rw [parityOf_eq (hpt ▸ gl.smul_nat_ne_inf h1 h2)]
    exact ⟨_, rfl⟩
  have hlt : (e + beToNat (tweak H pt root)) % N < N := Nat.mod_lt _ N_pos
  refine ⟨_, hlt, tweakedKey_privPoint gl H root hp he, ?_⟩
  unfold privTweakedKey
  simp only [hp, he, Option.bind_eq_bind, Option.bind_some, privPoint_eq]
  generalize (e + beToNat (tweak H pt root)) % N = d' at hlt
  by_cases h0 : d' = 0
  · rw [if_pos h0, if_neg (by omega)]
    rfl
  · rw [if_neg h0, if_pos (by omega)]
    rfl

theorem privTweakedKey_point_relGroup (gl : GroupLaw) (H : Hashes) {d d' : Nat} {pt' : Pt} {root : Bytes}
    (h : privTweakedKey H d root = some (d', pt')) :
    ∃ pt, privPoint d = some pt ∧ tweakedKey H pt root = some pt' ∧ pt' = smul (d' : Int) G ∧ 1 ≤ d' ∧ d' < N := by
  obtain ⟨pt, hp, -⟩ := Option.bind_eq_some_iff.mp h
  obtain ⟨d'', hlt, htk, heq⟩ := privTweakedKey_eq gl H root hp
  rw [h] at heq
  split at heq
  · cases heq
  · next h0 =>
    cases heq
    exact ⟨pt, hp, htk, rfl, by omega, hlt⟩

theorem privTweakedKey_none_iff_relGroup (gl : GroupLaw) (H : Hashes) {d : Nat} {pt : Pt} {root : Bytes}
    (hp : privPoint d = some pt) :
    privTweakedKey H d root = none ↔ tweakedKey H pt root = some .inf := by
  obtain ⟨d', hlt, htk, heq⟩ := privTweakedKey_eq gl H root hp
  rw [heq, htk, Option.some.injEq, gl.smul_eq_inf_iff, Int.emod_eq_of_lt (by omega) (by omega)]
  by_cases h0 : d' = 0 <;> simp [h0]

/-- the key a control block's x-only bytes parse to has the same even point as the internal key `a·G` -/
theorem evenPointOf_parse_relGroup (gl : GroupLaw) {a : Int} (ha : smul a G ≠ .inf) {X : Pt}
    (hX : parseXonly (xonly (smul a G)) = some X) : evenPointOf X = evenPointOf (smul a G) := by
  cases (gl.lift_x a ha).symm.trans hX
  exact gl.evenPointOf_evenPoint a ha

end Buidl.Taproot
