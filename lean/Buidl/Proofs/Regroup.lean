/-
  Bit regrouping: `group_32` (8 → 5 bits, always a final group) and `convertbits`.  Both loops keep one invariant,
  `Queue` (the digits written, then the pending bits, spell the first `n` bits of a number); their output is described
  by its length and positional value (`valBE`).
-/
import Buidl.Proofs.Base58
import Buidl.Model.Bech32
import Mathlib.Tactic.Ring
namespace Buidl.Bech32
open Buidl

/-! ### positional value of digit lists -/

def valBE (B : Nat) (l : List Nat) : Nat := l.foldl (fun n d => n * B + d) 0

@[simp] theorem valBE_nil (B : Nat) : valBE B [] = 0 := rfl

theorem valBE_snoc (B : Nat) (l : List Nat) (d : Nat) : valBE B (l ++ [d]) = valBE B l * B + d :=
  Digits.ofDigitsBE_snoc 0 l d

theorem valBE_rev_cons (B : Nat) (acc : List Nat) (d : Nat) :
    valBE B (d :: acc).reverse = valBE B acc.reverse * B + d := by
  rw [List.reverse_cons, valBE_snoc]

theorem valBE_inj (B : Nat) (l1 l2 : List Nat) (hlen : l1.length = l2.length)
    (h1 : ∀ d ∈ l1, d < B) (h2 : ∀ d ∈ l2, d < B) (hv : valBE B l1 = valBE B l2) : l1 = l2 :=
  Digits.ofDigitsBE_inj l1 l2 hlen h1 h2 0 hv

theorem beToNat_eq_valBE (b : Bytes) : beToNat b = valBE 256 (b.map (·.toNat)) :=
  Base58.beToNatAux_eq_ofDigitsBE 0 b

/-! ### powers of two -/

theorem two_pow_split {a b : Nat} (h : b ≤ a) : 2 ^ a = 2 ^ b * 2 ^ (a - b) := by
  rw [← Nat.pow_add, Nat.add_sub_cancel' h]

/-- filling the `u` pending bits `cur` up to a whole digit of `t` bits shifts the value -/
theorem pad_digit (V cur : Nat) {u t : Nat} (h : u ≤ t) :
    V * 2 ^ t + cur * 2 ^ (t - u) = (V * 2 ^ u + cur) * 2 ^ (t - u) := by
  rw [two_pow_split h]
  ring

/-! ### the invariant of the two regrouping loops -/

/-- `out` (reversed) followed by the low `u` bits of `cur` is the big-endian string of `n` bits
    with value `V`, cut into `t`-bit digits.  A structure and not a conjunction, so that a state enters a
    context as one hypothesis: each `omega` about bit counts is then given `h.len` and never meets the
    value equation with its powers of two. -/
structure Queue (t V n u cur : Nat) (out : List Nat) : Prop where
  val : valBE (2 ^ t) out.reverse * 2 ^ u + cur % 2 ^ u = V
  len : t * out.length + u = n
  lt : ∀ d ∈ out, d < 2 ^ t

variable {t V n u cur fuel : Nat} {out : List Nat}

theorem Queue.empty (t cur : Nat) : Queue t 0 0 0 cur [] :=
  ⟨by simp [Nat.mod_one], by simp, by simp⟩

/-- `f` fresh bits `v` enter below the pending ones -/
theorem Queue.push (h : Queue t V n u cur out) {f v cur' : Nat}
    (hc : cur' % 2 ^ (u + f) = cur % 2 ^ u * 2 ^ f + v) :
    Queue t (V * 2 ^ f + v) (n + f) (u + f) cur' out where
  val := by
    rw [hc, ← h.val, Nat.pow_add]
    ring
  len := by rw [← h.len, Nat.add_assoc]
  lt := h.lt

/-- the top `t` of the pending bits leave as a digit -/
theorem Queue.pop {k : Nat} (h : Queue t V n (k + t) cur out) {cur' : Nat} (hc : cur' % 2 ^ k = cur % 2 ^ k) :
    Queue t V n k cur' ((cur / 2 ^ k % 2 ^ t) :: out) where
  val := by
    rw [valBE_rev_cons, hc, ← h.val, Nat.pow_add, Nat.mod_mul]
    ring
  len := by
    rw [← h.len, List.length_cons, Nat.mul_succ]
    omega
  lt := List.forall_mem_cons.mpr ⟨Nat.mod_lt _ (Nat.pow_pos (by omega)), h.lt⟩

/-- the pending bits leave as a last digit, filled up with zero bits -/
theorem Queue.flush (h : Queue t V n u cur out) (hu : u ≤ t) :
    Queue t (V * 2 ^ (t - u)) (n + (t - u)) 0 0 ((cur % 2 ^ u * 2 ^ (t - u)) :: out) where
  val := by
    rw [valBE_rev_cons, Nat.pow_zero, Nat.mul_one, Nat.mod_one, Nat.add_zero, ← h.val]
    exact pad_digit _ _ hu
  len := by
    rw [← h.len, List.length_cons, Nat.mul_succ]
    omega
  lt := by
    refine List.forall_mem_cons.mpr ⟨?_, h.lt⟩
    calc cur % 2 ^ u * 2 ^ (t - u) < 2 ^ u * 2 ^ (t - u) :=
          (Nat.mul_lt_mul_right (Nat.pow_pos (by omega))).mpr (Nat.mod_lt _ (Nat.pow_pos (by omega)))
      _ = 2 ^ t := (two_pow_split hu).symm

/-- nothing pending: the digits are the whole string -/
theorem Queue.done (h : Queue t V n 0 cur out) :
    t * out.reverse.length = n ∧ valBE (2 ^ t) out.reverse = V ∧ ∀ d ∈ out.reverse, d < 2 ^ t :=
  ⟨by simpa using h.len, by simpa [Nat.mod_one] using h.val, by simpa using h.lt⟩

/-- a string that ends in `u` zero bits: the pending bits are these -/
theorem Queue.unshift {N : Nat} (h : Queue t (N * 2 ^ u) n u cur out) :
    cur % 2 ^ u = 0 ∧ valBE (2 ^ t) out.reverse = N := by
  have hP : cur % 2 ^ u = 0 := by
    have hm := congrArg (· % 2 ^ u) h.val
    simp only [Nat.mul_add_mod_self_right, Nat.mod_mod, Nat.mul_mod_left] at hm
    exact hm
  have hv := h.val
  rw [hP, Nat.add_zero] at hv
  exact ⟨hP, Nat.eq_of_mul_eq_mul_right (Nat.pow_pos (by omega)) hv⟩

/-! ### group_32 -/

theorem g32cmp (u : Nat) : cmpAt Gen.g32Cmp 0 u = decide (u > 5) := cmpOp_Gt u 5

section
variable {u' cur' : Nat} {acc acc' : List Nat}

theorem g32Drain_queue (h : Queue 5 V n u cur acc) (hf : u ≤ fuel) (hc : cur < 2 ^ u)
    (he : g32Drain fuel u cur acc = (u', cur', acc')) :
    Queue 5 V n u' cur' acc' ∧ u' ≤ 5 ∧ (1 ≤ u → 1 ≤ u') ∧ cur' < 2 ^ u' := by
  induction fuel generalizing u cur acc with
  | zero =>
    rw [g32Drain] at he
    cases he
    exact ⟨h, by omega, fun h => h, hc⟩
  | succ f ih =>
    rw [g32Drain, g32cmp] at he
    by_cases hu : u > 5
    · obtain ⟨k, rfl⟩ : ∃ k, u = k + 5 := ⟨u - 5, by omega⟩
      simp only [hu, decide_true, if_true, Gen.g32Out, Nat.add_sub_cancel, and_mask, Nat.shiftRight_eq_div_pow] at he
      rw [Nat.pow_add] at hc
      have hq := h.pop (Nat.mod_mod cur (2 ^ k))
      rw [Nat.mod_eq_of_lt (Nat.div_lt_of_lt_mul hc)] at hq
      obtain ⟨g1, g2, g3, g4⟩ := ih hq (by omega) (Nat.mod_lt _ (Nat.pow_pos (by omega))) he
      exact ⟨g1, g2, fun _ => g3 (by omega), g4⟩
    · simp only [hu, decide_false, Bool.false_eq_true, if_false] at he
      cases he
      exact ⟨h, by omega, fun h => h, hc⟩

theorem g32Loop_queue {cs : Bytes} (h : Queue 5 V n u cur acc) (hu : u ≤ 5) (hc : cur < 2 ^ u)
    (he : g32Loop cs u cur acc = (u', cur', acc')) :
    Queue 5 (beToNatAux V cs) (n + 8 * cs.length) u' cur' acc' ∧ u' ≤ 5 ∧ (cs ≠ [] ∨ 1 ≤ u → 1 ≤ u') ∧
      cur' < 2 ^ u' := by
  induction cs generalizing V n u cur acc with
  | nil =>
    rw [g32Loop] at he
    cases he
    exact ⟨h, hu, fun h => h.resolve_left (· rfl), hc⟩
  | cons c cs ih =>
    rcases hd : g32Drain (u + Gen.g32In) (u + Gen.g32In) ((cur <<< Gen.g32Shl) + c.toNat) acc with ⟨u2, cur2, acc2⟩
    simp only [g32Loop, hd] at he
    have hc1 : (cur <<< Gen.g32Shl) + c.toNat < 2 ^ (u + Gen.g32In) := by
      have := c.toNat_lt
      simp only [Gen.g32Shl, Gen.g32In, Nat.shiftLeft_eq, Nat.pow_add]
      omega
    have hq : Queue 5 (V * 2 ^ 8 + c.toNat) (n + 8) (u + 8) ((cur <<< 8) + c.toNat) acc :=
      h.push (by rw [Nat.mod_eq_of_lt hc1, Nat.mod_eq_of_lt hc, Nat.shiftLeft_eq])
    obtain ⟨h1, h2, h3, h4⟩ := g32Drain_queue hq (Nat.le_refl _) hc1 hd
    obtain ⟨g1, g2, g3, g4⟩ := ih h1 h2 h4 he
    have hn : n + 8 * (c :: cs).length = n + 8 + 8 * cs.length := by
      rw [List.length_cons]
      omega
    rw [hn]
    exact ⟨g1, g2, fun _ => g3 (Or.inr (h3 (by omega))), g4⟩

theorem group32_spec (s : Bytes) (hs : s ≠ []) :
    ∃ pad, pad < 5 ∧ (group32 s).length * 5 = 8 * s.length + pad ∧
      valBE 32 (group32 s) = beToNat s * 2 ^ pad ∧ ∀ d ∈ group32 s, d < 32 := by
  rcases he : g32Loop s 0 0 [] with ⟨u', cur', acc'⟩
  obtain ⟨h, h1, h2, h3⟩ := g32Loop_queue (Queue.empty 5 0) (by omega) (by simp) he
  have hu1 : 1 ≤ u' := h2 (Or.inl hs)
  have hg : group32 s = ((cur' % 2 ^ u' * 2 ^ (5 - u')) :: acc').reverse := by
    simp only [group32, he, Gen.g32Final, Nat.shiftLeft_eq, Nat.mod_eq_of_lt h3]
  obtain ⟨f1, f2, f3⟩ := (h.flush h1).done
  rw [hg]
  exact ⟨5 - u', by omega, by omega, f2, f3⟩

end

/-! ### convertbits -/

/-- appending `f` input bits to the (truncated) accumulator -/
theorem cb_acc_step (f t acc bits v : Nat) (hv : v < 2 ^ f) (hbits : bits + f ≤ f + t - 1) :
    (((acc <<< f) ||| v) &&& ((1 <<< (f + t - 1)) - 1)) % 2 ^ (bits + f) = (acc % 2 ^ bits) * 2 ^ f + v := by
  rw [← Nat.shiftLeft_add_eq_or_of_lt hv, and_mask, Nat.shiftLeft_eq,
    Nat.mod_mod_of_dvd _ (Nat.pow_dvd_pow 2 hbits)]
  have h2 : (acc * 2 ^ f + v) / 2 ^ f = acc := by
    rw [Nat.add_comm, Nat.add_mul_div_right _ _ (Nat.pow_pos (by omega)), Nat.div_eq_of_lt hv, Nat.zero_add]
  rw [Nat.pow_add, Nat.mul_comm (2 ^ bits), Nat.mod_mul, Nat.mul_add_mod_of_lt hv, h2]
  ring

/-- the last group of `convertbits` with padding: the `bits` pending bits moved to the top -/
theorem cb_pad_digit (acc t bits : Nat) (h : bits ≤ t) :
    (acc <<< (t - bits)) &&& ((1 <<< t) - 1) = (acc % 2 ^ bits) * 2 ^ (t - bits) := by
  rw [and_mask, Nat.shiftLeft_eq, two_pow_split h, Nat.mul_mod_mul_right]

variable {bits bits' acc : Nat} {ret ret' : List Nat}

theorem cbDrain_queue (h : Queue t V n bits acc ret) (hf : bits ≤ fuel) (ht : 1 ≤ t)
    (he : cbDrain t ((1 <<< t) - 1) fuel bits acc ret = (bits', ret')) :
    Queue t V n bits' acc ret' ∧ bits' < t := by
  induction fuel generalizing bits ret with
  | zero =>
    rw [cbDrain] at he
    cases he
    exact ⟨h, by omega⟩
  | succ f ih =>
    rw [cbDrain] at he
    by_cases hb : bits ≥ t
    · obtain ⟨k, rfl⟩ : ∃ k, bits = k + t := ⟨bits - t, by omega⟩
      simp only [hb, if_true, Nat.add_sub_cancel, and_mask, Nat.shiftRight_eq_div_pow] at he
      exact ih (h.pop rfl) (by omega) he
    · simp only [hb, if_false] at he
      cases he
      exact ⟨h, by omega⟩

theorem cbLoop_queue {f : Nat} (ht : 1 ≤ t) {vs : List Nat} (hvs : ∀ v ∈ vs, v < 2 ^ f)
    (h : Queue t V n bits acc ret) (hb : bits < t) :
    ∃ acc' bits' ret',
      cbLoop f t ((1 <<< t) - 1) ((1 <<< (f + t - 1)) - 1) vs acc bits ret = some (acc', bits', ret') ∧
      Queue t (Digits.ofDigitsBE (2 ^ f) V vs) (n + f * vs.length) bits' acc' ret' ∧ bits' < t := by
  induction vs generalizing V n acc bits ret with
  | nil => exact ⟨acc, bits, ret, rfl, h, hb⟩
  | cons v vs ih =>
    obtain ⟨hv, hvs⟩ := List.forall_mem_cons.mp hvs
    have hv0 : v >>> f = 0 := by
      rw [Nat.shiftRight_eq_div_pow]
      exact Nat.div_eq_of_lt hv
    rcases hd : cbDrain t ((1 <<< t) - 1) (bits + f) (bits + f)
      (((acc <<< f) ||| v) &&& ((1 <<< (f + t - 1)) - 1)) ret with ⟨bits2, ret2⟩
    obtain ⟨h1, h2⟩ :=
      cbDrain_queue (h.push (cb_acc_step f t acc bits v hv (by omega))) (Nat.le_refl _) ht hd
    obtain ⟨acc', bits', ret', he, g1, g2⟩ := ih hvs h1 h2
    have hn : n + f * (v :: vs).length = n + f + f * vs.length := by
      rw [List.length_cons, Nat.mul_succ]
      omega
    refine ⟨acc', bits', ret', ?_, hn ▸ g1, g2⟩
    simp only [cbLoop, hv0, ne_eq, not_true_eq_false, if_false, hd]
    exact he

theorem convertbits_pad_spec (f t : Nat) (ht : 1 ≤ t) (data : List Nat) (hdata : ∀ v ∈ data, v < 2 ^ f) :
    ∃ out pad, convertbits data f t true = some out ∧ pad < t ∧ t * out.length = f * data.length + pad ∧
      valBE (2 ^ t) out = valBE (2 ^ f) data * 2 ^ pad ∧ ∀ d ∈ out, d < 2 ^ t := by
  obtain ⟨acc', bits', ret', he, h, hb⟩ := cbLoop_queue ht hdata (Queue.empty t 0) (by omega)
  rw [Nat.zero_add] at h
  by_cases hb0 : bits' = 0
  · subst hb0
    obtain ⟨f1, f2, f3⟩ := h.done
    refine ⟨ret'.reverse, 0, ?_, by omega, f1, f2.trans (Nat.mul_one _).symm, f3⟩
    simp [convertbits, he]
  · obtain ⟨f1, f2, f3⟩ := (h.flush (Nat.le_of_lt hb)).done
    rw [← cb_pad_digit acc' t bits' (by omega)] at f1 f2 f3
    refine ⟨_, t - bits', ?_, by omega, f1, f2, f3⟩
    simp [convertbits, he, hb0]

/-- the right-hand side: `dd` is the grouping of the byte string `out` followed by `b` zero bits -/
theorem convertbits_5_8_nopad_iff (dd : List Nat) (hdd : ∀ v ∈ dd, v < 2 ^ 5) (out : List Nat) :
    convertbits dd 5 8 false = some out ↔
      ∃ b, b < 5 ∧ 8 * out.length + b = 5 * dd.length ∧ valBE (2 ^ 8) out * 2 ^ b = valBE (2 ^ 5) dd ∧
        ∀ d ∈ out, d < 2 ^ 8 := by
  obtain ⟨acc', bits', ret', he, h, g1⟩ := cbLoop_queue (f := 5) (by decide) hdd (Queue.empty 8 0) (by decide)
  rw [Nat.zero_add] at h
  change Queue 8 (valBE (2 ^ 5) dd) _ _ _ _ at h
  have he' : cbLoop 5 8 255 4095 dd 0 0 [] = some (acc', bits', ret') := he
  have hcv : convertbits dd 5 8 false = if bits' ≥ 5 ∨ acc' % 2 ^ bits' ≠ 0 then none else some ret'.reverse := by
    have hdig : (acc' <<< (8 - bits')) &&& 255 = acc' % 2 ^ bits' * 2 ^ (8 - bits') :=
      cb_pad_digit acc' 8 bits' (by omega)
    have : acc' % 2 ^ bits' * 2 ^ (8 - bits') = 0 ↔ acc' % 2 ^ bits' = 0 := by
      rw [Nat.mul_eq_zero]
      exact or_iff_left (Nat.pos_iff_ne_zero.mp (Nat.pow_pos (by decide)))
    simp only [convertbits, he', Bool.false_eq_true, if_false, Nat.reduceShiftLeft, Nat.reduceSub, Nat.reduceAdd, hdig,
      ne_eq, this]
  rw [hcv]
  constructor
  · intro h'
    split at h'
    · cases h'
    · next hc =>
      cases h'
      rw [not_or, Nat.not_le, Decidable.not_not] at hc
      exact ⟨bits', hc.1, by rw [List.length_reverse]; exact h.len, by rw [← h.val, hc.2, Nat.add_zero],
        fun d hd => h.lt d (List.mem_reverse.mp hd)⟩
  · rintro ⟨b, hb, hlen, hval, hout⟩
    have hl := h.len
    obtain ⟨rfl, hl⟩ : bits' = b ∧ ret'.reverse.length = out.length := by
      rw [List.length_reverse]
      omega
    rw [← hval] at h
    obtain ⟨hP, hV⟩ := h.unshift
    rw [if_neg (by rw [not_or, Nat.not_le, Decidable.not_not]; exact ⟨hb, hP⟩)]
    exact congrArg some (valBE_inj (2 ^ 8) _ out hl (fun d hd => h.lt d (List.mem_reverse.mp hd)) hout hV)

end Buidl.Bech32
