/-
  The text format of Buidl.Model.Bcur (lower / strip / split / int), `_parse_bcur_helper` on the
  strings the encoders write, and what the encoders write.
-/
import Buidl.Proofs.Bcur
namespace Buidl.Bcur
open Buidl Buidl.Base58 Buidl.Bech32

/-! ### strings without upper-case letters and white space -/

def Clean (s : Str) : Prop := ∀ c ∈ s, asciiLower c = c ∧ isSpace c = false

theorem Clean.append {a b : Str} (ha : Clean a) (hb : Clean b) : Clean (a ++ b) :=
  fun c hc => (List.mem_append.mp hc).elim (ha c) (hb c)

theorem Clean.cons {c : Char} {s : Str} (hc : asciiLower c = c ∧ isSpace c = false) (hs : Clean s) : Clean (c :: s) := by
  intro x hx
  rcases List.mem_cons.mp hx with rfl | h
  · exact hc
  · exact hs x h

theorem alphabet_facts : ∀ c ∈ Bech32.alphabet, isSpace c = false ∧ c ≠ '/' := by
  rw [Bech32.alphabet, Gen.bech32Alphabet, String.toList_ofList]
  decide +kernel

theorem clean_of_alphabet {s : Str} (h : ∀ c ∈ s, c ∈ Bech32.alphabet) : Clean s :=
  fun c hc => ⟨alphabet_lower c (h c hc), (alphabet_facts c (h c hc)).1⟩

theorem not_slash_of_alphabet {s : Str} (h : ∀ c ∈ s, c ∈ Bech32.alphabet) : '/' ∉ s :=
  fun hm => (alphabet_facts _ (h _ hm)).2 rfl

theorem dropWhile_none {α} (p : α → Bool) (l : List α) (h : ∀ c ∈ l, p c = false) : l.dropWhile p = l := by
  cases l with
  | nil => rfl
  | cons x xs => simp [h x (by simp)]

theorem map_lower_clean {s : Str} (h : Clean s) : s.map asciiLower = s := by
  rw [List.map_congr_left (g := id) fun c hc => (h c hc).1, List.map_id]

theorem pyStrip_clean {s : Str} (h : Clean s) : pyStrip s = s := by
  rw [pyStrip, dropWhile_none _ s (fun c hc => (h c hc).2),
    dropWhile_none _ s.reverse (fun c hc => (h c (List.mem_reverse.mp hc)).2), List.reverse_reverse]

/-! ### decimal numerals: `str(n)` is a `znum` in base 10, `int()` reads digits with `ofDigitsBE 10` -/

def digitChar (d : Nat) : Char := Char.ofNat ('0'.toNat + d)

theorem digitChar_facts : ∀ d < 10, isDigit (digitChar d) = true ∧ (digitChar d).toNat - '0'.toNat = d ∧
    asciiLower (digitChar d) = digitChar d ∧ isSpace (digitChar d) = false ∧ isSpaceC (digitChar d) = false ∧
    digitChar d ≠ 'o' ∧ digitChar d ≠ '/' ∧ digitChar d ≠ '-' ∧ digitChar d ≠ '+' := by decide +kernel

theorem natToDec_eq (n : Nat) : natToDec n = (znum 10 (if n = 0 then 1 else 0) n).map digitChar := by
  unfold natToDec
  split
  · next h => rw [h]; rfl
  · rw [digitsBE_eq 10 (by omega) _ _ _ (Nat.le_refl _), List.append_nil, znum, List.replicate_zero, List.nil_append]
    rfl

theorem intBody_digits (ds : List Nat) (h : ∀ d ∈ ds, d < 10) (v k : Nat) (b : Bool) (hne : ds ≠ [] ∨ b = true) :
    intBody (ds.map digitChar) v k b = some (Digits.ofDigitsBE 10 v ds, k + ds.length) := by
  induction ds generalizing v k b with
  | nil =>
    rcases hne with h0 | h0
    · exact absurd rfl h0
    · simp [intBody, h0, Digits.ofDigitsBE]
  | cons d ds ih =>
    have hd := digitChar_facts d (h d (by simp))
    simp only [List.map_cons, intBody, hd.1, if_true, hd.2.1]
    rw [ih (fun x hx => h x (by simp [hx])) _ _ true (Or.inr rfl), Digits.ofDigitsBE_cons, Nat.mul_comm]
    simp only [List.length_cons]
    congr 2; omega

theorem pyInt_digits (ds : List Nat) (h : ∀ d ∈ ds, d < 10) (hne : ds ≠ []) (hlen : ds.length ≤ intMaxStrDigits) :
    pyInt (ds.map digitChar) = some ((Digits.ofDigitsBE 10 0 ds : Nat) : Int) := by
  have hsp : ∀ c ∈ ds.map digitChar, isSpaceC c = false := by
    intro c hc
    obtain ⟨d, hd, rfl⟩ := List.mem_map.mp hc
    exact (digitChar_facts d (h d hd)).2.2.2.2.1
  unfold pyInt
  simp only [dropWhile_none _ _ hsp, dropWhile_none _ _ (fun c hc => hsp c (List.mem_reverse.mp hc)), List.reverse_reverse]
  -- the sign match falls through: the first character is a digit
  obtain ⟨d0, rest, rfl⟩ := List.exists_cons_of_ne_nil hne
  obtain ⟨-, -, -, -, -, -, -, hminus, hplus⟩ := digitChar_facts d0 (h d0 (by simp))
  have hm : signSplit ((d0 :: rest).map digitChar) = (false, (d0 :: rest).map digitChar) := by
    rw [List.map_cons]
    unfold signSplit
    split
    · next h => exact absurd (List.cons.inj h).1 hminus
    · next h => exact absurd (List.cons.inj h).1 hplus
    · rfl
  rw [hm]
  simp only [intBody_digits _ h 0 0 false (Or.inl hne), Nat.zero_add, Nat.not_lt.mpr hlen, if_false, Bool.false_eq_true]

/-- `int(str(n)) == n` (numbers below 10^16; CPython refuses more than 4300 digits) -/
theorem pyInt_natToDec (n : Nat) (hn : n < 10 ^ 16) : pyInt (natToDec n) = some (n : Int) := by
  have hlen : (Nat.digits 10 n).length ≤ 16 := (Nat.digits_length_le_iff (by omega) n).mpr hn
  rw [natToDec_eq, pyInt_digits _ (znum_lt (by omega) _ n), (lz_ofDigitsBE_znum 10 _ n).2]
  · split
    · exact List.cons_ne_nil _ _
    · next h => simpa [znum] using Nat.digits_ne_nil_iff_ne_zero.mpr h
  · rw [znum, List.length_append, List.length_replicate, List.length_reverse, intMaxStrDigits]
    split <;> omega

theorem natToDec_facts (n : Nat) : ∀ c ∈ natToDec n, (asciiLower c = c ∧ isSpace c = false) ∧ c ≠ 'o' ∧ c ≠ '/' := by
  rw [natToDec_eq]
  intro c hc
  obtain ⟨d, hd, rfl⟩ := List.mem_map.mp hc
  obtain ⟨-, -, hlow, hsp, -, ho, hsl, -, -⟩ := digitChar_facts d (znum_lt (by omega) _ n d hd)
  exact ⟨⟨hlow, hsp⟩, ho, hsl⟩

theorem natToDec_clean (n : Nat) : Clean (natToDec n) := fun c hc => (natToDec_facts n c hc).1

theorem natToDec_not_mem (n : Nat) : 'o' ∉ natToDec n ∧ '/' ∉ natToDec n :=
  ⟨fun h => (natToDec_facts n _ h).2.1 rfl, fun h => (natToDec_facts n _ h).2.2 rfl⟩

/-! ### `str.split` -/

theorem splitGo_fuel (c : Char) (sep' : Str) (f g : Nat) (s cur : Str) (hf : s.length < f) (hg : s.length < g) :
    splitGo (c :: sep') f s cur = splitGo (c :: sep') g s cur := by
  induction f generalizing g s cur with
  | zero => omega
  | succ f ih =>
    cases g with
    | zero => omega
    | succ g =>
      cases s with
      | nil => rfl
      | cons x xs =>
        simp only [List.length_cons] at hf hg
        simp only [splitGo]
        split
        · congr 1
          apply ih
          all_goals
            simp only [List.length_drop, List.length_cons]
            omega
        · exact ih g xs _ (by omega) (by omega)

theorem splitGo_skip (c : Char) (sep' a t cur : Str) (fuel : Nat) (ha : c ∉ a) :
    splitGo (c :: sep') (a.length + fuel) (a ++ t) cur = splitGo (c :: sep') fuel t (a.reverse ++ cur) := by
  induction a generalizing cur with
  | nil => rw [List.length_nil, Nat.zero_add]; rfl
  | cons x xs ih =>
    have hx : (c == x) = false := beq_eq_false_iff_ne.mpr fun e => ha (by simp [e])
    rw [List.length_cons, Nat.add_right_comm, List.cons_append, splitGo, List.isPrefixOf_cons_cons, hx, Bool.false_and,
      if_neg Bool.false_ne_true, ih _ fun e => ha (List.mem_cons_of_mem _ e), List.reverse_cons, List.append_assoc]
    rfl

theorem pySplit_no_sep (c : Char) (sep' a : Str) (ha : c ∉ a) : pySplit (c :: sep') a = [a] := by
  have h := splitGo_skip c sep' a [] [] 1 ha
  rw [List.append_nil] at h
  rw [pySplit, if_neg (List.cons_ne_nil _ _), h, splitGo, List.append_nil, List.reverse_reverse]

theorem pySplit_append_sep (c : Char) (sep' a rest : Str) (ha : c ∉ a) :
    pySplit (c :: sep') (a ++ (c :: sep') ++ rest) = a :: pySplit (c :: sep') rest := by
  rw [pySplit, pySplit, if_neg (List.cons_ne_nil _ _), if_neg (List.cons_ne_nil _ _), List.append_assoc, List.length_append,
    Nat.add_assoc, splitGo_skip c sep' a _ [] _ ha, List.cons_append, splitGo, ← List.cons_append,
    if_pos (List.isPrefixOf_iff_prefix.mpr (List.prefix_append _ _)), List.drop_left, List.append_nil, List.reverse_reverse,
    splitGo_fuel c sep' _ (rest.length + 1) rest [] (by simp only [List.length_append, List.length_cons]; omega) (Nat.lt_succ_self _)]

/-! ### `_parse_bcur_helper` on the strings the encoders write -/

def urBytes : Str := ['u', 'r', ':', 'b', 'y', 't', 'e', 's']

theorem fmt_consts :
    Gen.bcurParsePrefix.toList = urBytes ++ ['/'] ∧ Gen.bcurParseSep.toList = ['/'] ∧ Gen.bcurParseOf.toList = ['o', 'f'] ∧
    Gen.bcurSingleFmtA.toList = urBytes ++ ['/'] ∧ Gen.bcurSingleFmtB.toList = ['/'] ∧
    Gen.bcurSingleFmtNoChk.toList = urBytes ++ ['/'] ∧ Gen.bcurMultiFmtA.toList = urBytes ++ ['/'] ∧
    Gen.bcurMultiFmtB.toList = ['o', 'f'] ∧ Gen.bcurMultiFmtC.toList = ['/'] ∧ Gen.bcurMultiFmtD.toList = ['/'] ∧
    Gen.bech32CharsReClass.toList = Bech32.alphabet := by
  -- three literals, "ur:bytes/", "/" and "of"
  simp only [Gen.bcurParsePrefix, Gen.bcurParseSep, Gen.bcurParseOf, Gen.bcurSingleFmtA, Gen.bcurSingleFmtB,
    Gen.bcurSingleFmtNoChk, Gen.bcurMultiFmtA, Gen.bcurMultiFmtB, Gen.bcurMultiFmtC, Gen.bcurMultiFmtD]
  rw [String.toList_ofList, String.toList_ofList, String.toList_ofList]
  exact ⟨rfl, rfl, rfl, rfl, rfl, rfl, rfl, rfl, rfl, rfl, rfl⟩

theorem urBytes_facts : Clean urBytes ∧ '/' ∉ urBytes ∧ Clean ['/'] ∧ Clean ['o', 'f'] := by
  unfold Clean
  decide +kernel

theorem usesOnly_of_alphabet (s : Str) (h : ∀ c ∈ s, c ∈ Bech32.alphabet) : usesOnlyBech32Chars s = true := by
  unfold usesOnlyBech32Chars
  have hl := map_lower_clean (clean_of_alphabet h)
  have : s.all (fun c => Bech32.alphabet.contains c) = true :=
    List.all_eq_true.mpr fun c hc => List.contains_iff_mem.mpr (h c hc)
  simp only [hl, fmt_consts, this, Bool.true_or]

/-- the front of `_parse_bcur_helper` on a clean string behind `ur:bytes/`: `lower()` and
    `strip()` change nothing, the prefix test passes and `split("/")` takes `ur:bytes` off -/
theorem parse_front (rest : Str) (h : Clean rest) :
    pyStrip ((urBytes ++ ['/'] ++ rest).map asciiLower) = urBytes ++ ['/'] ++ rest ∧
    (urBytes ++ ['/']).isPrefixOf (urBytes ++ ['/'] ++ rest) = true ∧
    pySplit ['/'] (urBytes ++ ['/'] ++ rest) = urBytes :: pySplit ['/'] rest :=
  have hc := (urBytes_facts.1.append urBytes_facts.2.2.1).append h
  ⟨by rw [map_lower_clean hc, pyStrip_clean hc], List.isPrefixOf_iff_prefix.mpr (List.prefix_append _ _),
    pySplit_append_sep '/' [] urBytes rest urBytes_facts.2.1⟩

/-- a part written by BCURMulti.encode -/
def partStr (x n : Nat) (chk payload : Str) : Str :=
  urBytes ++ ['/'] ++ ((natToDec x ++ ['o', 'f'] ++ natToDec n) ++ ['/'] ++ (chk ++ ['/'] ++ payload))

theorem parseBcurHelper_part (x n : Nat) (chk payload : Str) (hxn : x ≤ n) (hn : n < 10 ^ 16)
    (hchk : chk.length = 58) (hca : ∀ c ∈ chk, c ∈ Bech32.alphabet) (hpa : ∀ c ∈ payload, c ∈ Bech32.alphabet) :
    parseBcurHelper (partStr x n chk payload) = some ⟨payload, some chk, x, n⟩ := by
  have hxofy : '/' ∉ natToDec x ++ ['o', 'f'] ++ natToDec n := by
    simp only [List.mem_append, not_or]
    exact ⟨⟨(natToDec_not_mem x).2, by decide⟩, (natToDec_not_mem n).2⟩
  obtain ⟨-, -, hsl, hof⟩ := urBytes_facts
  obtain ⟨h1, h2, h3⟩ := parse_front ((natToDec x ++ ['o', 'f'] ++ natToDec n) ++ ['/'] ++ (chk ++ ['/'] ++ payload))
    ((((natToDec_clean x).append hof).append (natToDec_clean n)).append hsl |>.append
      (((clean_of_alphabet hca).append hsl).append (clean_of_alphabet hpa)))
  have hgt : ¬ ((x : Int) > (n : Int)) := by omega
  have hne : ¬ chk = [] := fun e => by rw [e] at hchk; cases hchk
  unfold parseBcurHelper partStr
  simp only [fmt_consts, h1, h2, h3, pySplit_append_sep '/' [] _ _ hxofy,
    pySplit_append_sep '/' [] _ _ (not_slash_of_alphabet hca), pySplit_no_sep '/' [] _ (not_slash_of_alphabet hpa),
    pySplit_append_sep 'o' ['f'] _ _ (natToDec_not_mem x).1, pySplit_no_sep 'o' ['f'] _ (natToDec_not_mem n).1,
    pyInt_natToDec x (by omega), pyInt_natToDec n hn]
  simp [hgt, hchk, Gen.bcurChecksumLen, usesOnly_of_alphabet chk hca, usesOnly_of_alphabet payload hpa, hne]

/-- what BCURSingle.encode writes, with and without the checksum -/
def singleStr (chk : Option Str) (payload : Str) : Str :=
  urBytes ++ ['/'] ++ match chk with
    | some c => c ++ ['/'] ++ payload
    | none => payload

theorem parseBcurHelper_single (chk : Option Str) (payload : Str)
    (hchk : ∀ c, chk = some c → c.length = 58 ∧ ∀ x ∈ c, x ∈ Bech32.alphabet) (hpa : ∀ c ∈ payload, c ∈ Bech32.alphabet) :
    parseBcurHelper (singleStr chk payload) = some ⟨payload, chk, 1, 1⟩ := by
  cases chk with
  | none =>
    obtain ⟨h1, h2, h3⟩ := parse_front payload (clean_of_alphabet hpa)
    unfold parseBcurHelper singleStr
    simp only [fmt_consts, h1, h2, h3, pySplit_no_sep '/' [] _ (not_slash_of_alphabet hpa)]
    simp [usesOnly_of_alphabet payload hpa]
  | some c =>
    obtain ⟨hl, hca⟩ := hchk c rfl
    obtain ⟨h1, h2, h3⟩ := parse_front (c ++ ['/'] ++ payload)
      (((clean_of_alphabet hca).append urBytes_facts.2.2.1).append (clean_of_alphabet hpa))
    have hne : ¬ c = [] := fun e => by rw [e] at hl; cases hl
    unfold parseBcurHelper singleStr
    simp only [fmt_consts, h1, h2, h3, pySplit_append_sep '/' [] _ _ (not_slash_of_alphabet hca),
      pySplit_no_sep '/' [] _ (not_slash_of_alphabet hpa)]
    simp [Gen.bcurChecksumLen, hl, hne, usesOnly_of_alphabet c hca, usesOnly_of_alphabet payload hpa]

/-! ### what the encoders write -/

theorem bc32encode_chars (data : Bytes) (s : Str) (h : bc32encode data = some s) : ∀ c ∈ s, c ∈ Bech32.alphabet := by
  obtain ⟨dd, _, hlt, _, he⟩ := bc32encode_eq data
  rw [he] at h; cases h
  intro c hc
  obtain ⟨d, hd, rfl⟩ := List.mem_map.mp hc
  exact b32char_mem (withChk_lt hlt d hd)

theorem cborEncode_length (d e : Bytes) (h : cborEncode d = some e) : e.length ≤ d.length + 5 := by
  have hlen : d.length < 2 ^ 32 := (cborEncode_isSome_iff d).mp (by rw [h]; rfl)
  obtain rfl := Option.some.inj ((cborEncode_eq d hlen).symm.trans h)
  -- every branch prepends at most five bytes
  simp only [apply_ite List.length, apply_ite (· ≤ d.length + 5), List.length_cons, List.length_append, natToBE'_length,
    Nat.add_comm _ d.length, Nat.add_assoc, Nat.reduceAdd, Nat.add_le_add_iff_left, Nat.reduceLeDiff, ite_self]

theorem bcurEncode_facts (sha256 : Bytes → Bytes) (hh : ∀ b, (sha256 b).length = 32) (data : Bytes)
    (hd : data.length < 2 ^ 32) :
    ∃ enc encHash, bcurEncode sha256 data = some (enc, encHash) ∧
      encHash.length = 58 ∧ (∀ c ∈ enc, c ∈ Bech32.alphabet) ∧ (∀ c ∈ encHash, c ∈ Bech32.alphabet) ∧
      6 ≤ enc.length ∧ enc.length < 2 ^ 36 := by
  obtain ⟨cbor, hc⟩ := Option.isSome_iff_exists.mp ((cborEncode_isSome_iff data).mpr hd)
  obtain ⟨enc, h1⟩ := Option.isSome_iff_exists.mp (bc32encode_isSome cbor)
  obtain ⟨encHash, h2⟩ := Option.isSome_iff_exists.mp (bc32encode_isSome (sha256 cbor))
  have hcl := cborEncode_length data cbor hc
  have l1 := bc32encode_length cbor enc h1
  have l2 := bc32encode_length (sha256 cbor) encHash h2
  rw [hh] at l2
  exact ⟨enc, encHash, bcurEncode_eq_some_iff.mpr ⟨cbor, hc, h1, h2⟩, by omega, bc32encode_chars _ _ h1,
    bc32encode_chars _ _ h2, by omega, by omega⟩

theorem bcurDecode_bcurEncode {sha256 : Bytes → Bytes} {data : Bytes} {enc encHash : Str}
    (he : bcurEncode sha256 data = some (enc, encHash)) {chk : Option Str} (hchk : chk = none ∨ chk = some encHash) :
    bcurDecode sha256 enc chk = some data := by
  obtain ⟨cbor, hc, h1, h2⟩ := bcurEncode_eq_some_iff.mp he
  unfold bcurDecode
  rw [bc32decode_bc32encode cbor enc h1]
  rcases hchk with rfl | rfl
  · exact cborDecode_cborEncode data cbor hc
  · simp only [bc32decode_bc32encode _ encHash h2, ne_eq, not_true_eq_false, if_false]
    exact cborDecode_cborEncode data cbor hc

theorem singleEncode_eq (sha256 : Bytes → Bytes) (data : Bytes) (enc encHash : Str)
    (he : bcurEncode sha256 data = some (enc, encHash)) (use : Bool) :
    singleEncode sha256 data use = some (singleStr (if use then some encHash else none) enc) := by
  unfold singleEncode
  rw [construct_ok he (Or.inl rfl) (Or.inl rfl)]
  cases use <;> simp only [singleStr, fmt_consts, Option.map_some, List.append_assoc, if_true, if_false, Bool.false_eq_true]

theorem floatCeilDiv_pos (a b : Nat) (hb : 1 ≤ b) : floatCeilDiv a b = some ((a + b - 1) / b) :=
  if_neg (by omega)

theorem multiEncode_eq (sha256 : Bytes → Bytes) (data : Bytes) (enc encHash : Str)
    (he : bcurEncode sha256 data = some (enc, encHash)) (m : Nat) (animate : Bool) (n cl : Nat)
    (hn : (if animate then floatCeilDiv enc.length m else some 1) = some n) (hcl : floatCeilDiv enc.length n = some cl) :
    multiEncode sha256 data m animate =
      some ((List.range n).map fun i => partStr (i + 1) n encHash ((enc.drop (i * cl)).take cl)) := by
  unfold multiEncode
  rw [construct_ok he (Or.inl rfl) (Or.inl rfl)]
  simp only [hn, hcl, partStr, fmt_consts, List.append_assoc]

end Buidl.Bcur
