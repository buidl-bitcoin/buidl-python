/-
  The paths the library itself writes (blinding.secure_secret_path, helper.child_to_path, helper.parse_binary_path)
  read back by traverse: the components are the numbers that were written.  Mathlib-free.
-/
import Buidl.Proofs.HDPath
namespace Buidl.HD
open Buidl Buidl.EC Buidl.PyStr

theorem toLower_of_lt {c : Char} (h : c.toNat < 65) : c.toLower = c := by
  unfold Char.toLower
  have : ¬ (c.val ≥ 65 ∧ c.val ≤ 90) := by
    intro ⟨h1, _⟩
    have : 65 ≤ c.toNat := by simpa [UInt32.le_iff_toNat_le] using h1
    omega
  simp [this]

/-- characters that `path.lower().replace("h", "'")` leaves alone -/
def normFixed (c : Char) : Prop := c.toNat < 65 ∨ c = 'm'

theorem normPath_fixed (s : Str) (h : ∀ c ∈ s, normFixed c) : normPath s = s := by
  unfold normPath lower replaceChar
  rw [List.map_map]
  refine (List.map_congr_left fun c hc => ?_).trans (List.map_id s)
  rcases h c hc with h | rfl
  · have e := toLower_of_lt h
    simp only [Function.comp, e, id]
    have : c ≠ 'h' := by intro e'; subst e'; revert h; decide
    simp [this]
  · decide

theorem natStr_fixed (n : Nat) : ∀ c ∈ natStr n, normFixed c := fun c hc =>
  Or.inl (by have := digit_toNat (natStr_digits n c hc); omega)

theorem natStr_no_slash (n : Nat) : '/' ∉ natStr n := by
  intro h; have := natStr_digits n _ h; simp [Char.isDigit] at this

theorem natStr_not_hardened (n : Nat) : endsWithChar '\'' (natStr n) = false := by
  unfold endsWithChar
  have : (natStr n).getLast? ≠ some '\'' := fun h => by
    have := natStr_digits n _ (List.mem_of_mem_getLast? h); simp [Char.isDigit] at this
  simp [this]

theorem pubIndex_natStr (n : Nat) : pubIndex (natStr n) = some (n : Int) := by
  simp [pubIndex, natStr_not_hardened, pyInt_natStr]

theorem privIndex_natStr (n : Nat) : privIndex (natStr n) = some (n : Int) := by
  simp [privIndex, natStr_not_hardened, pyInt_natStr]

/-- the path of blinding.secure_secret_path: `m/<r1>/<r2>/…` -/
theorem secureSecretPath_eq (rands : List Nat) (h1 : 1 ≤ rands.length) (h2 : rands.length < 32) :
    secureSecretPath rands = some (join '/' (['m'] :: rands.map natStr)) := by
  simp only [secureSecretPath, Gen.secretDepthMaxOp, Gen.secretDepthMinOp, cmpOp_GtE, cmpOp_Lt, decide_eq_true_eq,
    Gen.secretDepthMaxT, Gen.secretDepthMinT]
  rw [if_neg (by omega), if_neg (by omega)]

theorem components_join_m (comps : List Str) (hf : ∀ p ∈ comps, ∀ c ∈ p, normFixed c) (hs : ∀ p ∈ comps, '/' ∉ p) :
    normPath (join '/' (['m'] :: comps)) = join '/' (['m'] :: comps) ∧
    startsWith ['m'] (join '/' (['m'] :: comps)) = true ∧
    components (join '/' (['m'] :: comps)) = comps := by
  refine ⟨normPath_fixed _ (forall_mem_join (Or.inl (by decide))
    (List.forall_mem_cons.mpr ⟨fun _ hc => Or.inr (List.mem_singleton.mp hc), hf⟩)), ?_, ?_⟩
  · rw [join_cons]
    rfl
  · rw [components, split_join '/' (['m'] :: comps) (List.cons_ne_nil _ _) (List.forall_mem_cons.mpr ⟨by decide, hs⟩)]
    rfl

theorem traverseWith_join_map {κ α : Type} (w : κ → List Str → Option κ) (f : α → Str)
    (hf : ∀ x, ∀ c ∈ f x, normFixed c) (hs : ∀ x, '/' ∉ f x) (k : κ) (xs : List α) :
    traverseWith w k (join '/' (['m'] :: xs.map f)) = w k (xs.map f) := by
  obtain ⟨h1, h2, h3⟩ := components_join_m (xs.map f)
    (by intro q hq; obtain ⟨x, -, rfl⟩ := List.mem_map.mp hq; exact hf x)
    (by intro q hq; obtain ⟨x, -, rfl⟩ := List.mem_map.mp hq; exact hs x)
  simp [traverseWith, h1, h2, h3]

/-! ### child_to_path / parse_binary_path -/

/-- the component that child_to_path writes for a child number (without its leading `/`) -/
def pathComponent (cn : Nat) : Str :=
  if cmpOp Gen.childToPathHardOp cn Gen.childToPathHardT then natStr (cn - Gen.childToPathSub) ++ ['\''] else natStr cn

theorem pathComponent_eq (cn : Nat) :
    pathComponent cn = if 2 ^ 31 ≤ cn then natStr (cn - 2 ^ 31) ++ ['\''] else natStr cn := by
  simp only [pathComponent, Gen.childToPathHardOp, cmpOp_GtE, decide_eq_true_eq, Gen.childToPathHardT, Gen.childToPathSub]

theorem childToPath_eq (cn : Nat) : childToPath cn = '/' :: pathComponent cn := by
  unfold childToPath pathComponent
  split
  · exact List.cons_append
  · rfl

theorem pathComponent_fixed (cn : Nat) : ∀ c ∈ pathComponent cn, normFixed c := by
  intro c hc
  unfold pathComponent at hc
  split at hc
  · rcases List.mem_append.mp hc with hc | hc
    · exact natStr_fixed _ c hc
    · have e : c = '\'' := by simpa using hc
      rw [e]; exact Or.inl (by decide)
  · exact natStr_fixed _ c hc

theorem pathComponent_no_slash (cn : Nat) : '/' ∉ pathComponent cn := by
  intro hc
  unfold pathComponent at hc
  split at hc
  · rcases List.mem_append.mp hc with hc | hc
    · exact natStr_no_slash _ hc
    · simp at hc
  · exact natStr_no_slash _ hc

theorem privIndex_pathComponent (cn : Nat) : privIndex (pathComponent cn) = some (cn : Int) := by
  rw [pathComponent_eq]
  by_cases h : 2 ^ 31 ≤ cn
  · have hl : (natStr (cn - 2 ^ 31) ++ ['\'']).getLast? = some '\'' := by simp
    rw [if_pos h]
    simp only [privIndex, endsWithChar, hl, List.dropLast_concat, pyInt_natStr, Option.map_some, Gen.hdTraverseHardAdd]
    exact congrArg some (by omega)
  · rw [if_neg h]
    exact privIndex_natStr cn

theorem flatten_childToPath (is : List Nat) :
    ['m'] ++ (is.map childToPath).flatten = join '/' (['m'] :: is.map pathComponent) := by
  rw [join_cons, List.map_map]
  exact congrArg (fun f => ['m'] ++ (is.map f).flatten) (funext childToPath_eq)

/-- helper.parse_binary_path on the 4-byte little-endian encoding of a list of child numbers -/
theorem binPathLoop_encode : ∀ (is : List Nat), (∀ i ∈ is, i < 2 ^ 32) → ∀ (fuel : Nat) (acc : Str),
    ((is.map (natToLE' 4)).flatten).length < fuel →
    binPathLoop fuel ((is.map (natToLE' 4)).flatten) acc = acc ++ (is.map childToPath).flatten
  | [], _, fuel, acc, hf => by
    cases fuel with
    | zero => simp at hf
    | succ f => simp [binPathLoop]
  | i :: is, h, fuel, acc, hf => by
    cases fuel with
    | zero => simp at hf
    | succ f =>
      have hi : i < 256 ^ 4 := by
        have := h i (by simp)
        have e : (256 : Nat) ^ 4 = 2 ^ 32 := by decide
        omega
      simp only [List.map_cons, List.flatten_cons] at hf ⊢
      unfold binPathLoop
      have hne : ¬ ((natToLE' 4 i ++ (is.map (natToLE' 4)).flatten).length = 0) := by simp
      rw [if_neg hne]
      simp only [Gen.binPathDrop, Gen.binPathTake]
      rw [List.take_left' (natToLE'_length 4 i), List.drop_left' (natToLE'_length 4 i),
        leToNat_natToLE'_of_lt hi,
        binPathLoop_encode is (fun x hx => h x (by simp [hx])) f _
          (by rw [List.length_append, natToLE'_length] at hf; omega)]
      simp

end Buidl.HD
