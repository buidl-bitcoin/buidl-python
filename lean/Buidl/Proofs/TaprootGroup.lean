/-
  Buidl.Proofs.TaprootGroup — `GroupLaw` holds: the seven facts about `smul` / `sadd` on `⟨G⟩`
  consumed by C12 / C13, from the secp256k1 development of C03 (Buidl.Proofs.Secp256k1,
  Buidl.Proofs.SecpCodec: the model's point addition is Mathlib's group law on the Weierstrass
  curve over ZMod P, P and N prime, N·G = ∞, parity of negation, square roots for P ≡ 3 mod 4).
-/
import Buidl.Proofs.TaprootRel
import Buidl.Proofs.SecpCodec

namespace Buidl.Taproot
open Buidl Buidl.EC

theorem groupLaw : GroupLaw where
  add := fun a b => smul_add G_tors a b
  mul := fun a b => smul_smul G_tors a b
  inj := fun _ _ h => smul_G_inj h
  neg_parity := fun a h => smul_neg G_tors a ▸ parity_pneg (smul_valid G_valid a) h
  neg_xonly := fun a => smul_neg G_tors a ▸ xonly_pneg _
  xonly_inj := fun a b ha hb h =>
    smul_neg G_tors b ▸ xonly_inj (smul_valid G_valid a) (smul_valid G_valid b) ha hb h
  lift_x := fun a h => parseXonly_xonly_tors (smul_tors G_tors a) h

end Buidl.Taproot
