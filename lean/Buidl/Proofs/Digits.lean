/-
  Fixed-width big-endian digit strings in a base `B`: `digitsBE B n N` writes the `n` low digits of `N`, most
  significant first; `ofDigitsBE B acc l` reads digits on top of `acc`.  The two are inverse on strings of bounded
  digits, so such a string is determined by its length and value.  The word indices of mnemonics (base 2048 and
  1024), the checksum symbols of bech32 (base 32) and `Bech32.valBE` are instances.  Lean core only.
-/
namespace Buidl.Digits

def digitsBE (B : Nat) : Nat → Nat → List Nat
  | 0, _ => []
  | n + 1, N => digitsBE B n (N / B) ++ [N % B]

def ofDigitsBE (B acc : Nat) (l : List Nat) : Nat := l.foldl (fun n d => n * B + d) acc

variable {B : Nat}

@[simp] theorem digitsBE_length (n N : Nat) : (digitsBE B n N).length = n := by
  induction n generalizing N with
  | zero => rfl
  | succ n ih => simp [digitsBE, ih]

theorem digitsBE_lt (hB : 0 < B) (n N : Nat) : ∀ d ∈ digitsBE B n N, d < B := by
  induction n generalizing N with
  | zero => simp [digitsBE]
  | succ n ih =>
    intro d hd
    simp only [digitsBE, List.mem_append, List.mem_singleton] at hd
    cases hd with
    | inl h => exact ih _ d h
    | inr h => subst h; exact Nat.mod_lt _ hB

theorem digitsBE_add (m : Nat) : ∀ (n N : Nat),
    digitsBE B (m + n) N = digitsBE B m (N / B ^ n) ++ digitsBE B n N := by
  intro n
  induction n with
  | zero => intro N; simp [digitsBE]
  | succ n ih =>
    intro N
    rw [← Nat.add_assoc, digitsBE, ih, digitsBE, List.append_assoc, Nat.div_div_eq_div_mul, ← Nat.pow_succ']

/-- the shape a `d :: rest` recursion meets: the most significant digit split off first -/
theorem digitsBE_succ (n N : Nat) : digitsBE B (n + 1) N = (N / B ^ n % B) :: digitsBE B n N := by
  rw [Nat.add_comm, digitsBE_add 1 n]
  simp [digitsBE]

theorem digitsBE_getElem (n N i : Nat) (hi : i < n) :
    (digitsBE B n N)[i]? = some (N / B ^ (n - 1 - i) % B) := by
  induction n generalizing i with
  | zero => omega
  | succ n ih =>
    rw [digitsBE_succ]
    cases i with
    | zero => simp
    | succ i =>
      rw [List.getElem?_cons_succ, ih i (by omega)]
      congr 4
      omega

theorem ofDigitsBE_append (acc : Nat) (a b : List Nat) :
    ofDigitsBE B acc (a ++ b) = ofDigitsBE B (ofDigitsBE B acc a) b := List.foldl_append

theorem ofDigitsBE_snoc (acc : Nat) (l : List Nat) (d : Nat) :
    ofDigitsBE B acc (l ++ [d]) = ofDigitsBE B acc l * B + d := ofDigitsBE_append acc l [d]

theorem ofDigitsBE_cons (acc d : Nat) (l : List Nat) :
    ofDigitsBE B acc (d :: l) = ofDigitsBE B (acc * B + d) l := rfl

theorem ofDigitsBE_acc (acc : Nat) (l : List Nat) :
    ofDigitsBE B acc l = acc * B ^ l.length + ofDigitsBE B 0 l := by
  induction l generalizing acc with
  | nil => simp [ofDigitsBE]
  | cons d l ih =>
    rw [ofDigitsBE_cons, ofDigitsBE_cons, ih, ih (0 * B + d), List.length_cons, Nat.pow_succ', Nat.add_mul,
      Nat.zero_mul, Nat.zero_add, Nat.mul_assoc, Nat.add_assoc]

theorem ofDigitsBE_digitsBE (n N : Nat) : ofDigitsBE B 0 (digitsBE B n N) = N % B ^ n := by
  induction n generalizing N with
  | zero => rw [Nat.pow_zero, Nat.mod_one]; rfl
  | succ n ih => rw [digitsBE, ofDigitsBE_snoc, ih, Nat.pow_succ', Nat.mod_mul, Nat.mul_comm, Nat.add_comm]

theorem ofDigitsBE_lt (l : List Nat) (hl : ∀ d ∈ l, d < B) : ofDigitsBE B 0 l < B ^ l.length := by
  induction l with
  | nil => exact Nat.one_pos
  | cons d r ih =>
    obtain ⟨hd, hr⟩ := List.forall_mem_cons.mp hl
    rw [ofDigitsBE_cons, ofDigitsBE_acc, Nat.zero_mul, Nat.zero_add, List.length_cons, Nat.pow_succ']
    exact Nat.lt_of_lt_of_le (Nat.add_lt_add_left (ih hr) _) (Nat.succ_mul .. ▸ Nat.mul_le_mul_right _ hd)

theorem digitsBE_ofDigitsBE (l : List Nat) (hl : ∀ d ∈ l, d < B) (acc : Nat) :
    digitsBE B l.length (ofDigitsBE B acc l) = l := by
  induction l generalizing acc with
  | nil => rfl
  | cons d l ih =>
    obtain ⟨hd, hr⟩ := List.forall_mem_cons.mp hl
    rw [List.length_cons, digitsBE_succ, ofDigitsBE_cons, ih hr, ofDigitsBE_acc, Nat.mul_comm,
      Nat.mul_add_div (Nat.pow_pos (Nat.zero_lt_of_lt hd)), Nat.div_eq_of_lt (ofDigitsBE_lt l hr), Nat.add_zero,
      Nat.mul_add_mod_of_lt hd]

theorem ofDigitsBE_inj (l1 l2 : List Nat) (hlen : l1.length = l2.length)
    (h1 : ∀ d ∈ l1, d < B) (h2 : ∀ d ∈ l2, d < B) (acc : Nat)
    (hv : ofDigitsBE B acc l1 = ofDigitsBE B acc l2) : l1 = l2 := by
  rw [← digitsBE_ofDigitsBE l1 h1 acc, ← digitsBE_ofDigitsBE l2 h2 acc, hlen, hv]

theorem digitsBE_inj {n N N' : Nat} (h : N < B ^ n) (h' : N' < B ^ n) (e : digitsBE B n N = digitsBE B n N') :
    N = N' := by
  have e' := congrArg (ofDigitsBE B 0) e
  rwa [ofDigitsBE_digitsBE, ofDigitsBE_digitsBE, Nat.mod_eq_of_lt h, Nat.mod_eq_of_lt h'] at e'

theorem foldl_shl_or (k : Nat) (l : List Nat) (hl : ∀ d ∈ l, d < 2 ^ k) (acc : Nat) :
    l.foldl (fun v d => (v <<< k) ||| d) acc = ofDigitsBE (2 ^ k) acc l := by
  induction l generalizing acc with
  | nil => rfl
  | cons d l ih =>
    obtain ⟨hd, hr⟩ := List.forall_mem_cons.mp hl
    rw [List.foldl_cons, ofDigitsBE_cons, ← Nat.shiftLeft_add_eq_or_of_lt hd, Nat.shiftLeft_eq, ih hr]

end Buidl.Digits
