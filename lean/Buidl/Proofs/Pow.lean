/-
  Buidl.Proofs.Pow — compact targets, retargeting and proof-of-work of buidl/helper.py and
  buidl/block.py against arith_uint256::SetCompact / GetCompact, CalculateNextWorkRequired and
  CheckProofOfWork (C17).
-/
import Buidl.Model.Merkle
import Buidl.Spec.Merkle
import Buidl.Proofs.Bytes
namespace Buidl.Merkle
open Buidl Buidl.Wire Spec.Merkle

/-! ### bits_to_target and SetCompact -/

theorem bits4 {bits : Bytes} (h4 : bits.length = 4) : ∃ a b c e, bits = [a, b, c, e] := by
  rcases bits with _ | ⟨a, _ | ⟨b, _ | ⟨c, _ | ⟨e, _ | ⟨x, r⟩⟩⟩⟩⟩ <;> simp at h4
  exact ⟨a, b, c, e, rfl⟩

theorem leToNat4 (a b c e : UInt8) :
    leToNat [a, b, c, e] % 2 ^ 24 = leToNat [a, b, c] ∧ leToNat [a, b, c, e] / 2 ^ 24 = e.toNat := by
  have hlt := leToNat_lt [a, b, c]
  have e24 : (256 : Nat) ^ [a, b, c].length = 2 ^ 24 := (by decide : (256 : Nat) ^ 3 = 2 ^ 24)
  rw [e24] at hlt
  rw [show [a, b, c, e] = [a, b, c] ++ [e] from rfl, leToNat_append, e24, Nat.add_mul_mod_self_left,
    Nat.mod_eq_of_lt hlt, Nat.add_mul_div_left _ _ (by decide), Nat.div_eq_of_lt hlt, Nat.zero_add]
  exact ⟨rfl, Nat.add_zero _⟩

/-- what the code computes in general for exponent ≥ 3: the 24-bit mantissa INCLUDING the sign bit, times
    256^(e-3), never truncated -/
theorem bitsToTarget_general (bits : Bytes) (h4 : bits.length = 4) (hexp : 3 ≤ leToNat bits / 2 ^ 24) :
    bitsToTarget bits = some (.int ((leToNat bits % 2 ^ 24) * 256 ^ (leToNat bits / 2 ^ 24 - 3))) := by
  obtain ⟨a, b, c, e, rfl⟩ := bits4 h4
  obtain ⟨h1, h2⟩ := leToNat4 a b c e
  rw [h2] at hexp
  rw [h1, h2]
  simp [bitsToTarget, hexp]

theorem two_pow_8_mul (k : Nat) : 2 ^ (8 * k) = 256 ^ k := by
  rw [Nat.pow_mul]

theorem mul_two_pow_lt {w k s : Nat} (hw : w < 2 ^ k) (hs : k + s ≤ 256) : w * 2 ^ s < 2 ^ 256 :=
  calc w * 2 ^ s < 2 ^ k * 2 ^ s := Nat.mul_lt_mul_of_pos_right hw (Nat.two_pow_pos _)
    _ = 2 ^ (k + s) := (Nat.pow_add _ _ _).symm
    _ ≤ 2 ^ 256 := Nat.pow_le_pow_right (by decide) hs

/-- SetCompact's overflow test is exactly what keeps `nWord · 256^(nSize-3)` below 2^256: a 23-, 16- or 8-bit
    mantissa may be shifted by at most 29, 30 or 31 bytes -/
theorem setCompact_fits {w e : Nat} (hw : w < 2 ^ 23)
    (h : ¬ (e > 34 ∨ (w > 0xff ∧ e > 33) ∨ (w > 0xffff ∧ e > 32))) : w * 2 ^ (8 * (e - 3)) < 2 ^ 256 := by
  by_cases c1 : e ≤ 32
  · exact mul_two_pow_lt hw (by omega)
  · by_cases c2 : e ≤ 33
    · exact mul_two_pow_lt (k := 16) (by omega) (by omega)
    · exact mul_two_pow_lt (k := 8) (by omega) (by omega)

theorem setCompact_value_of_ok (n : Nat) (hexp : 3 ≤ n / 2 ^ 24) (hsign : (n / 2 ^ 23) % 2 = 0)
    (hov : (setCompact n).overflow = false) :
    (setCompact n).value = (n % 2 ^ 24) * 256 ^ (n / 2 ^ 24 - 3) ∧ (setCompact n).negative = false := by
  have h24 : n % 2 ^ 24 = n % 2 ^ 23 := by
    rw [show 2 ^ 24 = 2 ^ 23 * 2 from rfl, Nat.mod_mul, hsign, Nat.mul_zero, Nat.add_zero]
  have hw : n % 2 ^ 24 % 2 ^ 23 = n % 2 ^ 24 := by rw [h24, Nat.mod_mod]
  have hwlt : n % 2 ^ 24 < 2 ^ 23 := by rw [h24]; exact Nat.mod_lt _ (Nat.two_pow_pos 23)
  refine ⟨?_, by simp [setCompact, hsign]⟩
  simp only [setCompact, hw, decide_eq_false_iff_not, not_and] at hov ⊢
  by_cases h3 : n / 2 ^ 24 ≤ 3
  · rw [if_pos h3, show n / 2 ^ 24 = 3 by omega, Nat.sub_self, Nat.mul_zero, Nat.pow_zero, Nat.div_one, Nat.mul_one]
  · rw [if_neg h3, ← two_pow_8_mul]
    apply Nat.mod_eq_of_lt
    by_cases h0 : n % 2 ^ 24 = 0
    · rw [h0, Nat.zero_mul]; exact Nat.two_pow_pos _
    · exact setCompact_fits hwlt (hov h0)

/-! ### byteLen and GetCompact -/

theorem byteLen_zero : byteLen 0 = 0 := by rw [byteLen]

theorem byteLen_succ (n : Nat) : byteLen (n + 1) = byteLen ((n + 1) / 256) + 1 := by rw [byteLen]

theorem byteLen_le_iff (n t : Nat) : byteLen t ≤ n ↔ t < 256 ^ n := by
  induction n generalizing t with
  | zero =>
    cases t with
    | zero => simp [byteLen_zero]
    | succ k => rw [byteLen_succ]; simp
  | succ n ih =>
    cases t with
    | zero => simp [byteLen_zero, Nat.pow_pos]
    | succ k =>
      rw [byteLen_succ, Nat.add_le_add_iff_right, ih, Nat.pow_succ, Nat.div_lt_iff_lt_mul (by decide)]

theorem byteLen_eq {n t : Nat} (hlo : 256 ^ (n - 1) ≤ t) (hhi : t < 256 ^ n) : byteLen t = n := by
  have h1 := (byteLen_le_iff n t).mpr hhi
  have h2 : ¬ byteLen t ≤ n - 1 := fun h => by
    have := (byteLen_le_iff (n - 1) t).mp h; omega
  omega

theorem lt_pow_byteLen (t : Nat) : t < 256 ^ byteLen t := (byteLen_le_iff _ t).mp (Nat.le_refl _)

theorem lead3_lt {t k : Nat} (hb : byteLen t = k + 3) : t / 256 ^ k < 2 ^ 24 := by
  have hhi := lt_pow_byteLen t
  rw [hb, Nat.add_comm, Nat.pow_add] at hhi
  exact (Nat.div_lt_iff_lt_mul (Nat.pow_pos (by decide))).mpr hhi

theorem exists_bytes3 {A : Nat} (h : A < 2 ^ 24) :
    ∃ x y z : UInt8, natToBE' 3 A = [x, y, z] ∧ A = (x.toNat * 256 + y.toNat) * 256 + z.toNat := by
  have hl := natToBE'_length 3 A
  have hv := beToNat_natToBE' (w := 3) h
  match natToBE' 3 A, hl, hv with
  | [x, y, z], _, hv => exact ⟨x, y, z, rfl, by simpa [beToNat, beToNatAux] using hv.symm⟩

/-- GetCompact of a number of `k + 3` bytes in terms of its three leading bytes `t / 256 ^ k` -/
theorem getCompact_of_byteLen {t k : Nat} (hb : byteLen t = k + 3) :
    getCompact t =
      if 2 ^ 23 ≤ t / 256 ^ k then t / 256 ^ k / 256 + (k + 3 + 1) * 2 ^ 24 else t / 256 ^ k + (k + 3) * 2 ^ 24 := by
  have hA := lead3_lt hb
  have h0 : (if k + 3 ≤ 3 then t * 2 ^ (8 * (3 - (k + 3))) else t / 2 ^ (8 * (k + 3 - 3))) = t / 256 ^ k := by
    cases k with
    | zero => simp
    | succ k => rw [if_neg (by omega), two_pow_8_mul, Nat.add_sub_cancel]
  unfold getCompact
  simp only [hb, h0]
  generalize t / 256 ^ k = A at hA ⊢
  simp only [Nat.reducePow] at hA ⊢
  by_cases hbit : 8388608 ≤ A
  · rw [if_pos (show A / 8388608 % 2 = 1 by omega), if_pos hbit]
  · rw [if_neg (show ¬ A / 8388608 % 2 = 1 by omega), if_neg hbit]

/-! ### bytes.lstrip(b"\x00") -/

theorem lstripZeros_natToBE' {w t : Nat} (h : t < 256 ^ w) : lstripZeros (natToBE' w t) = natToBE' (byteLen t) t := by
  induction w with
  | zero => rw [show t = 0 by omega, byteLen_zero]; rfl
  | succ w ih =>
    rw [natToBE'_add w 1]
    by_cases hw : t < 256 ^ w
    · rw [Nat.div_eq_of_lt hw, ← ih hw]; rfl
    · have hb : byteLen t = w + 1 := byteLen_eq (Nat.le_of_not_lt hw) h
      have hq1 : 0 < t / 256 ^ w := Nat.div_pos (Nat.le_of_not_lt hw) (Nat.pow_pos (by decide))
      have hq2 : t / 256 ^ w < 256 := (Nat.div_lt_iff_lt_mul (Nat.pow_pos (by decide))).mpr (Nat.pow_succ' ▸ h)
      have h0 : UInt8.ofNat (t / 256 ^ w % 256) ≠ 0 := fun e => by
        have := congrArg UInt8.toNat e
        rw [u8_ofNat_toNat] at this
        change _ = 0 at this
        omega
      rw [hb, natToBE'_add w 1]
      exact List.dropWhile_cons_of_neg (by simpa [natToLE'] using h0)

/-! ### calculate_new_bits -/

/-- a clamp written as two successive tests, upper bound first (the code) … -/
theorem clamp_hi_lo {lo hi : Int} (h : lo ≤ hi) (td : Int) :
    (if (if td > hi then hi else td) < lo then lo else (if td > hi then hi else td)) = max lo (min td hi) := by
  by_cases h1 : td > hi
  · rw [if_pos h1, if_neg (Int.not_lt.mpr h), Int.min_eq_right (Int.le_of_lt h1), Int.max_eq_right h]
  · rw [if_neg h1, Int.min_eq_left (Int.not_lt.mp h1)]
    by_cases h2 : td < lo
    · rw [if_pos h2, Int.max_eq_left (Int.le_of_lt h2)]
    · rw [if_neg h2, Int.max_eq_right (Int.not_lt.mp h2)]

/-- … or lower bound first (Core) -/
theorem clamp_lo_hi {lo hi : Int} (h : lo ≤ hi) (td : Int) :
    (if (if td < lo then lo else td) > hi then hi else (if td < lo then lo else td)) = max lo (min td hi) := by
  by_cases h1 : td < lo
  · rw [if_pos h1, if_neg (Int.not_lt.mpr h), Int.max_eq_left (Int.le_trans (Int.min_le_left _ _) (Int.le_of_lt h1))]
  · rw [if_neg h1]
    by_cases h2 : td > hi
    · rw [if_pos h2, Int.min_eq_right (Int.le_of_lt h2), Int.max_eq_right h]
    · rw [if_neg h2, Int.min_eq_left (Int.not_lt.mp h2), Int.max_eq_right (Int.not_lt.mp h1)]

theorem cap_eq_min (q M : Nat) : (if q > M then M else q) = min q M := by
  split <;> omega

theorem cap_natCast (q M : Nat) : (if (q : Int) > (M : Int) then (M : Int) else (q : Int)) = ((min q M : Nat) : Int) := by
  split <;> omega

theorem calculateNewBits_eq (bits : Bytes) (td : Int) :
    calculateNewBits bits td = (match bitsToTarget bits with
      | none => none
      | some (.frac _ _) => none
      | some (.int t) =>
        let nt : Int := ((t : Int) * max 302400 (min td 4838400)) / (Gen.retargetDivisor : Int)
        let nt : Int := if nt > (Gen.retargetCapCmp : Int) then (Gen.retargetCapSet : Int) else nt
        if nt < 0 then none else targetToBits nt.toNat) := by
  rw [← clamp_hi_lo (lo := 302400) (hi := 4838400) (by decide) td]
  unfold calculateNewBits
  cases bitsToTarget bits with
  | none => rfl
  | some t => cases t <;> rfl

/-- calculate_new_bits on an integer target, in natural numbers: the clamp is positive, so nothing is negative -/
theorem calculateNewBits_int {bits : Bytes} {t : Nat} (h : bitsToTarget bits = some (.int t)) (td : Int) :
    calculateNewBits bits td =
      targetToBits (min (t * (max 302400 (min td 4838400)).toNat / 1209600) Gen.maxTarget) := by
  obtain ⟨c, hc⟩ : ∃ c : Nat, max 302400 (min td 4838400) = (c : Int) := ⟨_, (Int.toNat_of_nonneg (by omega)).symm⟩
  rw [calculateNewBits_eq, h, hc]
  simp only [Gen.retargetDivisor, Gen.retargetCapCmp, Gen.retargetCapSet]
  rw [← Int.natCast_mul, ← Int.natCast_ediv, cap_natCast, if_neg (Int.not_lt.mpr (Int.natCast_nonneg _)),
    Int.toNat_natCast, Int.toNat_natCast]

theorem nextWorkRequired_eq (nBits : Nat) (td : Int) (lim : Nat) :
    nextWorkRequired nBits td lim =
      getCompact (min ((setCompact nBits).value * (max 302400 (min td 4838400)).toNat % 2 ^ 256 / 1209600) lim) := by
  have e1 : (14 * 24 * 60 * 60 : Int) / 4 = 302400 := by decide
  have e2 : (14 * 24 * 60 * 60 : Int) * 4 = 4838400 := by decide
  have e3 : (14 * 24 * 60 * 60 : Int).toNat = 1209600 := by decide
  simp only [nextWorkRequired, e1, e2, e3]
  rw [clamp_lo_hi (by decide), cap_eq_min]

theorem retarget_clamp (bits : Bytes) (td : Int) :
    calculateNewBits bits td = calculateNewBits bits (max 302400 (min td 4838400)) := by
  rw [calculateNewBits_eq, calculateNewBits_eq,
    show max 302400 (min (max 302400 (min td 4838400)) 4838400) = max 302400 (min td 4838400) by omega]

theorem powLimitMainnet_eq : powLimitMainnet = Gen.maxTarget := by decide

/-- every target from buidl's MAX_TARGET = 0xFFFF·2^208 up to 2^224 - 1 has the compact form 0x1d00ffff: its 28
    bytes start with ff ff -/
theorem getCompact_top {m : Nat} (h1 : powLimitMainnet ≤ m) (h2 : m < 2 ^ 224) : getCompact m = 0x1d00ffff := by
  have hb : byteLen m = 25 + 3 := byteLen_eq
    (Nat.le_trans (by decide : 256 ^ (28 - 1) ≤ powLimitMainnet) h1) (Nat.lt_of_lt_of_le h2 (by decide : 2 ^ 224 ≤ 256 ^ 28))
  have hA1 : 0xFFFF00 ≤ m / 256 ^ 25 :=
    (Nat.le_div_iff_mul_le (by decide)).mpr (Nat.le_trans (by decide : 0xFFFF00 * 256 ^ 25 ≤ powLimitMainnet) h1)
  have hA2 := lead3_lt hb
  rw [getCompact_of_byteLen hb]
  generalize m / 256 ^ 25 = A at hA1 hA2
  rw [if_pos (by omega)]
  omega

/-! ### check_pow -/

theorem powCompare_int (proof t : Nat) : powCompare proof (.int t) = decide (proof < t) := by
  simp [powCompare, cmpOp, Gen.checkPowOp]

/-- check_pow: the code tests `proof < target` -/
theorem checkPow_eq (hash256 : Bytes → Bytes) (h : Header) (s : Bytes) (hs : h.serialize = some s)
    (h4 : h.bits.length = 4) (hexp : 3 ≤ leToNat h.bits / 2 ^ 24) :
    checkPow hash256 h = some (decide (leToNat (hash256 s) <
      (leToNat h.bits % 2 ^ 24) * 256 ^ (leToNat h.bits / 2 ^ 24 - 3))) := by
  unfold checkPow
  rw [hs, bitsToTarget_general _ h4 hexp]
  simp only [Option.bind_eq_bind, Option.bind_some, powCompare_int]
  rfl

/-! ### HeadersMessage.is_valid -/

theorem header_hash_of_serialize (hash256 : Bytes → Bytes) {h : Header} {s : Bytes} (hs : h.serialize = some s) :
    h.hash hash256 = some (hash256 s).reverse := by
  rw [Header.hash, hs]; rfl

theorem checkPow_some_hash (hash256 : Bytes → Bytes) (h : Header) (b : Bool) (hc : checkPow hash256 h = some b) :
    ∃ s, h.serialize = some s ∧ h.hash hash256 = some (hash256 s).reverse := by
  unfold checkPow at hc
  cases hs : h.serialize with
  | none => rw [hs] at hc; simp at hc
  | some s => exact ⟨s, rfl, header_hash_of_serialize hash256 hs⟩

/-- one header of the fold: it passes check_pow, links to the previous hash (`if last_block and h.prev_block != last_block:
    return False` — an empty `last_block` is skipped like `None`), and the rest is valid from its hash -/
theorem headersValidFrom_cons_iff (hash256 : Bytes → Bytes) (last : Option Bytes) (h : Header) (hs : List Header) :
    headersValidFrom hash256 last (h :: hs) = some true ↔
      checkPow hash256 h = some true ∧ (∀ l, last = some l → l ≠ [] → h.prevBlock = l) ∧
        ∃ s, h.serialize = some s ∧ headersValidFrom hash256 (some (hash256 s).reverse) hs = some true := by
  cases hc : checkPow hash256 h with
  | none => simp [headersValidFrom, hc]
  | some ok =>
    cases ok with
    | false => simp [headersValidFrom, hc]
    | true =>
      obtain ⟨s, hser, hhash⟩ := checkPow_some_hash hash256 h true hc
      cases last with
      | none => simp [headersValidFrom, hc, hhash, hser]
      | some l => by_cases hl : l = [] <;> by_cases hp : h.prevBlock = l <;> simp [headersValidFrom, hc, hhash, hser, hl, hp]

theorem adjacent_cons {α : Type} (R : α → α → Prop) (x : α) (l : List α) :
    (∀ i a b, (x :: l)[i]? = some a → (x :: l)[i + 1]? = some b → R a b) ↔
      (∀ b, l[0]? = some b → R x b) ∧ (∀ i a b, l[i]? = some a → l[i + 1]? = some b → R a b) := by
  constructor
  · intro h
    exact ⟨fun b hb => h 0 x b rfl hb, fun i a b ha hb => h (i + 1) a b ha hb⟩
  · rintro ⟨h0, h1⟩ i a b ha hb
    cases i with
    | zero => cases ha; exact h0 b hb
    | succ i => exact h1 i a b ha hb

theorem headersValidFrom_iff (hash256 : Bytes → Bytes) (hne : ∀ b, hash256 b ≠ []) (hs : List Header) :
    ∀ last : Option Bytes, headersValidFrom hash256 last hs = some true ↔
      (∀ h ∈ hs, checkPow hash256 h = some true) ∧
      (∀ l b, last = some l → l ≠ [] → hs[0]? = some b → b.prevBlock = l) ∧
      (∀ i, ∀ a b, hs[i]? = some a → hs[i+1]? = some b → some b.prevBlock = a.hash hash256) := by
  induction hs with
  | nil => intro last; simp [headersValidFrom]
  | cons h hs ih =>
    intro last
    rw [headersValidFrom_cons_iff, List.forall_mem_cons, adjacent_cons]
    constructor
    · rintro ⟨hc, hl, s, hser, hrest⟩
      obtain ⟨a1, a2, a3⟩ := (ih _).mp hrest
      have hhash := header_hash_of_serialize hash256 hser
      refine ⟨⟨hc, a1⟩, fun l b hlast hlne hb => ?_, fun b hb => ?_, a3⟩
      · cases hb; exact hl l hlast hlne
      · rw [hhash, a2 _ b rfl (by simpa using hne s) hb]
    · rintro ⟨⟨hc, a1⟩, a2, a3, a4⟩
      obtain ⟨s, hser, hhash⟩ := checkPow_some_hash hash256 h true hc
      refine ⟨hc, fun l hlast hlne => a2 l h hlast hlne rfl, s, hser, (ih _).mpr ⟨a1, fun l b hl _ hb => ?_, a4⟩⟩
      cases hl
      exact Option.some.inj ((a3 b hb).trans hhash)

/-! ### the known findings -/

/-- F17c: exponent < 3 yields a float (Core shifts the mantissa right instead), and the sign bit is taken as
    magnitude (Core: negative, magnitude without bit 23).  A mantissa of exactly 0x800000 is *not* negative
    for Core (nWord = 0), its value is 0. -/
theorem F17c_witness :
    bitsToTarget [0x12, 0x34, 0x56, 0x02] = some (.frac 0x563412 1) ∧ (setCompact 0x02563412).value = 0x5634 ∧
    bitsToTarget [0x00, 0x00, 0x80, 0x03] = some (.int 0x800000) ∧
      (setCompact 0x03800000).negative = false ∧ (setCompact 0x03800000).value = 0 ∧
    bitsToTarget [0x01, 0x00, 0x80, 0x03] = some (.int 0x800001) ∧
      (setCompact 0x03800001).negative = true ∧ (setCompact 0x03800001).value = 1 := by
  decide

/-- F17d: a target below 2^16 gives fewer than 4 bytes; 0 raises -/
theorem F17d_witness :
    targetToBits 0x1234 = some [0x34, 0x12, 0x02] ∧ getCompact 0x1234 = 0x02123400 ∧
    targetToBits 0 = none ∧ getCompact 0 = 0 := by
  have h2 : byteLen 0x1234 = 2 := byteLen_eq (n := 2) (by decide) (by decide)
  refine ⟨by decide +kernel, ?_, by decide +kernel, ?_⟩
  · unfold getCompact; rw [h2]; decide
  · unfold getCompact; rw [byteLen_zero]; decide

def f17eHeader (bits : Bytes) : Header :=
  ⟨1, List.replicate 32 0, List.replicate 32 0, 0, bits, List.replicate 4 0⟩

/-- F17e: (a) with a hash equal to the target, consensus accepts and check_pow refuses;
    (b) an overflowing target (exponent 34) is accepted by check_pow for every 32-byte hash while SetCompact
    reports overflow and CheckProofOfWork refuses every hash -/
theorem F17e_witness :
    (checkPow (fun _ => natToLE' 32 (0xffff * 256 ^ 26)) (f17eHeader [0xff, 0xff, 0x00, 0x1d]) = some false ∧
      leToNat [0xff, 0xff, 0x00, 0x1d] = 0x1d00ffff ∧
      checkProofOfWork (leToNat (natToLE' 32 (0xffff * 256 ^ 26))) 0x1d00ffff powLimitMainnet = true) ∧
    ((∀ hash256 : Bytes → Bytes, (∀ b, (hash256 b).length = 32) →
        checkPow hash256 (f17eHeader [0xff, 0xff, 0x7f, 0x22]) = some true) ∧
      leToNat [0xff, 0xff, 0x7f, 0x22] = 0x227fffff ∧
      (setCompact 0x227fffff).overflow = true ∧
      ∀ hash, checkProofOfWork hash 0x227fffff (2 ^ 256 - 1) = false) := by
  refine ⟨⟨by decide +kernel, by decide, by decide +kernel⟩, ?_, by decide, by decide, ?_⟩
  · intro hash256 hlen
    have hser : ∃ s, (f17eHeader [0xff, 0xff, 0x7f, 0x22]).serialize = some s :=
      Option.isSome_iff_exists.mp (by decide +kernel)
    obtain ⟨s, hs⟩ := hser
    rw [checkPow_eq hash256 _ s hs (by decide) (by decide)]
    have hlt := leToNat_lt (hash256 s)
    rw [hlen] at hlt
    have hbig : (256 : Nat) ^ 32 ≤ leToNat (f17eHeader [0xff, 0xff, 0x7f, 0x22]).bits % 2 ^ 24 *
        256 ^ (leToNat (f17eHeader [0xff, 0xff, 0x7f, 0x22]).bits / 2 ^ 24 - 3) := by decide +kernel
    congr 1
    rw [decide_eq_true_eq]
    omega
  · intro hash
    have hov : (setCompact 0x227fffff).overflow = true := by decide
    simp [checkProofOfWork, hov]

end Buidl.Merkle
