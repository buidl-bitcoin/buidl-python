/-
  The kernel computation behind two-word error detection: for g = 1 … 63 every non-trivial XOR combination of
  the images `L^g(2^j)`, j < 10, is ≥ 1024.  A combination is below 1024 iff its bits 10 and up vanish, so it is
  enough that the high parts of the ten images are linearly independent: the kernel runs one Gaussian
  elimination (`indepK`) per `g` instead of forming the 1023 combinations.
-/
import Buidl.Proofs.RS1024
namespace Buidl.Shamir
open Buidl

def allCombosBig (ws : List Nat) : Bool := (List.range 1024).all fun d => d == 0 || decide (1024 ≤ combo ws d)

def checkFrom : Nat → List Nat → Bool
  | 0, _ => true
  | n + 1, ws => allCombosBig (ws.map rsL) && checkFrom n (ws.map rsL)

theorem allCombosBig_iff (ws : List Nat) :
    allCombosBig ws = true ↔ ∀ d, d < 1024 → d ≠ 0 → 1024 ≤ combo ws d := by
  simp only [allCombosBig, List.all_eq_true, List.mem_range, Bool.or_eq_true, beq_iff_eq, decide_eq_true_eq]
  exact forall₂_congr fun d _ => Decidable.or_iff_not_imp_left

theorem allCombosBig_of_indep (ws : List Nat) (h : indepK 10 (ws.map hi) = true) : allCombosBig ws = true :=
  (allCombosBig_iff ws).mpr fun _ hd hd0 => Nat.le_of_not_lt fun hlt =>
    hd0 (combo_lt_1024 (indepK_sound 10 _ h) hd hlt)

def indepFrom : Nat → List Nat → Bool
  | 0, _ => true
  | n + 1, ws => indepK 10 ((ws.map rsL).map hi) && indepFrom n (ws.map rsL)

theorem checkFrom_of_indepFrom : ∀ (n : Nat) (ws : List Nat), indepFrom n ws = true → checkFrom n ws = true
  | 0, _, _ => rfl
  | n + 1, ws, h => by
    rw [indepFrom, Bool.and_eq_true] at h
    rw [checkFrom, allCombosBig_of_indep _ h.1, checkFrom_of_indepFrom n _ h.2]
    rfl

theorem two_check : checkFrom 63 (basisAt 0) = true := checkFrom_of_indepFrom 63 _ (by decide +kernel)

end Buidl.Shamir
