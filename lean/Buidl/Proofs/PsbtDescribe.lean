/-
  PSBT.describe_basic_multisig (Buidl.Model.PsbtDescribe) taken apart for Props/C11: `describe` into its
  stages, the two loops with their invariants (accumulator generalised), what a successful
  `checkNamedPubs`, `changeOK`, `get_quorum`, `plainMultisigOf` say and what `validateOut` ties a multisig
  output script to; then `Described`: what a summary certifies about its PSBT, per input (`InStepOK`), per
  output (`OutStepOK`) and as figures — proved once (`describe_described`), with `describe_eq_none` the form a
  refusal takes.  The toy instance at the end serves the examples and defect witnesses of Props/C11.
-/
import Buidl.Model.PsbtDescribe
import Buidl.Proofs.PsbtValidate
namespace Buidl.Psbt
open Buidl Buidl.Script

/-! ### two list facts -/

theorem index_unique_of_filter_le_one {α} (q : α → Bool) (l : List α) (hl : (l.filter q).length ≤ 1)
    (i j : Nat) (a b : α) (hi : l[i]? = some a) (hj : l[j]? = some b) (ha : q a = true) (hb : q b = true) : i = j := by
  -- two hits at `i < j` are one in `l.take j` and one in `l.drop j`
  have key : ∀ (i j : Nat) (a b : α), l[i]? = some a → l[j]? = some b → q a = true → q b = true → ¬ i < j := by
    intro i j a b hi hj ha hb hlt
    rw [← List.take_append_drop j l, List.filter_append, List.length_append] at hl
    have h1 : 0 < ((l.take j).filter q).length :=
      List.length_pos_of_mem (List.mem_filter.mpr ⟨List.mem_of_getElem? (by rw [List.getElem?_take_of_lt hlt]; exact hi), ha⟩)
    have h2 : 0 < ((l.drop j).filter q).length :=
      List.length_pos_of_mem (List.mem_filter.mpr ⟨List.mem_of_getElem? (i := 0) (by rw [List.getElem?_drop]; exact hj), hb⟩)
    omega
  have := key i j a b hi hj ha hb
  have := key j i b a hj hi hb ha
  omega

theorem eraseDups_length_le {α} [BEq α] [LawfulBEq α] :
    ∀ (l : List α), l.eraseDups.length ≤ l.length ∧ (l.eraseDups.length = l.length → l.Nodup)
  | [] => by simp
  | a :: as => by
    rw [List.eraseDups_cons]
    have hf : (as.filter fun b => !b == a).length ≤ as.length := List.length_filter_le _ _
    obtain ⟨h1, h2⟩ := eraseDups_length_le (as.filter fun b => !b == a)
    refine ⟨by simp only [List.length_cons]; omega, ?_⟩
    intro heq
    simp only [List.length_cons] at heq
    have hfl : (as.filter fun b => !b == a).length = as.length := by omega
    have hall := List.length_filter_eq_length_iff.mp hfl
    have hfe : (as.filter fun b => !b == a) = as := List.filter_eq_self.mpr hall
    rw [hfe] at h2 heq
    refine List.nodup_cons.mpr ⟨?_, h2 (by omega)⟩
    intro hm
    have := hall a hm
    simp at this
termination_by l => l.length
decreasing_by exact Nat.lt_succ_of_le (List.length_filter_le _ _)

/-! ### `checkNamedPubs` -/

theorem checkNamedPubs_some {O : Oracles} {hmap : Dict Bytes} :
    ∀ {d : Dict Bytes} {xfps : List Bytes}, checkNamedPubs O hmap d = some xfps →
      xfps = d.map (fun e => e.2.take Gen.psbtFingerprintWidth) ∧
      ∀ sec rawPath, (sec, rawPath) ∈ d →
        ∃ body, dget hmap (rawPath.take Gen.psbtFingerprintWidth) = some body ∧
          deriveAt O body rawPath = some sec := by
  intro d
  induction d with
  | nil =>
    intro xfps h
    simp only [checkNamedPubs, Option.some.injEq] at h
    subst h
    exact ⟨rfl, fun _ _ hm => by cases hm⟩
  | cons e r ih =>
    obtain ⟨sec0, rp0⟩ := e
    intro xfps h
    rw [checkNamedPubs] at h
    simp only [Option.bind_eq_bind, Option.bind_eq_some_iff, req_eq_some_iff, exists_const, beq_iff_eq, Option.pure_def,
      Option.some.injEq] at h
    obtain ⟨body, hb, got, hd, rfl, rest, hr, rfl⟩ := h
    obtain ⟨hrest, hall⟩ := ih hr
    refine ⟨by rw [hrest]; rfl, fun sec rawPath hm => ?_⟩
    rcases List.mem_cons.mp hm with hm | hm
    · cases hm
      exact ⟨body, hb, hd⟩
    · exact hall sec rawPath hm

/-! ### the output loop -/

/-- the accumulator after one iteration of `_describe_basic_multisig_outputs` -/
def outNext (o : TxOutV) (p : POut) (acc : OutputsDescribed) : OutputsDescribed :=
  if p.namedPubs ≠ [] then
    { acc with total := acc.total + o.amount, changeSeen := true, changeSats := o.amount,
               descs := acc.descs ++ [{ sats := o.amount, isChange := true }] }
  else
    { acc with total := acc.total + o.amount, spends := acc.spends + 1, spendSats := acc.spendSats + o.amount,
               descs := acc.descs ++ [{ sats := o.amount, isChange := false }] }

theorem outNext_total (o : TxOutV) (p : POut) (acc : OutputsDescribed) :
    (outNext o p acc).total = acc.total + o.amount := by
  unfold outNext; split <;> rfl

theorem outNext_descs (o : TxOutV) (p : POut) (acc : OutputsDescribed) :
    (outNext o p acc).descs = acc.descs ++ [{ sats := o.amount, isChange := decide (p.namedPubs ≠ []) }] := by
  unfold outNext; split <;> simp_all

section OutsLoop
variable {cfg : DescribeCfg} {H : Hashes} {O : Oracles} {hmap : Dict Bytes} {em en : Int}

/-- what one output passed on the way to a successful `describeOutputsLoop` -/
structure OutStepOK (cfg : DescribeCfg) (H : Hashes) (O : Oracles) (hmap : Dict Bytes) (m n : Int)
    (o : TxOutV) (po : POut) : Prop where
  valid : validateOut H o.spk po = some ()
  addr : hasAddress o.spk = true
  change : po.namedPubs ≠ [] → changeOK cfg O hmap m n po = some ()

theorem outsLoop_cons_some {o : TxOutV} {tr : List TxOutV} {p : POut} {pr : List POut} {acc r : OutputsDescribed}
    (h : describeOutputsLoop cfg H O hmap em en (o :: tr) (p :: pr) acc = some r) :
    OutStepOK cfg H O hmap em en o p ∧ (p.namedPubs ≠ [] → acc.changeSeen = false) ∧
    describeOutputsLoop cfg H O hmap em en tr pr (outNext o p acc) = some r := by
  rw [describeOutputsLoop] at h
  simp only [Option.bind_eq_bind, Option.bind_eq_some_iff, req_eq_some_iff, exists_const] at h
  obtain ⟨_, hv, ha, h⟩ := h
  unfold outNext
  split at h
  next hn =>
    simp only [Option.bind_eq_some_iff, req_eq_some_iff, exists_const, Bool.not_eq_true'] at h
    obtain ⟨_, hc, hs, h⟩ := h
    rw [if_pos hn]
    exact ⟨⟨hv, ha, fun _ => hc⟩, fun _ => hs, h⟩
  next hn =>
    rw [if_neg hn]
    exact ⟨⟨hv, ha, fun h' => absurd h' hn⟩, fun h' => absurd h' hn, h⟩

structure OutInv (a : OutputsDescribed) : Prop where
  part : a.spendSats + a.changeSats = a.total
  one : (a.descs.filter (·.isChange)).length = if a.changeSeen then 1 else 0
  chg : a.changeSats = ((a.descs.filter (·.isChange)).map (·.sats)).sum
  spd : a.spendSats = ((a.descs.filter (fun d => !d.isChange)).map (·.sats)).sum
  cnt : a.spends = (a.descs.filter (fun d => !d.isChange)).length

theorem outInv_init : OutInv {} := ⟨rfl, rfl, rfl, rfl, rfl⟩

theorem outInv_next {o : TxOutV} {p : POut} {acc : OutputsDescribed} (hi : OutInv acc)
    (hc : p.namedPubs ≠ [] → acc.changeSeen = false) : OutInv (outNext o p acc) := by
  obtain ⟨h1, h2, h3, h4, h5⟩ := hi
  by_cases hn : p.namedPubs = []
  · simp only [outNext, hn, ne_eq, not_true_eq_false, if_false]
    refine ⟨by simp only; omega, ?_, ?_, ?_, ?_⟩
    · simp only [List.filter_append, List.length_append]
      rw [h2]; simp
    · simp only [List.filter_append, List.map_append, List.sum_append]
      rw [← h3]; simp
    · simp only [List.filter_append, List.map_append, List.sum_append]
      rw [h4]; simp
    · simp only [List.filter_append, List.length_append]
      rw [h5]; simp
  · -- the first change output: none among the descriptions so far, so the change amount so far is 0
    have hs := hc hn
    rw [hs] at h2
    have h0 : acc.descs.filter (·.isChange) = [] := List.eq_nil_of_length_eq_zero h2
    have hz : acc.changeSats = 0 := by rw [h3, h0]; rfl
    simp only [outNext, hn, ne_eq, not_false_eq_true, if_true]
    refine ⟨by simp only; omega, ?_, ?_, ?_, ?_⟩
    · simp [List.filter_append, h0]
    · simp [List.filter_append, h0]
    · simp only [List.filter_append, List.map_append, List.sum_append]
      rw [h4]; simp
    · simp only [List.filter_append, List.length_append]
      rw [h5]; simp

theorem outsLoop_spec :
    ∀ (pouts : List POut) (outs : List TxOutV) (acc r : OutputsDescribed),
      describeOutputsLoop cfg H O hmap em en outs pouts acc = some r →
      r.total = acc.total + ((outs.take pouts.length).map (·.amount)).sum ∧
      r.descs = acc.descs ++
        List.zipWith (fun o p => { sats := o.amount, isChange := decide (p.namedPubs ≠ []) }) outs pouts ∧
      (∀ (j : Nat) (o : TxOutV) (po : POut), outs[j]? = some o → pouts[j]? = some po →
        OutStepOK cfg H O hmap em en o po) ∧
      (OutInv acc → OutInv r) := by
  intro pouts
  induction pouts with
  | nil =>
    intro outs acc r h
    rw [describeOutputsLoop] at h
    cases h
    exact ⟨by simp, by simp, fun j o po _ hp => by simp at hp, fun hi => hi⟩
  | cons p pr ih =>
    intro outs acc r h
    cases outs with
    | nil => simp [describeOutputsLoop] at h
    | cons o tr =>
      obtain ⟨hok, hc, hrest⟩ := outsLoop_cons_some h
      obtain ⟨htot, hdescs, hidx, hinv⟩ := ih tr _ r hrest
      refine ⟨?_, ?_, List.forall_getElem?_cons₂.2 ⟨hok, hidx⟩, fun hi => hinv (outInv_next hi hc)⟩
      · rw [htot, outNext_total]
        simp [Nat.add_assoc]
      · rw [hdescs, outNext_descs]
        simp

end OutsLoop

/-! ### the input loop -/

/-- what one input passed on the way to a successful `describeInputsLoop` -/
structure InStepOK {Tx} (H : Hashes) (C : TxCodec Tx) (O : Oracles) (hmap : Dict Bytes)
    (txin : TxInV) (pin : PIn Tx) (rm rn : Option Int) : Prop where
  valid : validateIn H C txin pin = some ()
  notBoth : (pin.witnessScript.isSome && pin.redeem.isSome) = false
  nNamed : hmap.length = pin.namedPubs.length
  quorum : ∃ script m n raw, scriptQuorum pin.witnessScript pin.redeem = some (script, m, n) ∧
    rm = some m ∧ rn = some n ∧ rawOf script = some raw
  named : ∃ xfps, checkNamedPubs O hmap pin.namedPubs = some xfps
  value : ∃ sats, pin.value = some sats

theorem insLoop_cons_some {Tx} {H : Hashes} {C : TxCodec Tx} {O : Oracles} {hmap : Dict Bytes}
    {txin : TxInV} {tr : List TxInV} {p : PIn Tx} {pr : List (PIn Tx)} {acc r : InputsDescribed}
    (h : describeInputsLoop H C O hmap (txin :: tr) (p :: pr) acc = some r) :
    ∃ (m n : Int) (xfps : List Bytes) (sats : Nat), InStepOK H C O hmap txin p (some m) (some n) ∧
      (∀ m0, acc.m = some m0 → m0 = m) ∧ (∀ n0, acc.n = some n0 → n0 = n) ∧
      (acc.n = none → n = (hmap.length : Int)) ∧ p.value = some sats ∧
      describeInputsLoop H C O hmap tr pr
        { m := some m, n := some n, descs := acc.descs ++ [{ m := m, n := n, sats := sats }],
          rootPaths := acc.rootPaths ++ (xfps.zip (p.namedPubs.map (·.2))), total := acc.total + sats } = some r := by
  rw [describeInputsLoop] at h
  simp only [Option.bind_eq_bind, Option.bind_eq_some_iff, req_eq_some_iff, exists_const, Bool.not_eq_true',
    beq_iff_eq] at h
  obtain ⟨_, hv, hb, ⟨script, m, n⟩, hq, hlen, hm, hn, raw, hraw, xfps, hx, sats, hs, hrest⟩ := h
  refine ⟨m, n, xfps, sats, ⟨hv, hb, hlen, ⟨script, m, n, raw, hq, rfl, rfl, hraw⟩, ⟨xfps, hx⟩, ⟨sats, hs⟩⟩,
    fun m0 h0 => ?_, fun n0 h0 => ?_, fun h0 => ?_, hs, hrest⟩
  · rw [h0] at hm; exact eq_of_beq hm
  · rw [h0] at hn; exact eq_of_beq hn
  · rw [h0] at hn; exact eq_of_beq hn

theorem InStepOK.oneScript {Tx} {H : Hashes} {C : TxCodec Tx} {O : Oracles} {hmap : Dict Bytes} {txin : TxInV}
    {pin : PIn Tx} {rm rn : Option Int} (h : InStepOK H C O hmap txin pin rm rn) :
    pin.witnessScript = none ∨ pin.redeem = none := by
  have := h.notBoth
  cases hw : pin.witnessScript with
  | none => exact Or.inl rfl
  | some w =>
    cases hr : pin.redeem with
    | none => exact Or.inr rfl
    | some r => simp [hw, hr] at this

theorem InStepOK.quorum_eq {Tx} {H : Hashes} {C : TxCodec Tx} {O : Oracles} {hmap : Dict Bytes} {txin : TxInV}
    {pin : PIn Tx} {m n : Int} (h : InStepOK H C O hmap txin pin (some m) (some n)) :
    ∃ script raw, scriptQuorum pin.witnessScript pin.redeem = some (script, m, n) ∧ rawOf script = some raw := by
  obtain ⟨script, m', n', raw, hq, hm, hn, hraw⟩ := h.quorum
  cases hm
  cases hn
  exact ⟨script, raw, hq, hraw⟩

theorem InStepOK.derives {Tx} {H : Hashes} {C : TxCodec Tx} {O : Oracles} {hmap : Dict Bytes} {txin : TxInV}
    {pin : PIn Tx} {rm rn : Option Int} (h : InStepOK H C O hmap txin pin rm rn) {sec rawPath : Bytes}
    (hmem : (sec, rawPath) ∈ pin.namedPubs) :
    ∃ body, dget hmap (rawPath.take Gen.psbtFingerprintWidth) = some body ∧ deriveAt O body rawPath = some sec := by
  obtain ⟨xfps, hx⟩ := h.named
  exact (checkNamedPubs_some hx).2 sec rawPath hmem

theorem insLoop_spec {Tx} {H : Hashes} {C : TxCodec Tx} {O : Oracles} {hmap : Dict Bytes} :
    ∀ (pins : List (PIn Tx)) (txins : List TxInV) (acc r : InputsDescribed),
      describeInputsLoop H C O hmap txins pins acc = some r →
      (∃ vals, pins.mapM (·.value) = some vals ∧ r.total = acc.total + vals.sum) ∧
      (∀ m0, acc.m = some m0 → r.m = some m0) ∧
      (∀ n0, acc.n = some n0 → r.n = some n0) ∧
      ((∀ n0, acc.n = some n0 → n0 = (hmap.length : Int)) → ∀ n0, r.n = some n0 → n0 = (hmap.length : Int)) ∧
      (∀ (i : Nat) (txin : TxInV) (pin : PIn Tx), txins[i]? = some txin → pins[i]? = some pin →
        InStepOK H C O hmap txin pin r.m r.n) := by
  intro pins
  induction pins with
  | nil =>
    intro txins acc r h
    rw [describeInputsLoop] at h
    cases h
    exact ⟨⟨[], by simp, by simp⟩, fun _ h => h, fun _ h => h, fun h => h, fun i _ _ _ hp => by simp at hp⟩
  | cons p pr ih =>
    intro txins acc r h
    cases txins with
    | nil => simp [describeInputsLoop] at h
    | cons txin tr =>
      obtain ⟨m, n, xfps, sats, hok, hm, hn, hn', hval, hrest⟩ := insLoop_cons_some h
      obtain ⟨⟨vals, hvals, htot⟩, hrm, hrn, hrn', hidx⟩ := ih tr _ r hrest
      have hrm' : r.m = some m := hrm m rfl
      have hrn'' : r.n = some n := hrn n rfl
      refine ⟨⟨sats :: vals, by simp [List.mapM_cons, hval, hvals], by simp [htot, Nat.add_assoc]⟩,
        fun m0 h0 => by rw [hrm', hm m0 h0], fun n0 h0 => by rw [hrn'', hn n0 h0], fun hacc => hrn' ?_,
        List.forall_getElem?_cons₂.2 ⟨by rw [hrm', hrn'']; exact hok, hidx⟩⟩
      -- the new accumulator's `n` is this input's: tested against the map if it is the first, else the old one
      rintro _ ⟨⟩
      cases han : acc.n with
      | none => exact hn' han
      | some a => rw [← hn a han]; exact hacc a han

/-! ### `describe` in stages -/

/-- the `hdpubkey_map` `describe` works with: the caller's, or the one built from the global xpubs -/
def hmapOf {Tx} (cm : Dict Bytes) (p : Psbt Tx) : Dict Bytes :=
  if cm ≠ [] then cm else mapFromHdPubs p.hdPubs

theorem describe_some {Tx} {cfg : DescribeCfg} {H : Hashes} {C : TxCodec Tx} {O : Oracles} {cm : Dict Bytes}
    {p : Psbt Tx} {s : Summary} (h : describe cfg H C O cm p = some s) :
    ∃ fee ins m n outs, p.validate H C O = some () ∧ txFee C p = some fee ∧ (cm ≠ [] ∨ p.hdPubs ≠ []) ∧
      describeInputs H C O (hmapOf cm p) p = some ins ∧ ins.m = some m ∧ ins.n = some n ∧
      describeOutputsLoop cfg H O (hmapOf cm p) m n (C.outs p.tx) p.outs {} = some outs ∧ ins.total ≠ 0 ∧
      s = { fee := fee, totalIn := ins.total, totalOut := outs.total, spend := outs.spendSats,
            change := outs.changeSats, isBatch := outs.spends > 1, m := m, n := n,
            inputs := ins.descs, outputs := outs.descs, rootPaths := ins.rootPaths } := by
  unfold describe at h
  obtain ⟨_, hv, h⟩ := Option.bind_eq_some_iff.mp h
  obtain ⟨fee, hfee, h⟩ := Option.bind_eq_some_iff.mp h
  -- what follows the choice of `hdpubkey_map` is one function, entered from the three arms of the test
  extract_lets rest at h
  have key : (cm ≠ [] ∨ p.hdPubs ≠ []) ∧ rest (hmapOf cm p) = some s := by
    unfold hmapOf
    split at h
    next hc => exact ⟨Or.inl hc, (if_pos hc).symm ▸ h⟩
    next hc =>
      split at h
      · cases h
      next hp => exact ⟨Or.inr hp, (if_neg hc).symm ▸ h⟩
  obtain ⟨hne, h⟩ := key
  simp only [rest, Option.bind_eq_bind, Option.bind_eq_some_iff, req_eq_some_iff, exists_const, decide_eq_true_eq,
    Option.pure_def, Option.some.injEq] at h
  obtain ⟨ins, hins, m, hm, n, hn, outs, houts, hreq, rfl⟩ := h
  exact ⟨fee, ins, m, n, outs, hv, hfee, hne, hins, hm, hn, houts, hreq, rfl⟩

/-! ### the change branch -/

theorem changeOK_some {cfg : DescribeCfg} {O : Oracles} {hmap : Dict Bytes} {em en : Int} {p : POut}
    (h : changeOK cfg O hmap em en p = some ()) :
    ∃ script xfps, scriptQuorum p.witnessScript p.redeem = some (script, em, en) ∧
      (cfg.plainMultisig = true → plainMultisigOf script en p.namedPubs = true) ∧
      en = (p.namedPubs.length : Int) ∧ checkNamedPubs O hmap p.namedPubs = some xfps ∧
      (cfg.distinctXfps = true → (xfps.eraseDups.length : Int) = en) := by
  unfold changeOK at h
  obtain ⟨⟨script, m, n⟩, hq, h⟩ := Option.bind_eq_some_iff.mp h
  obtain ⟨_, hm, h⟩ := Option.bind_eq_some_iff.mp h
  obtain ⟨_, hn, h⟩ := Option.bind_eq_some_iff.mp h
  extract_lets rest at h
  obtain ⟨hplain, h⟩ := optReq_bind_eq_some_iff.mp h
  simp only [rest, Option.bind_eq_bind, Option.bind_eq_some_iff, req_eq_some_iff, exists_const, beq_iff_eq] at h hm hn
  obtain ⟨hlen, xfps, hx, h⟩ := h
  rw [hm, hn]
  refine ⟨script, xfps, hq, hplain, hlen, hx, fun hd => ?_⟩
  rw [if_pos hd, req_eq_some_iff] at h
  exact eq_of_beq h

/-- F11a repaired, as a fact about `changeOK` -/
theorem changeOK_nodup {cfg : DescribeCfg} {O : Oracles} {hmap : Dict Bytes} {em en : Int} {p : POut}
    (hdx : cfg.distinctXfps = true) (h : changeOK cfg O hmap em en p = some ()) :
    (p.namedPubs.map (fun e => e.2.take Gen.psbtFingerprintWidth)).Nodup := by
  obtain ⟨_, xfps, _, _, hn, hnamed, hdist⟩ := changeOK_some h
  have hx := (checkNamedPubs_some hnamed).1
  rw [← hx]
  -- as many distinct fingerprints as named pubkeys
  apply (eraseDups_length_le _).2
  have h1 := hdist hdx
  have h2 : xfps.length = p.namedPubs.length := by rw [hx]; simp
  omega

theorem OutStepOK.derives {cfg : DescribeCfg} {H : Hashes} {O : Oracles} {hmap : Dict Bytes} {m n : Int} {o : TxOutV}
    {po : POut} (h : OutStepOK cfg H O hmap m n o po) {sec rawPath : Bytes} (hmem : (sec, rawPath) ∈ po.namedPubs) :
    ∃ body, dget hmap (rawPath.take Gen.psbtFingerprintWidth) = some body ∧ deriveAt O body rawPath = some sec := by
  obtain ⟨_, xfps, _, _, _, hx, _⟩ := changeOK_some (h.change (List.ne_nil_of_mem hmem))
  exact (checkNamedPubs_some hx).2 sec rawPath hmem

/-! ### plain multisig scripts -/

theorem all_push {f : Bytes → Bool} :
    ∀ (l : List Cmd), l.all (fun c => match c with | .push k => f k | .op _ => false) = true →
      ∃ ks : List Bytes, l = ks.map Cmd.push ∧ ∀ k ∈ ks, f k = true := by
  intro l
  induction l with
  | nil => intro _; exact ⟨[], rfl, fun _ h => by cases h⟩
  | cons c r ih =>
    intro h
    simp only [List.all_cons, Bool.and_eq_true] at h
    obtain ⟨ks, hks, hall⟩ := ih h.2
    cases c with
    | op n => simp at h
    | push k =>
      refine ⟨k :: ks, by simp [hks], ?_⟩
      intro k' hk'
      rcases List.mem_cons.mp hk' with rfl | hk'
      · exact h.1
      · exact hall k' hk'

theorem checkMultisig_name : ∀ e ∈ Gen.psbtOpCodeNames, e.2 = "OP_CHECKMULTISIG" → e.1 = Gen.psbtCheckMultisig := by
  decide +kernel

theorem redeemQuorum_eq_some_iff {s : Script} {m n : Int} :
    redeemQuorum s = some (m, n) ↔ s.cmds.getLast? = some (.op Gen.psbtCheckMultisig) ∧
      opCodeToNumber s.cmds[0]? = some m ∧ n = (s.cmds.length : Int) - 3 := by
  simp only [redeemQuorum, Option.bind_eq_bind, Option.bind_eq_some_iff, req_eq_some_iff, exists_const, beq_iff_eq,
    Option.pure_def, Option.some.injEq, Prod.mk.injEq]
  constructor
  · rintro ⟨last, hl, rfl, m', hm, rfl, rfl⟩
    exact ⟨hl, hm, rfl⟩
  · rintro ⟨hl, hm, rfl⟩
    exact ⟨_, hl, rfl, m, hm, rfl, rfl⟩

theorem witnessQuorum_some {s : Script} {m n : Int} (h : witnessQuorum s = some (m, n)) :
    s.cmds.getLast? = some (.op Gen.psbtCheckMultisig) ∧ 2 ≤ s.cmds.length ∧
      opNameNumber s.cmds[0]? = some m ∧ opNameNumber s.cmds[s.cmds.length - 2]? = some n := by
  unfold witnessQuorum at h
  simp only [Option.bind_eq_bind, Option.bind_eq_some_iff] at h
  obtain ⟨last, hlast, h⟩ := h
  cases last with
  | push b => simp at h
  | op k =>
    simp only [Option.bind_eq_some_iff, req_eq_some_iff, exists_const, Option.map_eq_some_iff, Option.pure_def,
      Option.some.injEq, Prod.mk.injEq, decide_eq_true_eq, beq_iff_eq] at h
    obtain ⟨name, ⟨e, he, rfl⟩, hnm, hlen, m', hm, n', hn, rfl, rfl⟩ := h
    have hk := List.find?_some he
    simp only [decide_eq_true_eq] at hk
    -- the last command is tested by name; one opcode has that name
    rw [hlast, ← hk, checkMultisig_name e (List.mem_of_find?_eq_some he) hnm]
    exact ⟨rfl, hlen, hm, hn⟩

theorem scriptQuorum_some {ws redeem : Option Script} {script : Script} {m n : Int}
    (h : scriptQuorum ws redeem = some (script, m, n)) :
    (ws = some script ∧ witnessQuorum script = some (m, n)) ∨
    (ws = none ∧ redeem = some script ∧ redeemQuorum script = some (m, n)) := by
  unfold scriptQuorum at h
  rcases ws with _ | w
  · rcases redeem with _ | r
    · cases h
    · obtain ⟨q, hq, he⟩ := Option.map_eq_some_iff.mp h
      cases he
      exact Or.inr ⟨rfl, rfl, hq⟩
  · obtain ⟨q, hq, he⟩ := Option.map_eq_some_iff.mp h
    cases he
    exact Or.inl ⟨rfl, hq⟩

theorem exists_ends {α} (l : List α) (h : 3 ≤ l.length) : ∃ c0 mid x y, l = c0 :: mid ++ [x, y] := by
  rcases l with _ | ⟨c0, t⟩
  · simp at h
  rcases List.eq_nil_or_concat t with rfl | ⟨t, y, rfl⟩
  · simp at h
  rcases List.eq_nil_or_concat t with rfl | ⟨mid, x, rfl⟩
  · simp at h
  exact ⟨c0, mid, x, y, by simp⟩

theorem plainMultisigOf_ends {script : Script} {c0 x y : Cmd} {mid : List Cmd}
    (hl : script.cmds = c0 :: mid ++ [x, y]) (n : Int) (named : Dict Bytes) :
    plainMultisigOf script n named =
      ((mid.length : Int) == n && (match x with | .op k => (k : Int) == 80 + n | _ => false) &&
        mid.all (fun c => match c with | .push k => (dget named k).isSome | .op _ => false) &&
        named.all (fun e => mid.contains (.push e.1))) := by
  have h1 : (c0 :: mid ++ [x, y]).length - 3 = mid.length := by simp
  have h2 : (c0 :: mid ++ [x, y]).length - 2 = mid.length + 1 := by simp
  have h3 : ((c0 :: mid ++ [x, y]).drop 1).take mid.length = mid := by simp
  have h4 : (c0 :: mid ++ [x, y])[mid.length + 1]? = some x := by simp
  simp only [plainMultisigOf, hl, h1, h2, h3, h4]
  cases x <;> rfl

/-- with no keys, the command the test reads as `OP_n` is `80 + 0`, OP_RESERVED -/
theorem plainMultisigOf_short {script : Script} {n : Int} {named : Dict Bytes} (h3 : script.cmds.length < 3)
    (hp : plainMultisigOf script n named = true) :
    n = 0 ∧ script.cmds[script.cmds.length - 2]? = some (.op 80) := by
  unfold plainMultisigOf at hp
  simp only [Bool.and_eq_true, beq_iff_eq, List.length_take, List.length_drop] at hp
  obtain ⟨⟨⟨hk, hop⟩, _⟩, _⟩ := hp
  obtain rfl : n = 0 := by omega
  refine ⟨rfl, ?_⟩
  generalize script.cmds[script.cmds.length - 2]? = c at hop
  rcases c with _ | k | _ <;> try cases hop
  have := of_decide_eq_true hop
  congr 2
  omega

/-- F11e (repaired): a script accepted by `get_quorum` and by the plain-multisig test is literally
    `<m> <keys> <OP_n> OP_CHECKMULTISIG`, and its keys are the named pubkeys -/
theorem plainMultisig_shape {ws redeem : Option Script} {script : Script} {m n : Int} {named : Dict Bytes}
    (hq : scriptQuorum ws redeem = some (script, m, n))
    (hp : plainMultisigOf script n named = true) :
    ∃ (c0 : Cmd) (keys : List Bytes), script.cmds = c0 :: keys.map Cmd.push ++ [.op (80 + keys.length), .op Gen.psbtCheckMultisig] ∧
      (keys.length : Int) = n ∧ (∀ k, k ∈ keys ↔ k ∈ dkeys named) ∧
      (opCodeToNumber (some c0) = some m ∨ opNameNumber (some c0) = some m) := by
  -- both `get_quorum`s: the last command, and where `m` is read
  obtain ⟨hlast, hm, hn⟩ : script.cmds.getLast? = some (.op Gen.psbtCheckMultisig) ∧
      (opCodeToNumber script.cmds[0]? = some m ∨ opNameNumber script.cmds[0]? = some m) ∧
      (n = (script.cmds.length : Int) - 3 ∨
        2 ≤ script.cmds.length ∧ opNameNumber script.cmds[script.cmds.length - 2]? = some n) := by
    rcases scriptQuorum_some hq with ⟨_, h⟩ | ⟨_, _, h⟩
    · obtain ⟨h1, h2, h3, h4⟩ := witnessQuorum_some h
      exact ⟨h1, Or.inr h3, Or.inr ⟨h2, h4⟩⟩
    · obtain ⟨h1, h2, h3⟩ := redeemQuorum_eq_some_iff.mp h
      exact ⟨h1, Or.inl h2, Or.inl h3⟩
  -- a shorter script has `n = 0`, read off OP_RESERVED: a WitnessScript's `get_quorum` finds no number in that, and a
  -- RedeemScript's has `n = len - 3 < 0`
  have hL : 3 ≤ script.cmds.length := by
    apply Decidable.by_contra
    intro h3
    obtain ⟨rfl, hop⟩ := plainMultisigOf_short (Nat.lt_of_not_le h3) hp
    rcases hn with hn | ⟨_, hn⟩
    · omega
    · rw [hop] at hn
      exact absurd hn (by decide)
  obtain ⟨c0, mid, x, y, hl⟩ := exists_ends script.cmds hL
  rw [plainMultisigOf_ends hl] at hp
  simp only [Bool.and_eq_true, beq_iff_eq] at hp
  obtain ⟨⟨⟨hk, hop⟩, hall⟩, hnamed⟩ := hp
  obtain ⟨keys, rfl, hkall⟩ := all_push mid hall
  rw [List.length_map] at hk
  rw [hl] at hlast hm
  refine ⟨c0, keys, ?_, hk, fun k => ⟨fun hk' => (mem_dkeys_iff named k).mpr (hkall k hk'), fun hk' => ?_⟩, by simpa using hm⟩
  · have hy : y = .op Gen.psbtCheckMultisig := by simpa [List.getLast?_cons, List.getLast?_append] using hlast
    cases x with
    | push b => cases hop
    | op k => rw [hl, hy, show k = 80 + keys.length by have := of_decide_eq_true hop; omega]
  · obtain ⟨e, he, rfl⟩ := List.mem_map.mp hk'
    simpa using List.all_eq_true.mp hnamed e he

/-! ### what `PSBTOut.validate` ties a multisig output script to -/

theorem validateOut_commit {H : Hashes} {spk : Script} {po : POut} {script : Script} {m n : Int}
    (h160 : ∀ b, (H.hash160 b).length = 20)
    (hv : validateOut H spk po = some ())
    (hq : scriptQuorum po.witnessScript po.redeem = some (script, m, n)) :
    ∃ raw, rawOf script = some raw ∧
      ((po.witnessScript = some script ∧ po.redeem = none ∧ spk.cmds = [.op 0, .push (H.sha256 raw)]) ∨
       (po.witnessScript = some script ∧ ∃ r rraw, po.redeem = some r ∧ rawOf r = some rraw ∧
          r.cmds = [.op 0, .push (H.sha256 raw)] ∧ spk.cmds = [.op 0xA9, .push (H.hash160 rraw), .op 0x87]) ∨
       (po.witnessScript = none ∧ po.redeem = some script ∧
          spk.cmds = [.op 0xA9, .push (H.hash160 raw), .op 0x87])) := by
  rcases scriptQuorum_some hq with ⟨hw, _⟩ | ⟨hw, hr, _⟩
  · obtain ⟨h1, h2, hsome, _⟩ := validateOut_witness hw hv
    obtain ⟨raw, hraw, hsha⟩ := scriptSha256_of_isSome hsome
    refine ⟨raw, hraw, ?_⟩
    cases hr : po.redeem with
    | none =>
      obtain ⟨hwsh, hc⟩ := h1 hr
      exact Or.inl ⟨hw, rfl, isP2wsh_cmds hwsh (hc.trans hsha)⟩
    | some r =>
      obtain ⟨hcls, hc160, hs160, hrc⟩ := h2 r hr
      obtain ⟨rraw, hrraw, hh⟩ := scriptHash160_of_isSome hs160
      have h160' := hc160.trans hh
      simp only [Bool.or_eq_true, Bool.and_eq_true] at hcls
      rcases hcls with hwsh | ⟨hsh, hrw⟩
      · -- a 32-byte witness program is not a 20-byte hash160
        obtain ⟨h, hcmds, hlen⟩ := (isP2wsh_iff spk).mp hwsh
        rw [hcmds] at h160'
        cases h160'
        have := h160 rraw
        omega
      · exact Or.inr (Or.inl ⟨hw, r, rraw, rfl, hrraw, isP2wsh_cmds hrw (hrc.trans hsha), isP2sh_cmds hsh h160'⟩)
  · obtain ⟨hsh, hc, hsome⟩ := validateOut_redeem_only hw hr hv
    obtain ⟨raw, hraw, hh⟩ := scriptHash160_of_isSome hsome
    exact ⟨raw, hraw, Or.inr (Or.inr ⟨hw, hr, isP2sh_cmds hsh (hc.trans hh)⟩)⟩

/-! ### what a summary certifies -/

section Certificate
variable {Tx : Type} {cfg : DescribeCfg} {H : Hashes} {C : TxCodec Tx} {O : Oracles} {cm hmap : Dict Bytes}
  {p : Psbt Tx} {s : Summary}

/-- what a summary `s` certifies about the PSBT `p` it was made from, with `hmap` the `hdpubkey_map` used: every
    input and every output passed its step, and the summary's figures are those of the transaction.  The
    theorems of Props/C11 about a summarised PSBT are read off its fields, and a refusal is the contrapositive of
    a field. -/
structure Described (cfg : DescribeCfg) (H : Hashes) (C : TxCodec Tx) (O : Oracles) (hmap : Dict Bytes)
    (p : Psbt Tx) (s : Summary) : Prop where
  nIns : (C.ins p.tx).length = p.ins.length
  nOuts : (C.outs p.tx).length = p.outs.length
  input : ∀ {i : Nat} {txin : TxInV} {pin : PIn Tx}, (C.ins p.tx)[i]? = some txin → p.ins[i]? = some pin →
    InStepOK H C O hmap txin pin (some s.m) (some s.n)
  output : ∀ {j : Nat} {o : TxOutV} {po : POut}, (C.outs p.tx)[j]? = some o → p.outs[j]? = some po →
    OutStepOK cfg H O hmap s.m s.n o po
  n : s.n = (hmap.length : Int)
  outputs : s.outputs =
    List.zipWith (fun o po => { sats := o.amount, isChange := decide (po.namedPubs ≠ []) }) (C.outs p.tx) p.outs
  totalOut : s.totalOut = ((C.outs p.tx).map (·.amount)).foldl (· + ·) 0
  totalIn : ∃ vals, p.ins.mapM (·.value) = some vals ∧ s.totalIn = vals.foldl (· + ·) 0
  fee : s.fee = (s.totalIn : Int) - (s.totalOut : Int)
  part : s.spend + s.change = s.totalOut
  one : (s.outputs.filter (·.isChange)).length ≤ 1
  chg : s.change = ((s.outputs.filter (·.isChange)).map (·.sats)).sum
  spd : s.spend = ((s.outputs.filter (fun d => !d.isChange)).map (·.sats)).sum
  batch : s.isBatch = decide ((s.outputs.filter (fun d => !d.isChange)).length > 1)

theorem describe_described (h : describe cfg H C O cm p = some s) : Described cfg H C O (hmapOf cm p) p s := by
  obtain ⟨fee, ins, m, n, outs, hv, hfee, _, hins, hm, hn, houts, _, rfl⟩ := describe_some h
  unfold describeInputs at hins
  simp only [Option.bind_eq_bind, Option.bind_eq_some_iff, req_eq_some_iff, exists_const, Option.pure_def,
    Option.some.injEq] at hins
  obtain ⟨r, hloop, _, rfl⟩ := hins
  obtain ⟨hvi, hvo⟩ := validate_eq_some_iff.mp hv
  have hlo := validateOutsLoop_length _ _ hvo
  obtain ⟨htot, hdescs, hout, hinv⟩ := outsLoop_spec _ _ _ _ houts
  have hI := hinv outInv_init
  obtain ⟨⟨vals, hvals, hvt⟩, _, _, hnn, hin⟩ := insLoop_spec _ _ _ _ hloop
  have hto : outs.total = ((C.outs p.tx).map (·.amount)).foldl (· + ·) 0 := by
    rw [htot, ← hlo, List.take_length, List.sum_eq_foldl_nat]
    exact Nat.zero_add _
  have hti : r.total = vals.foldl (· + ·) 0 := by
    rw [hvt, List.sum_eq_foldl_nat]
    exact Nat.zero_add _
  exact {
    nIns := (validateInsLoop_some _ _ _ _ _ _ _ hvi).1
    nOuts := hlo
    input := fun ht hp => by
      rw [← hm, ← hn]
      exact hin _ _ _ ht hp
    output := fun ho hp => hout _ _ _ ho hp
    n := hnn (fun n0 h0 => by simp at h0) n hn
    outputs := by
      rw [hdescs]
      simp
    totalOut := hto
    totalIn := ⟨vals, hvals, hti⟩
    fee := by
      unfold txFee at hfee
      simp only [hvals, Option.bind_eq_bind, Option.bind_some, Option.pure_def, Option.some.injEq] at hfee
      rw [← hfee, hti, hto]
    part := hI.part
    one := by
      show (outs.descs.filter (·.isChange)).length ≤ 1
      rw [hI.one]
      split <;> omega
    chg := hI.chg
    spd := hI.spd
    batch := by rw [hI.cnt] }

/-- the form every refusal takes: no summary could certify what it would have to -/
theorem describe_eq_none (hbad : ∀ s, Described cfg H C O (hmapOf cm p) p s → False) :
    describe cfg H C O cm p = none :=
  Option.eq_none_iff_forall_ne_some.mpr fun s h => hbad s (describe_described h)

theorem Described.validIn (D : Described cfg H C O hmap p s) {i : Nat} {txin : TxInV} {pin : PIn Tx}
    (ht : (C.ins p.tx)[i]? = some txin) (hp : p.ins[i]? = some pin) : InValid H C txin pin :=
  validateIn_some (D.input ht hp).valid

theorem Described.outputAt (D : Described cfg H C O hmap p s) {j : Nat} {o : TxOutV} {po : POut}
    (ho : (C.outs p.tx)[j]? = some o) (hp : p.outs[j]? = some po) :
    s.outputs[j]? = some { sats := o.amount, isChange := decide (po.namedPubs ≠ []) } := by
  rw [D.outputs, List.getElem?_zipWith, ho, hp]

/-- an output labelled change carries derivations, so it went through `changeOK` -/
theorem Described.changeAt (D : Described cfg H C O hmap p s) {j : Nat} {o : TxOutV} {po : POut} {d : OutDesc}
    (ho : (C.outs p.tx)[j]? = some o) (hp : p.outs[j]? = some po) (hd : s.outputs[j]? = some d)
    (hchange : d.isChange = true) : changeOK cfg O hmap s.m s.n po = some () := by
  rw [D.outputAt ho hp] at hd
  cases hd
  exact (D.output ho hp).change (of_decide_eq_true hchange)

end Certificate

/-! ### a toy instance (for the satisfiability examples and defect witnesses of Props/C11) -/
namespace Toy

structure TTx where
  id : Bytes
  ins : List TxInV
  outs : List TxOutV
deriving DecidableEq, Repr

def codec : TxCodec TTx where
  parseLegacy := fun _ => none
  parse := fun _ => none
  serialize := fun _ => none
  serializeLegacy := fun _ => none
  hash := fun t => some t.id
  ins := fun t => t.ins
  outs := fun t => t.outs
  finalSerialize := fun _ _ => none

def hashes : Hashes where
  hash160 := fun b => (b ++ List.replicate 20 0).take 20
  sha256 := fun b => (b ++ List.replicate 32 0).take 32

def oracles : Oracles where
  secOK := fun _ => true
  sigParseOK := fun _ _ => true
  sigOK := fun _ _ _ _ => true
  verifyOK := fun _ _ _ => true
  derive := fun body idxs => some (body ++ idxs.map UInt8.ofNat)

def fp1 : Bytes := [1, 1, 1, 1]
def fp2 : Bytes := [2, 2, 2, 2]
def body1 : Bytes := [0, 1]
def body2 : Bytes := [0, 2]
/-- the caller's `hdpubkey_map`: two cosigners -/
def cmap : Dict Bytes := [(fp1, body1), (fp2, body2)]

/-- `1 <a> <b> 2 OP_CHECKMULTISIG` -/
def multisig (a b : Bytes) : Script := { cmds := [.op 81, .push a, .push b, .op 82, .op 174] }

def p2wshOf (s : Script) : Script := { cmds := [.op 0, .push (hashes.sha256 ((rawOf s).getD []))] }
def p2shOf (s : Script) : Script := { cmds := [.op 0xA9, .push (hashes.hash160 ((rawOf s).getD [])), .op 0x87] }

/-- named pubs of the wallet's address number `i`: one key per cosigner -/
def named (i : UInt8) : Dict Bytes := [(body1 ++ [i], fp1 ++ [i, 0, 0, 0]), (body2 ++ [i], fp2 ++ [i, 0, 0, 0])]
def walletScript (i : UInt8) : Script := multisig (body1 ++ [i]) (body2 ++ [i])

def txin : TxInV := { prevTx := [9], prevIndex := 0, scriptSigEmpty := true }
def pin : PIn TTx :=
  { prevOut := some { amount := 100, spk := p2wshOf (walletScript 5) }, witnessScript := some (walletScript 5),
    namedPubs := named 5, value := some 100 }
def spendOut : TxOutV := { amount := 30, spk := { cmds := [.op 0, .push (List.replicate 20 7)] } }
def changeOut : TxOutV := { amount := 60, spk := p2wshOf (walletScript 6) }
def changeMap : POut := { witnessScript := some (walletScript 6), namedPubs := named 6 }

def tx : TTx := { id := [7], ins := [txin], outs := [changeOut, spendOut] }
/-- an honest 1-of-2 P2WSH spend with one change output -/
def psbt : Psbt TTx := { tx := tx, ins := [pin], outs := [changeMap, {}] }

/-- the summary of `psbt` (and of its variants that differ in the change script only) -/
def summary : Summary :=
  { fee := 10, totalIn := 100, totalOut := 90, spend := 30, change := 60, isBatch := false, m := 1, n := 2,
    inputs := [{ m := 1, n := 2, sats := 100 }],
    outputs := [{ sats := 60, isChange := true }, { sats := 30, isChange := false }],
    rootPaths := [([1, 1, 1, 1], [1, 1, 1, 1, 5, 0, 0, 0]), ([2, 2, 2, 2], [2, 2, 2, 2, 5, 0, 0, 0])] }

theorem describe_psbt : describe .repaired hashes codec oracles cmap psbt = some summary := by
  decide +kernel

def psbtWith (ins : List (PIn TTx)) (txouts : List TxOutV) (outs : List POut) : Psbt TTx :=
  { tx := { id := [7], ins := [txin], outs := txouts }, ins := ins, outs := outs }

def p2wshChange (s : Script) (named : Dict Bytes) : TxOutV × POut :=
  ({ amount := 60, spk := p2wshOf s }, { witnessScript := some s, namedPubs := named })

/-- F11b-type: P2SH change metadata of the wallet, scriptPubKey = P2SH of somebody else's script -/
def swappedOut : TxOutV := { amount := 60, spk := p2shOf (multisig [9] [9]) }
def swappedMap : POut := { redeem := some (walletScript 6), namedPubs := named 6 }
def psbtSwapped : Psbt TTx := psbtWith [pin] [swappedOut, spendOut] [swappedMap, {}]

/-- F11c-type: `OP_1 <sha256 of the wallet's WitnessScript>` with the wallet's change metadata -/
def op1Out : TxOutV := { amount := 60, spk := { cmds := [.op 81, .push (hashes.sha256 ((rawOf (walletScript 6)).getD []))] } }
def psbtOp1 : Psbt TTx := psbtWith [pin] [op1Out, spendOut] [changeMap, {}]

/-- an input carrying another WitnessScript than the one its UTXO commits to -/
def pinForeignWs : PIn TTx := { pin with witnessScript := some (walletScript 7) }
def psbtForeignWs : Psbt TTx := psbtWith [pinForeignWs] [changeOut, spendOut] [changeMap, {}]

/-- F11d-type: previous transaction says 100, the witness UTXO 1000 -/
def prevT : TTx := { id := [9], ins := [], outs := [{ amount := 100, spk := p2wshOf (walletScript 5) }] }
def pinBoth : PIn TTx :=
  { pin with prevTx := some prevT, prevOut := some { amount := 1000, spk := p2wshOf (walletScript 5) }, value := some 1000 }
def psbtAmount : Psbt TTx := psbtWith [pinBoth] [changeOut, spendOut] [changeMap, {}]

/-- F11a-type: both change keys derived from cosigner 1 -/
def namedOne : Dict Bytes := [(body1 ++ [6], fp1 ++ [6, 0, 0, 0]), (body1 ++ [7], fp1 ++ [7, 0, 0, 0])]
def oneCosigner : TxOutV × POut := p2wshChange (multisig (body1 ++ [6]) (body1 ++ [7])) namedOne
def psbtOneCosigner : Psbt TTx := psbtWith [pin] [oneCosigner.1, spendOut] [oneCosigner.2, {}]

/-- two outputs with change metadata -/
def change7 : TxOutV × POut := p2wshChange (walletScript 7) (named 7)
def psbtTwoChange : Psbt TTx := psbtWith [pin] [changeOut, change7.1] [changeMap, change7.2]

/-- the change script is 2-of-2, the input 1-of-2 -/
def quorum22 : TxOutV × POut :=
  p2wshChange { cmds := [.op 82, .push (body1 ++ [6]), .push (body2 ++ [6]), .op 82, .op 174] } (named 6)
def psbtQuorum : Psbt TTx := psbtWith [pin] [quorum22.1, spendOut] [quorum22.2, {}]

/-- F11e-type: `1 <k1> <k2> OP_2DROP 1 <a> <b> 2 OP_CHECKMULTISIG` — spendable by `a` or `b` alone -/
def notPlainScript : Script :=
  { cmds := [.op 81, .push (body1 ++ [6]), .push (body2 ++ [6]), .op 109, .op 81, .push [66], .push [77], .op 82, .op 174] }
def notPlain : TxOutV × POut := p2wshChange notPlainScript (named 6)
def psbtNotPlain : Psbt TTx := psbtWith [pin] [notPlain.1, spendOut] [notPlain.2, {}]

/-- wrong path: the key of address 7 declared at path 6 -/
def namedWrong : Dict Bytes := [(body1 ++ [7], fp1 ++ [6, 0, 0, 0]), (body2 ++ [6], fp2 ++ [6, 0, 0, 0])]
def wrongPath : TxOutV × POut := p2wshChange (multisig (body1 ++ [7]) (body2 ++ [6])) namedWrong
def psbtWrongPath : Psbt TTx := psbtWith [pin] [wrongPath.1, spendOut] [wrongPath.2, {}]

/-- F11g-type (first shape): non-witness UTXO paying to a 2-of-2 P2WSH, a 1-of-2 WitnessScript attached -/
def prevT22 : TTx :=
  { id := [9], ins := [],
    outs := [{ amount := 100, spk := p2wshOf { cmds := [.op 82, .push (body1 ++ [5]), .push (body2 ++ [5]), .op 82, .op 174] } }] }
def pinUnchecked : PIn TTx :=
  { prevTx := some prevT22, witnessScript := some (walletScript 5), namedPubs := named 5, value := some 100 }
def psbtUnchecked : Psbt TTx := psbtWith [pinUnchecked] [changeOut, spendOut] [changeMap, {}]

/-- F11g-type (second shape): witness UTXO paying to a 2-of-2 P2WSH, a 1-of-2 script attached as
    *RedeemScript* (no WitnessScript) -/
def pinUnchecked2 : PIn TTx :=
  { prevOut := some { amount := 100, spk := p2wshOf { cmds := [.op 82, .push (body1 ++ [5]), .push (body2 ++ [5]), .op 82, .op 174] } },
    redeem := some (walletScript 5), namedPubs := named 5, value := some 100 }
def psbtUnchecked2 : Psbt TTx := psbtWith [pinUnchecked2] [changeOut, spendOut] [changeMap, {}]

end Toy

end Buidl.Psbt
