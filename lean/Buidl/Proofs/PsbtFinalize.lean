/-
  PSBTIn.finalize (buidl/psbt.py), model `Buidl.Psbt.finalizeIn`: "finalize raises iff fewer than m of
  the script's keys have signatures, otherwise emits the first m in script order — a function of the
  SET of signatures only".  With `scriptSigs sigs cmds` the signatures of the script's keys in script order
  (Buidl.Proofs.PsbtDict), the p2wsh loop returns the first `m` of them when `1 ≤ m`, and the p2sh loop is
  the p2wsh loop run over the data pushes alone; with distinct keys in the script their number is at most
  `len(self.sigs)`, so the code's first test is implied by its second.  Each branch of the dispatch on the
  script type gets a closed form under its conditions (`WitnessBranch`, `P2shBranch`, `P2wpkhBranch`,
  `P2pkhBranch`: hypotheses on the input map in the model's own predicates, each with a concrete
  inhabitant below).  F10d: the unrepaired p2sh count includes the leading OP_0.  PSBT.finalize runs
  `finalizeIn` over the inputs in lock step.
-/
import Buidl.Model.PsbtFlow
import Buidl.Proofs.PsbtDict
import Buidl.Proofs.ListM
namespace Buidl.Psbt
open Buidl Buidl.Script

/-! ## the two collection loops -/

@[simp] theorem scriptSigs_nil (sigs : Dict Bytes) : scriptSigs sigs [] = [] := rfl
theorem scriptSigs_op (sigs : Dict Bytes) (n : Nat) (r : List Cmd) :
    scriptSigs sigs (.op n :: r) = scriptSigs sigs r := rfl
theorem scriptSigs_push_none {sigs : Dict Bytes} {k : Bytes} (r : List Cmd) (h : dget sigs k = none) :
    scriptSigs sigs (.push k :: r) = scriptSigs sigs r := by
  simp [scriptSigs, h]
theorem scriptSigs_push_some {sigs : Dict Bytes} {k s : Bytes} (r : List Cmd) (h : dget sigs k = some s) :
    scriptSigs sigs (.push k :: r) = s :: scriptSigs sigs r := by
  simp [scriptSigs, h]

theorem collectWitnessSigs_acc (sigs : Dict Bytes) (m : Int) (cmds : List Cmd) (acc : List Bytes)
    (h : (acc.length : Int) < m) :
    collectWitnessSigs sigs m cmds acc = acc ++ (scriptSigs sigs cmds).take (m.toNat - acc.length) := by
  induction cmds generalizing acc with
  | nil => rw [collectWitnessSigs, scriptSigs_nil, List.take_nil, List.append_nil]
  | cons c r ih =>
    have hlt : ¬ ((acc.length : Int) ≥ m) := Int.not_le.mpr h
    cases c with
    | op n => rw [collectWitnessSigs, if_neg hlt, scriptSigs_op]; exact ih acc h
    | push k =>
      cases hk : dget sigs k with
      | none => simp only [collectWitnessSigs, hk, if_neg hlt, scriptSigs_push_none r hk]; exact ih acc h
      | some s =>
        -- one more signature is wanted: it is `s`, and the rest of the quota is left for `r`
        have hn : m.toNat - acc.length = (m.toNat - (acc ++ [s]).length) + 1 := by
          rw [List.length_append, List.length_singleton]; omega
        simp only [collectWitnessSigs, hk]
        rw [scriptSigs_push_some r hk, hn, List.take_succ_cons, List.append_cons acc s (List.take _ _)]
        split
        · rw [show m.toNat - (acc ++ [s]).length = 0 by omega, List.take_zero, List.append_nil]
        · exact ih _ (by omega)

theorem collectWitnessSigs_eq (sigs : Dict Bytes) {m : Int} (hm : 1 ≤ m) (cmds : List Cmd) :
    collectWitnessSigs sigs m cmds [] = (scriptSigs sigs cmds).take m.toNat := by
  rw [collectWitnessSigs_acc sigs m cmds [] hm, List.nil_append, List.length_nil, Nat.sub_zero]

/-- `m ≤ 0` (OP_0 or OP_1NEGATE as first command): the `>=` test after the first command ends the
    p2wsh loop, so at most the first command's signature is collected -/
theorem collectWitnessSigs_nonpos (sigs : Dict Bytes) {m : Int} (hm : m ≤ 0) (cmds : List Cmd) :
    collectWitnessSigs sigs m cmds [] = scriptSigs sigs (cmds.take 1) := by
  have hm' : ∀ n : Nat, (n : Int) ≥ m := fun n => by omega
  cases cmds with
  | nil => rfl
  | cons c r =>
    cases c with
    | op n => simp only [collectWitnessSigs, hm', if_true]; rfl
    | push k =>
      cases hk : dget sigs k with
      | none =>
        simp only [collectWitnessSigs, hk, hm', if_true, List.take_succ_cons, List.take_zero,
          scriptSigs_push_none [] hk, scriptSigs_nil]
      | some s =>
        simp only [collectWitnessSigs, hk, hm', if_true, List.take_succ_cons, List.take_zero,
          scriptSigs_push_some [] hk, scriptSigs_nil, List.nil_append]

/-- in `finalize` the first command is the quorum opcode and has no signature, so `m ≤ 0` (`OP_0`,
    `OP_1NEGATE`) is no exception -/
theorem collectWitnessSigs_of_quorum (sigs : Dict Bytes) {m : Int} {cmds : List Cmd}
    (hq : opCodeToNumber cmds[0]? = some m) :
    collectWitnessSigs sigs m cmds [] = (scriptSigs sigs cmds).take m.toNat := by
  by_cases hm : 1 ≤ m
  · exact collectWitnessSigs_eq sigs hm cmds
  · have hm0 : m ≤ 0 := by omega
    rw [collectWitnessSigs_nonpos sigs hm0]
    have : m.toNat = 0 := by omega
    rw [this, List.take_zero]
    match cmds, hq with
    | .op n :: r, _ => rfl
    | .push _ :: _, hq => simp [opCodeToNumber] at hq
    | [], hq => simp [opCodeToNumber] at hq

theorem scriptSigs_eq_filterMap_keys (sigs : Dict Bytes) (cmds : List Cmd) :
    scriptSigs sigs cmds = (scriptKeys cmds).filterMap (dget sigs) :=
  (filterMap_scriptKeys (dget sigs) cmds).symm

theorem scriptKeys_map_push (ks : List Bytes) : scriptKeys (ks.map .push) = ks := by
  rw [scriptKeys, List.filterMap_map]
  exact List.filterMap_some

/-- the p2sh loop `continue`s on an integer command, before the `>=` test: it is the p2wsh loop run over
    the data pushes alone -/
theorem collectScriptSigs_eq_pushes (sigs : Dict Bytes) (m : Int) (cmds : List Cmd) (acc : List Bytes) :
    collectScriptSigs sigs m cmds acc = collectWitnessSigs sigs m ((scriptKeys cmds).map .push) acc := by
  induction cmds generalizing acc with
  | nil => rfl
  | cons c r ih =>
    cases c with
    | op n => exact ih acc
    | push k => exact ite_congr rfl (fun _ => rfl) fun _ => ih _

theorem collectScriptSigs_eq (sigs : Dict Bytes) {m : Int} (hm : 1 ≤ m) (cmds : List Cmd) :
    collectScriptSigs sigs m cmds [] = (scriptSigs sigs cmds).take m.toNat := by
  rw [collectScriptSigs_eq_pushes, collectWitnessSigs_eq sigs hm, scriptSigs_eq_filterMap_keys, scriptKeys_map_push,
    ← scriptSigs_eq_filterMap_keys]

/-- both loops compute the same list when `1 ≤ m` (they differ for `m ≤ 0`: the two `_nonpos`) -/
theorem collectScriptSigs_eq_collectWitnessSigs (sigs : Dict Bytes) {m : Int} (hm : 1 ≤ m) (cmds : List Cmd) :
    collectScriptSigs sigs m cmds [] = collectWitnessSigs sigs m cmds [] := by
  rw [collectScriptSigs_eq sigs hm, collectWitnessSigs_eq sigs hm]

theorem collectScriptSigs_nonpos (sigs : Dict Bytes) {m : Int} (hm : m ≤ 0) (cmds : List Cmd) :
    collectScriptSigs sigs m cmds [] = ((scriptKeys cmds).take 1).filterMap (dget sigs) := by
  rw [collectScriptSigs_eq_pushes, collectWitnessSigs_nonpos sigs hm, ← List.map_take,
    scriptSigs_eq_filterMap_keys, scriptKeys_map_push]

/-- every signature found belongs to a different key of the dict (`DNodup sigs` is not needed) -/
theorem scriptSigs_length_le (sigs : Dict Bytes) {cmds : List Cmd} (hk : (scriptKeys cmds).Nodup) :
    (scriptSigs sigs cmds).length ≤ sigs.length := by
  rw [scriptSigs_eq_filterMap_keys, List.length_filterMap_eq_countP, List.countP_eq_length_filter]
  have h := (hk.sublist List.filter_sublist).length_le_of_subset (l₂ := dkeys sigs) fun x hx =>
    (mem_dkeys_iff sigs x).mpr (List.mem_filter.mp hx).2
  rwa [dkeys, List.length_map] at h

/-! ## only the lookups matter -/

theorem scriptSigs_congr {s s' : Dict Bytes} (h : ∀ k, dget s k = dget s' k) (cmds : List Cmd) :
    scriptSigs s cmds = scriptSigs s' cmds := by
  have : dget s = dget s' := funext h
  simp only [scriptSigs, this]

theorem collectWitnessSigs_congr {s s' : Dict Bytes} (h : ∀ k, dget s k = dget s' k) (m : Int)
    (cmds : List Cmd) (acc : List Bytes) :
    collectWitnessSigs s m cmds acc = collectWitnessSigs s' m cmds acc := by
  induction cmds generalizing acc with
  | nil => rfl
  | cons c r ih => simp only [collectWitnessSigs, h, ih]

theorem collectScriptSigs_congr {s s' : Dict Bytes} (h : ∀ k, dget s k = dget s' k) (m : Int)
    (cmds : List Cmd) (acc : List Bytes) :
    collectScriptSigs s m cmds acc = collectScriptSigs s' m cmds acc := by
  rw [collectScriptSigs_eq_pushes, collectScriptSigs_eq_pushes, collectWitnessSigs_congr h]

/-- a function of the set of signatures only: in every branch, repaired or not, two dicts with
    the same lookups (the same set of key–signature pairs, inserted in any order) finalise
    identically -/
theorem finalizeIn_sigs_ext {Tx} (fc : Bool) (C : TxCodec Tx) (txin : TxInV) (p : PIn Tx) (s' : Dict Bytes)
    (hs : DNodup p.sigs) (hs' : DNodup s') (h : ∀ k, dget p.sigs k = dget s' k) :
    finalizeIn fc C txin { p with sigs := s' } = finalizeIn fc C txin p := by
  have hl : p.sigs.length = s'.length := by
    simpa only [dkeys, List.length_map] using (dkeys_perm_of_dget_eq hs hs' h).length_eq
  have hcw : collectWitnessSigs s' = collectWitnessSigs p.sigs := by
    funext m c a; exact (collectWitnessSigs_congr h m c a).symm
  have hcs : collectScriptSigs s' = collectScriptSigs p.sigs := by
    funext m c a; exact (collectScriptSigs_congr h m c a).symm
  obtain ⟨prevTx, prevOut, sigs, hashType, redeem, witnessScript, namedPubs, scriptSig, witness, extra, value⟩ := p
  simp only at h hl hcw hcs ⊢
  match sigs, s', hl with
  | [], [], _ => rfl
  | [(k, v)], [e], _ =>
    rw [List.mem_singleton.mp (dget_some_mem ((h k).symm.trans (if_pos rfl)) : (k, v) ∈ [e])]
  | (k1, v1) :: (k2, v2) :: t, (k1', v1') :: (k2', v2') :: t', hl =>
    simp only [List.length_cons] at hl
    have hl' : t'.length = t.length := by omega
    unfold finalizeIn
    rw [hcw, hcs, List.length_cons, List.length_cons, List.length_cons, List.length_cons, hl']
    rfl

/-! ## the dispatch, one closed form per branch -/

def finalized {Tx} (p : PIn Tx) (ss : Option Script) (w : Option (List Bytes)) : PIn Tx :=
  { p with scriptSig := ss, witness := w, sigs := [], hashType := none, redeem := none,
           witnessScript := none, namedPubs := [] }

theorem finalized_rest {Tx} (p : PIn Tx) (ss : Option Script) (w : Option (List Bytes)) :
    (finalized p ss w).sigs = [] ∧ (finalized p ss w).redeem = none ∧ (finalized p ss w).witnessScript = none ∧
    (finalized p ss w).namedPubs = [] ∧ (finalized p ss w).hashType = none ∧
    (finalized p ss w).prevTx = p.prevTx ∧ (finalized p ss w).prevOut = p.prevOut ∧
    (finalized p ss w).extra = p.extra ∧ (finalized p ss w).value = p.value :=
  ⟨rfl, rfl, rfl, rfl, rfl, rfl, rfl, rfl, rfl⟩

def segwitScriptSig : Option Script → Option Script
  | some r => singlePush r
  | none => some { cmds := [] }

theorem segwitScriptSig_none : segwitScriptSig none = some { cmds := [] } := rfl
theorem segwitScriptSig_some (r : Script) : segwitScriptSig (some r) = singlePush r := rfl
theorem singlePush_of_raw {r : Script} {rraw : Bytes} (h : rawOf r = some rraw) :
    singlePush r = some { cmds := [.push rraw] } := congrArg (Option.map _) h

theorem segwitScriptSig_eq_some {o : Option Script} (h : ∀ r, o = some r → (rawOf r).isSome) :
    ∃ ss, segwitScriptSig o = some ss := by
  cases o with
  | none => exact ⟨_, rfl⟩
  | some r =>
    obtain ⟨b, hb⟩ := Option.isSome_iff_exists.mp (h r rfl)
    exact ⟨_, singlePush_of_raw hb⟩

theorem ite_ite_none {α} {a b c : Prop} [Decidable a] [Decidable b] [Decidable c] (x : α) (h : c ↔ a ∧ b) :
    (if a then if b then some x else none else none) = if c then some x else none := by
  by_cases ha : a <;> by_cases hb : b <;>
    simp only [ha, hb, h, and_self, and_true, and_false, if_true, if_false]

theorem finalizeIn_eq {Tx} {C : TxCodec Tx} {txin : TxInV} {p : PIn Tx} {spk : Script} (fc : Bool)
    (hspk : p.scriptPubkey C txin = some (some spk)) (hred : ¬ (isP2sh spk = true ∧ p.redeem = none)) :
    finalizeIn fc C txin p =
      if isP2wpkh spk || p.redeem.any isP2wpkh then
        match p.sigs with
        | [(sec, sig)] => do
          let ss ← segwitScriptSig p.redeem
          pure (finalized p (some ss) (some [sig, sec]))
        | _ => none
      else if isP2wsh spk || p.redeem.any isP2wsh then do
        let ws ← p.witnessScript
        let m ← opCodeToNumber ws.cmds[0]?
        req (!((p.sigs.length : Int) < m))
        let got := collectWitnessSigs p.sigs m ws.cmds []
        req (!((got.length : Int) < m))
        let wraw ← rawOf ws
        let ss ← segwitScriptSig p.redeem
        pure (finalized p (some ss) (some ([] :: got ++ [wraw])))
      else if isP2sh spk then do
        let r ← p.redeem
        let m ← opCodeToNumber r.cmds[0]?
        req (!((p.sigs.length : Int) < m))
        let got := collectScriptSigs p.sigs m r.cmds []
        req (!(((if fc then got.length else got.length + 1 : Nat) : Int) < m))
        let rraw ← rawOf r
        pure (finalized p (some { cmds := .op 0 :: got.map .push ++ [.push rraw] }) p.witness)
      else if isP2pkh spk then
        match p.sigs with
        | [(sec, sig)] => pure (finalized p (some { cmds := [.push sig, .push sec] }) p.witness)
        | _ => none
      else none := by
  have hreq : (isP2sh spk && p.redeem.isNone) = false :=
    Bool.and_eq_false_imp.mpr fun h => Bool.eq_false_iff.mpr fun h' => hred ⟨h, Option.isNone_iff_eq_none.mp h'⟩
  unfold finalizeIn
  rw [hspk]
  show (req (!(isP2sh spk && p.redeem.isNone))).bind _ = _
  rw [hreq]
  cases p.redeem <;> rfl

/-! every template tests the length first, so a script of the length of one template fails the others -/

theorem isP2sh_length {s : Script} (h : isP2sh s = true) : s.cmds.length = 3 := by
  simp only [isP2sh, Bool.and_eq_true, beq_iff_eq] at h
  exact h.1.1.1

theorem isP2pkh_length {s : Script} (h : isP2pkh s = true) : s.cmds.length = 5 := by
  simp only [isP2pkh, Bool.and_eq_true, beq_iff_eq] at h
  exact h.1.1.1.1.1

theorem not_witness_of_isP2sh {s : Script} (h : isP2sh s = true) : isP2wpkh s = false ∧ isP2wsh s = false := by
  unfold isP2wpkh isP2wsh
  rw [isP2sh_length h]
  exact ⟨rfl, rfl⟩

theorem not_others_of_isP2pkh {s : Script} (h : isP2pkh s = true) :
    isP2sh s = false ∧ isP2wpkh s = false ∧ isP2wsh s = false := by
  unfold isP2sh isP2wpkh isP2wsh
  rw [isP2pkh_length h]
  exact ⟨rfl, rfl, rfl⟩

/-- the conditions under which `finalize` takes the p2wsh / p2sh-p2wsh branch and gets as far as the
    signature count -/
structure WitnessBranch {Tx} (C : TxCodec Tx) (txin : TxInV) (p : PIn Tx) (spk ws : Script) (m : Int)
    (wraw : Bytes) : Prop where
  hspk : p.scriptPubkey C txin = some (some spk)
  redeemPresent : ¬ (isP2sh spk = true ∧ p.redeem = none)
  notP2wpkh : isP2wpkh spk = false
  redeemNotP2wpkh : ∀ r, p.redeem = some r → isP2wpkh r = false
  p2wsh : isP2wsh spk = true ∨ ∃ r, p.redeem = some r ∧ isP2wsh r = true
  hws : p.witnessScript = some ws
  quorum : opCodeToNumber ws.cmds[0]? = some m
  raw : rawOf ws = some wraw
  redeemRaw : ∀ r, p.redeem = some r → (rawOf r).isSome

/-- every quorum `m`, also `m ≤ 0`.  With distinct keys in the WitnessScript the test
    `len(self.sigs) < num_sigs` is subsumed by the count of the collected signatures. -/
theorem finalizeIn_witness {Tx} {C : TxCodec Tx} {txin : TxInV} {p : PIn Tx} {spk ws : Script} {m : Int}
    {wraw : Bytes} (fc : Bool) (hb : WitnessBranch C txin p spk ws m wraw)
    (hk : (scriptKeys ws.cmds).Nodup) :
    finalizeIn fc C txin p =
      if m ≤ (scriptSigs p.sigs ws.cmds).length then
        some (finalized p (segwitScriptSig p.redeem)
          (some ([] :: (scriptSigs p.sigs ws.cmds).take m.toNat ++ [wraw])))
      else none := by
  obtain ⟨h1, h2, h3, h4, h5, h6, h7, h8, h9⟩ := hb
  obtain ⟨ss, hss⟩ := segwitScriptSig_eq_some h9
  have hle := scriptSigs_length_le p.sigs hk
  rw [finalizeIn_eq fc h1 h2, if_neg (by rw [h3, (Option.any_eq_false ..).mpr h4]; decide),
    if_pos (by rw [Bool.or_eq_true, Option.any_eq_true]; exact h5)]
  simp only [h6, h7, h8, hss, Option.bind_eq_bind, Option.bind_some, Option.pure_def, req_bind,
    collectWitnessSigs_of_quorum p.sigs h7, List.length_take, Bool.not_eq_true', decide_eq_false_iff_not,
    Int.not_lt]
  exact ite_ite_none _ (by omega)

variable {Tx : Type} {C : TxCodec Tx} {txin : TxInV} {p : PIn Tx}

theorem finalize_witness_iff {spk ws : Script} {m : Int} {wraw : Bytes} (fc : Bool)
    (hb : WitnessBranch C txin p spk ws m wraw) (hk : (scriptKeys ws.cmds).Nodup) :
    (finalizeIn fc C txin p).isSome ↔ m ≤ ((scriptSigs p.sigs ws.cmds).length : Nat) := by
  rw [finalizeIn_witness fc hb hk]
  exact Option.isSome_ite

theorem WitnessBranch.with_sigs {spk ws : Script} {m : Int} {wraw : Bytes}
    (hb : WitnessBranch C txin p spk ws m wraw) (s' : Dict Bytes) :
    WitnessBranch C txin { p with sigs := s' } spk ws m wraw := { hb with }

theorem finalize_witness_set_only (s' : Dict Bytes) (hs : DNodup p.sigs) (hs' : DNodup s')
    (h : ∀ k, dget p.sigs k = dget s' k) :
    finalizeIn true C txin { p with sigs := s' } = finalizeIn true C txin p :=
  finalizeIn_sigs_ext true C txin p s' hs hs' h

/-- with distinct keys in the script even lists with repeated keys (not Python dicts) with the same
    lookups give the same result -/
theorem finalize_witness_set_only' {spk ws : Script} {m : Int} {wraw : Bytes}
    (hb : WitnessBranch C txin p spk ws m wraw) (hk : (scriptKeys ws.cmds).Nodup)
    (s' : Dict Bytes) (h : ∀ k, dget p.sigs k = dget s' k) :
    finalizeIn true C txin { p with sigs := s' } = finalizeIn true C txin p := by
  rw [finalizeIn_witness true hb hk, finalizeIn_witness true (hb.with_sigs s') hk]
  simp only [scriptSigs_congr h ws.cmds]
  rfl

/-- the bare p2sh branch; that the ScriptPubKey is not p2wpkh / p2wsh follows from `hp2sh` -/
structure P2shBranch {Tx} (C : TxCodec Tx) (txin : TxInV) (p : PIn Tx) (spk r : Script) (m : Int)
    (rraw : Bytes) : Prop where
  hspk : p.scriptPubkey C txin = some (some spk)
  hp2sh : isP2sh spk = true
  hredeem : p.redeem = some r
  redeemNotP2wpkh : isP2wpkh r = false
  redeemNotP2wsh : isP2wsh r = false
  quorum : opCodeToNumber r.cmds[0]? = some m
  raw : rawOf r = some rraw

theorem finalizeIn_p2sh {spk r : Script} {m : Int} {rraw : Bytes} (fc : Bool)
    (hb : P2shBranch C txin p spk r m rraw) (hm : 1 ≤ m) :
    finalizeIn fc C txin p =
      if m ≤ (p.sigs.length : Nat) ∧
         m ≤ (((scriptSigs p.sigs r.cmds).length + (if fc then 0 else 1) : Nat) : Int) then
        some (finalized p
          (some { cmds := .op 0 :: ((scriptSigs p.sigs r.cmds).take m.toNat).map .push ++ [.push rraw] })
          p.witness)
      else none := by
  obtain ⟨h1, h2, h3, h4, h5, h6, h7⟩ := hb
  obtain ⟨h8, h9⟩ := not_witness_of_isP2sh h2
  rw [finalizeIn_eq fc h1 (fun h => Option.some_ne_none r (h3 ▸ h.2)),
    if_neg (by rw [h3, h8, Option.any_some, h4]; decide), if_neg (by rw [h3, h9, Option.any_some, h5]; decide),
    if_pos h2]
  simp only [h3, h6, h7, Option.bind_eq_bind, Option.bind_some, Option.pure_def, req_bind,
    collectScriptSigs_eq p.sigs hm, List.length_take, Bool.not_eq_true', decide_eq_false_iff_not, Int.not_lt]
  refine ite_ite_none _ ?_
  cases fc <;> simp only [if_true, if_false, Bool.false_eq_true] <;> omega

theorem finalizeIn_p2sh_fixed {spk r : Script} {m : Int} {rraw : Bytes}
    (hb : P2shBranch C txin p spk r m rraw) (hm : 1 ≤ m) (hk : (scriptKeys r.cmds).Nodup) :
    finalizeIn true C txin p =
      if m ≤ ((scriptSigs p.sigs r.cmds).length : Nat) then
        some (finalized p
          (some { cmds := .op 0 :: ((scriptSigs p.sigs r.cmds).take m.toNat).map .push ++ [.push rraw] })
          p.witness)
      else none := by
  have hle := scriptSigs_length_le p.sigs hk
  rw [finalizeIn_p2sh true hb hm]
  exact ite_congr (propext ⟨fun h => h.2, fun h => ⟨by omega, h⟩⟩) (fun _ => rfl) (fun _ => rfl)

theorem finalize_p2sh_iff {spk r : Script} {m : Int} {rraw : Bytes}
    (hb : P2shBranch C txin p spk r m rraw) (hm : 1 ≤ m) (hk : (scriptKeys r.cmds).Nodup) :
    (finalizeIn true C txin p).isSome ↔ m ≤ ((scriptSigs p.sigs r.cmds).length : Nat) := by
  rw [finalizeIn_p2sh_fixed hb hm hk]
  exact Option.isSome_ite

theorem P2shBranch.with_sigs {spk r : Script} {m : Int} {rraw : Bytes}
    (hb : P2shBranch C txin p spk r m rraw) (s' : Dict Bytes) :
    P2shBranch C txin { p with sigs := s' } spk r m rraw := { hb with }

theorem finalize_p2sh_set_only (s' : Dict Bytes) (hs : DNodup p.sigs) (hs' : DNodup s')
    (h : ∀ k, dget p.sigs k = dget s' k) :
    finalizeIn true C txin { p with sigs := s' } = finalizeIn true C txin p :=
  finalizeIn_sigs_ext true C txin p s' hs hs' h

theorem finalize_p2sh_set_only' {spk r : Script} {m : Int} {rraw : Bytes}
    (hb : P2shBranch C txin p spk r m rraw) (hm : 1 ≤ m) (hk : (scriptKeys r.cmds).Nodup)
    (s' : Dict Bytes) (h : ∀ k, dget p.sigs k = dget s' k) :
    finalizeIn true C txin { p with sigs := s' } = finalizeIn true C txin p := by
  rw [finalizeIn_p2sh_fixed hb hm hk, finalizeIn_p2sh_fixed (hb.with_sigs s') hm hk]
  simp only [scriptSigs_congr h r.cmds]
  rfl

/-- F10d: the unrepaired count includes the leading OP_0, so one missing signature goes unnoticed as soon
    as the dict holds `m` entries (e.g. one under a key that is not in the RedeemScript): the input
    is "finalised" with `m - 1` signatures, where the repaired code raises. -/
theorem F10d_general {spk r : Script} {m : Int} {rraw : Bytes}
    (hb : P2shBranch C txin p spk r m rraw) (hm : 1 ≤ m)
    (hshort : (scriptSigs p.sigs r.cmds).length + 1 = m.toNat) (hlen : m ≤ (p.sigs.length : Nat)) :
    finalizeIn false C txin p =
      some (finalized p
        (some { cmds := .op 0 :: (scriptSigs p.sigs r.cmds).map .push ++ [.push rraw] }) p.witness) ∧
    finalizeIn true C txin p = none := by
  rw [finalizeIn_p2sh false hb hm, finalizeIn_p2sh true hb hm]
  have h3 : (scriptSigs p.sigs r.cmds).take m.toNat = scriptSigs p.sigs r.cmds :=
    List.take_of_length_le (by omega)
  constructor
  · rw [if_pos ⟨hlen, by simp only [Bool.false_eq_true, if_false]; omega⟩, h3]
  · rw [if_neg (fun h => by simp only [if_true] at h; omega)]

theorem F10d_isSome {spk r : Script} {m : Int} {rraw : Bytes}
    (hb : P2shBranch C txin p spk r m rraw) (hm : 1 ≤ m)
    (hshort : (scriptSigs p.sigs r.cmds).length + 1 = m.toNat) (hlen : m ≤ (p.sigs.length : Nat)) :
    (finalizeIn false C txin p).isSome = true := by
  rw [(F10d_general hb hm hshort hlen).1]; rfl

/-- the `match` of the single-key branches (psbt.py: `len(self.sigs) != 1` raises) -/
theorem singleSig_isSome_iff {α} (s : Dict Bytes) (f : Bytes → Bytes → α) :
    (match s with | [(sec, sig)] => some (f sec sig) | _ => none).isSome ↔ s.length = 1 := by
  match s with
  | [] => exact ⟨nofun, nofun⟩
  | [(k, v)] => exact ⟨fun _ => rfl, fun _ => rfl⟩
  | _ :: _ :: _ => exact ⟨nofun, fun h => by simp only [List.length_cons] at h; omega⟩

theorem singleSig_eq_some {α} {s : Dict Bytes} {f : Bytes → Bytes → α} {q : α}
    (h : (match s with | [(sec, sig)] => some (f sec sig) | _ => none) = some q) :
    ∃ sec sig, s = [(sec, sig)] ∧ q = f sec sig := by
  split at h
  · exact ⟨_, _, rfl, (Option.some.inj h).symm⟩
  · cases h

structure P2wpkhBranch {Tx} (C : TxCodec Tx) (txin : TxInV) (p : PIn Tx) (spk : Script) : Prop where
  hspk : p.scriptPubkey C txin = some (some spk)
  redeemPresent : ¬ (isP2sh spk = true ∧ p.redeem = none)
  p2wpkh : isP2wpkh spk = true ∨ ∃ r, p.redeem = some r ∧ isP2wpkh r = true
  redeemRaw : ∀ r, p.redeem = some r → (rawOf r).isSome

theorem finalizeIn_p2wpkh {spk : Script} (fc : Bool) (hb : P2wpkhBranch C txin p spk) :
    finalizeIn fc C txin p =
      match p.sigs with
      | [(sec, sig)] => some (finalized p (segwitScriptSig p.redeem) (some [sig, sec]))
      | _ => none := by
  obtain ⟨h1, h2, h3, h4⟩ := hb
  obtain ⟨ss, hss⟩ := segwitScriptSig_eq_some h4
  rw [finalizeIn_eq fc h1 h2, if_pos (by rw [Bool.or_eq_true, Option.any_eq_true]; exact h3), hss]
  rfl

theorem finalize_p2wpkh_emits {spk : Script} (fc : Bool) (hb : P2wpkhBranch C txin p spk)
    {q : PIn Tx} (hq : finalizeIn fc C txin p = some q) :
    ∃ sec sig, p.sigs = [(sec, sig)] ∧
      q.witness = some [sig, sec] ∧ q.scriptSig = segwitScriptSig p.redeem ∧
      q.sigs = [] ∧ q.redeem = none ∧ q.witnessScript = none ∧ q.namedPubs = [] ∧ q.hashType = none ∧
      q.prevTx = p.prevTx ∧ q.prevOut = p.prevOut ∧ q.extra = p.extra ∧ q.value = p.value := by
  rw [finalizeIn_p2wpkh fc hb] at hq
  obtain ⟨sec, sig, e, rfl⟩ := singleSig_eq_some hq
  exact ⟨sec, sig, e, rfl, rfl, finalized_rest ..⟩

structure P2pkhBranch {Tx} (C : TxCodec Tx) (txin : TxInV) (p : PIn Tx) (spk : Script) : Prop where
  hspk : p.scriptPubkey C txin = some (some spk)
  p2pkh : isP2pkh spk = true
  /-- a (stray) RedeemScript of segwit shape would send a p2pkh input into the segwit branches -/
  redeemNotP2wpkh : ∀ r, p.redeem = some r → isP2wpkh r = false
  redeemNotP2wsh : ∀ r, p.redeem = some r → isP2wsh r = false

theorem finalizeIn_p2pkh {spk : Script} (fc : Bool) (hb : P2pkhBranch C txin p spk) :
    finalizeIn fc C txin p =
      match p.sigs with
      | [(sec, sig)] => some (finalized p (some { cmds := [.push sig, .push sec] }) p.witness)
      | _ => none := by
  obtain ⟨h1, h2, h3, h4⟩ := hb
  obtain ⟨h5, h6, h7⟩ := not_others_of_isP2pkh h2
  rw [finalizeIn_eq fc h1 (fun h => Bool.false_ne_true (h5 ▸ h.1)),
    if_neg (by rw [h6, (Option.any_eq_false ..).mpr h3]; decide),
    if_neg (by rw [h7, (Option.any_eq_false ..).mpr h4]; decide), if_neg (by rw [h5]; decide), if_pos h2]
  rfl

theorem finalize_p2pkh_emits {spk : Script} (fc : Bool) (hb : P2pkhBranch C txin p spk)
    {q : PIn Tx} (hq : finalizeIn fc C txin p = some q) :
    ∃ sec sig, p.sigs = [(sec, sig)] ∧
      q.scriptSig = some { cmds := [.push sig, .push sec] } ∧ q.witness = p.witness ∧
      q.sigs = [] ∧ q.redeem = none ∧ q.witnessScript = none ∧ q.namedPubs = [] ∧ q.hashType = none ∧
      q.prevTx = p.prevTx ∧ q.prevOut = p.prevOut ∧ q.extra = p.extra ∧ q.value = p.value := by
  rw [finalizeIn_p2pkh fc hb] at hq
  obtain ⟨sec, sig, e, rfl⟩ := singleSig_eq_some hq
  exact ⟨sec, sig, e, rfl, rfl, finalized_rest ..⟩

/-! ## PSBT.finalize: the lock-step loop over the transaction's inputs and the input maps -/

theorem zipWithM'_cons {α β γ : Type} (f : α → β → Option γ) (a : α) (as : List α) (b : β) (bs : List β) :
    zipWithM' f (a :: as) (b :: bs) = (f a b).bind fun c => (zipWithM' f as bs).map (c :: ·) := by
  rw [zipWithM']
  cases f a b <;> cases zipWithM' f as bs <;> rfl

theorem zipWithM'_eq_mapM {α β γ : Type} (f : α → β → Option γ) :
    ∀ (as : List α) (bs : List β), zipWithM' f as bs = (as.zip bs).mapM fun ab => f ab.1 ab.2
  | [], _ => by cases ‹List β› <;> rfl
  | _ :: _, [] => rfl
  | a :: as, b :: bs => by
    rw [zipWithM'_cons, List.zip_cons_cons, List.mapM_option_cons, zipWithM'_eq_mapM f as bs]

theorem zipWithM'_eq_none_iff {α β γ : Type} {f : α → β → Option γ} {as : List α} {bs : List β} :
    zipWithM' f as bs = none ↔ ∃ (j : Nat) (a : α) (b : β), as[j]? = some a ∧ bs[j]? = some b ∧ f a b = none := by
  simp only [zipWithM'_eq_mapM, List.mapM_eq_none_iff, List.mem_iff_getElem?, List.getElem?_zip_eq_some]
  exact ⟨fun ⟨⟨a, b⟩, ⟨j, ha, hb⟩, h⟩ => ⟨j, a, b, ha, hb, h⟩, fun ⟨j, a, b, ha, hb, h⟩ => ⟨(a, b), ⟨j, ha, hb⟩, h⟩⟩

theorem zipWithM'_some {α β γ : Type} {f : α → β → Option γ} {as : List α} {bs : List β} {cs : List γ}
    (h : zipWithM' f as bs = some cs) :
    cs.length = min as.length bs.length ∧
      ∀ (j : Nat) c, cs[j]? = some c → ∃ a b, as[j]? = some a ∧ bs[j]? = some b ∧ f a b = some c := by
  rw [zipWithM'_eq_mapM, List.mapM_eq_some_iff_map] at h
  refine ⟨by simpa using (congrArg List.length h).symm, fun j c hc => ?_⟩
  have hj := congrArg (·[j]?) h
  simp only [List.getElem?_map, hc, Option.map_some] at hj
  obtain ⟨⟨a, b⟩, hab, hf⟩ := Option.map_eq_some_iff.mp hj
  exact ⟨a, b, (List.getElem?_zip_eq_some.mp hab).1, (List.getElem?_zip_eq_some.mp hab).2, hf⟩

theorem finalize_eq {Tx : Type} (fc : Bool) (C : TxCodec Tx) (P : Psbt Tx) :
    finalize fc C P =
      if (C.ins P.tx).length = P.ins.length then
        (zipWithM' (finalizeIn fc C) (C.ins P.tx) P.ins).map fun ins => { P with ins := ins }
      else none := by
  unfold finalize
  by_cases h : (C.ins P.tx).length = P.ins.length
  · rw [if_pos h, beq_iff_eq.mpr h]
    cases zipWithM' (finalizeIn fc C) (C.ins P.tx) P.ins <;> rfl
  · rw [if_neg h, beq_eq_false_iff_ne.mpr h]
    rfl

/-! ## inhabitants of the branch hypotheses; F10d on a concrete input -/

/-- a transaction is its output list; nothing is serialised or parsed -/
def toyCodec : TxCodec (List TxOutV) where
  parseLegacy := fun _ => none
  parse := fun _ => none
  serialize := fun _ => some []
  serializeLegacy := fun _ => some []
  hash := fun _ => some []
  ins := fun _ => []
  outs := id
  finalSerialize := fun _ _ => some []

def toyTxin : TxInV := { prevTx := [], prevIndex := 0, scriptSigEmpty := true }

/-- 2-of-3 over the "keys" [1], [2], [3] -/
def toyMultisig : Script := { cmds := [.op 82, .push [1], .push [2], .push [3], .op 83, .op 174] }
def toyMultisigRaw : Bytes := [82, 1, 1, 1, 2, 1, 3, 83, 174]
def toyP2wshSpk : Script := { cmds := [.op 0, .push (List.replicate 32 0)] }
def toyP2shSpk : Script := { cmds := [.op 169, .push (List.replicate 20 0), .op 135] }

/-- p2wsh 2-of-3 with the signatures of keys [3] and [1] (inserted in that order) -/
def toyWitnessIn : PIn (List TxOutV) :=
  { prevOut := some { amount := 0, spk := toyP2wshSpk }
    witnessScript := some toyMultisig
    sigs := [([3], [0xA3]), ([1], [0xA1])] }

theorem toyWitnessBranch : WitnessBranch toyCodec toyTxin toyWitnessIn toyP2wshSpk toyMultisig 2 toyMultisigRaw :=
  ⟨by decide, by decide, by decide, (by intro r h; cases h), Or.inl (by decide), rfl, by decide, by decide,
   (by intro r h; cases h)⟩
example : WitnessBranch toyCodec toyTxin toyWitnessIn toyP2wshSpk toyMultisig 2 toyMultisigRaw := toyWitnessBranch
example : (scriptKeys toyMultisig.cmds).Nodup := by decide
example : DNodup toyWitnessIn.sigs := by unfold DNodup; decide
example : scriptSigs toyWitnessIn.sigs toyMultisig.cmds = [[0xA1], [0xA3]] := by decide
/-- the signatures come out in script order, not in insertion order -/
example : (finalizeIn true toyCodec toyTxin toyWitnessIn).map (fun q => (q.witness, q.scriptSig, q.sigs)) =
    some (some [[], [0xA1], [0xA3], toyMultisigRaw], some { cmds := [] }, []) := by decide +kernel
example : (finalizeIn true toyCodec toyTxin { toyWitnessIn with sigs := [([3], [0xA3])] }).isSome = false := by
  decide +kernel

/-- bare p2sh 2-of-3 with the signature of key [1] and a signature under a key that is not in the
    RedeemScript -/
def toyP2shIn : PIn (List TxOutV) :=
  { prevTx := some [{ amount := 0, spk := toyP2shSpk }]
    redeem := some toyMultisig
    sigs := [([1], [0xA1]), ([9], [0xA9])] }

example : P2shBranch toyCodec toyTxin toyP2shIn toyP2shSpk toyMultisig 2 toyMultisigRaw :=
  ⟨by decide, by decide, rfl, by decide, by decide, by decide, by decide⟩

/-- F10d on a concrete input: one of two required signatures, and the unrepaired code finalises with a
    ScriptSig `OP_0 <sig1> <RedeemScript>`; the repaired code raises -/
theorem F10d_witness :
    (finalizeIn false toyCodec toyTxin toyP2shIn).map (·.scriptSig) =
      some (some { cmds := [.op 0, .push [0xA1], .push toyMultisigRaw] }) ∧
    (finalizeIn true toyCodec toyTxin toyP2shIn).isSome = false := by decide +kernel

example :
    (finalizeIn true toyCodec toyTxin { toyP2shIn with sigs := [([2], [0xA2]), ([1], [0xA1])] }).map (·.scriptSig) =
      some (some { cmds := [.op 0, .push [0xA1], .push [0xA2], .push toyMultisigRaw] }) := by decide +kernel

/-- the hypothesis `(scriptKeys ws.cmds).Nodup` is needed: with the same key twice in the script
    "two script keys have signatures" although the dict has one entry, and `finalize` raises on its
    first test -/
example :
    let p : PIn (List TxOutV) :=
      { toyWitnessIn with
        witnessScript := some { cmds := [.op 82, .push [1], .push [1], .op 82, .op 174] }
        sigs := [([1], [0xA1])] }
    (scriptSigs p.sigs [.op 82, .push [1], .push [1], .op 82, .op 174]).length = 2 ∧
    (finalizeIn true toyCodec toyTxin p).isSome = false := by decide +kernel

def toyP2shP2wshIn : PIn (List TxOutV) :=
  { toyWitnessIn with prevOut := some { amount := 0, spk := toyP2shSpk }, redeem := some toyP2wshSpk }

example : WitnessBranch toyCodec toyTxin toyP2shP2wshIn toyP2shSpk toyMultisig 2 toyMultisigRaw :=
  ⟨by decide, by decide, by decide, (by intro r h; cases h; decide), Or.inr ⟨_, rfl, by decide⟩, rfl, by decide,
   by decide, (by intro r h; cases h; decide)⟩
example : (finalizeIn true toyCodec toyTxin toyP2shP2wshIn).map (fun q => (q.witness, q.scriptSig)) =
    some (some [[], [0xA1], [0xA3], toyMultisigRaw],
          some { cmds := [.push (0 :: 32 :: List.replicate 32 0)] }) := by decide +kernel

/-- the hypothesis `1 ≤ m` of the p2sh theorems is needed: with `OP_0` as quorum the p2sh loop stops
    after the first data push and emits its signature — one signature where "the first 0" are none
    (the p2wsh loop tests after the quorum opcode itself and emits none: `collectWitnessSigs_of_quorum`) -/
example :
    (finalizeIn true toyCodec toyTxin
      { toyP2shIn with redeem := some { cmds := [.op 0, .push [1], .op 81, .op 174] } }).map (·.scriptSig) =
      some (some { cmds := [.op 0, .push [0xA1], .push [0, 1, 1, 81, 174]] }) := by decide +kernel

def toyP2wpkhSpk : Script := { cmds := [.op 0, .push (List.replicate 20 0)] }
def toyP2pkhSpk : Script := { cmds := [.op 118, .op 169, .push (List.replicate 20 0), .op 136, .op 172] }

def toyP2wpkhIn : PIn (List TxOutV) :=
  { prevOut := some { amount := 0, spk := toyP2wpkhSpk }, sigs := [([2], [0xA2])] }
def toyP2pkhIn : PIn (List TxOutV) :=
  { prevTx := some [{ amount := 0, spk := toyP2pkhSpk }], sigs := [([2], [0xA2])] }

example : P2wpkhBranch toyCodec toyTxin toyP2wpkhIn toyP2wpkhSpk :=
  ⟨by decide, by decide, Or.inl (by decide), (by intro r h; cases h)⟩
example : (finalizeIn true toyCodec toyTxin toyP2wpkhIn).map (fun q => (q.witness, q.scriptSig)) =
    some (some [[0xA2], [2]], some { cmds := [] }) := by decide +kernel
example : P2pkhBranch toyCodec toyTxin toyP2pkhIn toyP2pkhSpk :=
  ⟨by decide, by decide, (by intro r h; cases h), (by intro r h; cases h)⟩
example : (finalizeIn true toyCodec toyTxin toyP2pkhIn).map (fun q => (q.witness, q.scriptSig)) =
    some (none, some { cmds := [.push [0xA2], .push [2]] }) := by decide +kernel
example : (finalizeIn true toyCodec toyTxin { toyP2pkhIn with sigs := [([2], [0xA2]), ([3], [0xA3])] }).isSome =
    false := by decide +kernel

end Buidl.Psbt
