/-
  Buidl.Proofs.WordTable — the checks over the generated word tables (`decide +kernel`), kept in a module of
  their own so that they are re-run only when a table, the checking function or the digit lemmas it reads the
  packed words with (Proofs/Digits) change.
-/
import Buidl.Model.Slip39Table
import Buidl.Proofs.Digits
namespace Buidl.Mnemonic
open Buidl

/-- the keys `WordList.__init__` stores for one word, in dict-assignment order reversed (prefix first) -/
def keysOf (w : PyStr) : List PyStr :=
  if cmpOp Gen.wlPrefixOp w.length Gen.wlPrefixOver then [w.take Gen.wlPrefixLen, w] else [w]

/-- an order-preserving numbering of short keys (left-aligned base-2^21 digits); used only as a
    certificate: equal keys have equal numbers -/
def encKey (k : PyStr) : Nat := (k ++ List.replicate (8 - k.length) 0).foldl (fun a c => a * 2097152 + c) 0

def increasingFrom : Nat → List Nat → Bool
  | _, [] => true
  | p, a :: r => decide (p < a) && increasingFrom a r

def increasing : List Nat → Bool
  | [] => true
  | a :: r => increasingFrom a r

def lowerWord (w : PyStr) : Bool := !w.isEmpty && w.all fun c => decide (97 ≤ c) && decide (c ≤ 122)

/-- one pass over a word table: all stored keys (word, four-letter prefix) listed in table order are strictly
    increasing under `encKey` — hence pairwise distinct — and every word is a non-empty string of `a`..`z` -/
def tableOK (ws : List PyStr) : Bool :=
  increasing ((ws.flatMap keysOf).map encKey) && ws.all lowerWord

/-- everything the theorems use about a loaded word list -/
def checkWL (n : Nat) : Option WordList → Bool
  | none => false
  | some wl => wl.words.length == n && tableOK wl.words

/-! The kernel does not decode the tables: a word is handed over as the number whose base-2^21 digits are its code
    points, and `encKey` reads a key in the same base, so the keys, the lengths and the `a`..`z` test can be had
    from the numbers by arithmetic (one short loop per word instead of several walks over its code points). -/

/-- the number whose base-2^21 digits are the code points of `w` (the generator's packing, and `encKey`'s):
    `Digits.ofDigitsBE 2097152 0 w` -/
def pack (w : PyStr) : Nat := w.foldl (fun a c => a * 2097152 + c) 0

theorem pack_append (a b : PyStr) : pack (a ++ b) = pack a * 2097152 ^ b.length + pack b :=
  (Digits.ofDigitsBE_append 0 a b).trans (Digits.ofDigitsBE_acc (pack a) b)

theorem pack_lt (w : PyStr) (h : ∀ c ∈ w, c < 2097152) : pack w < 2097152 ^ w.length :=
  Digits.ofDigitsBE_lt w h

theorem pack_take (w : PyStr) (k : Nat) (h : ∀ c ∈ w, c < 2097152) :
    pack (w.take k) = pack w / 2097152 ^ (w.length - k) := by
  have hd := pack_lt (w.drop k) fun c hc => h c (List.mem_of_mem_drop hc)
  have e := pack_append (w.take k) (w.drop k)
  rw [List.take_append_drop, List.length_drop] at e
  rw [List.length_drop] at hd
  rw [e, Nat.mul_comm, Nat.mul_add_div (Nat.pow_pos (by decide)), Nat.div_eq_of_lt hd, Nat.add_zero]

theorem encKey_eq (k : PyStr) : encKey k = pack k * 2097152 ^ (8 - k.length) := by
  have hz : ∀ m, pack (List.replicate m 0) = 0 := fun m => by
    induction m with
    | zero => rfl
    | succ m ih => rw [List.replicate_succ, pack, List.foldl_cons]; exact ih
  rw [encKey, ← pack, pack_append, hz, List.length_replicate, Nat.add_zero]

/-- `l` plus the number of code points of the word packed in `n`, provided all of them are `a`..`z`
    (the loop of `decodeWordAux`, on the number alone) -/
def scanLower : Nat → Nat → Nat → Option Nat
  | _, 0, l => some l
  | 0, _ + 1, _ => none
  | fuel + 1, n + 1, l =>
    bif Nat.ble 97 ((n + 1) % 2097152) && Nat.ble ((n + 1) % 2097152) 122 then
      scanLower fuel ((n + 1) / 2097152) (l + 1)
    else none

theorem scanLower_spec : ∀ (fuel n l L : Nat) (acc : PyStr), scanLower fuel n l = some L →
    ∃ w, decodeWordAux fuel n acc = some (w ++ acc) ∧ L = l + w.length ∧ (∀ c ∈ w, 97 ≤ c ∧ c ≤ 122) ∧ pack w = n
  | 0, 0, l, L, acc, h | _ + 1, 0, l, L, acc, h =>
    ⟨[], rfl, (Option.some.inj h).symm, fun _ hc => (nomatch hc), rfl⟩
  | 0, _ + 1, _, _, _, h => nomatch h
  | fuel + 1, n + 1, l, L, acc, h => by
    rw [scanLower] at h
    cases hc : Nat.ble 97 ((n + 1) % 2097152) && Nat.ble ((n + 1) % 2097152) 122 with
    | false => rw [hc] at h; exact nomatch h
    | true =>
      rw [hc, cond_true] at h
      rw [Bool.and_eq_true, Nat.ble_eq, Nat.ble_eq] at hc
      obtain ⟨w, hw, hL, hlow, hp⟩ := scanLower_spec fuel _ _ L ((n + 1) % 2097152 :: acc) h
      refine ⟨w ++ [(n + 1) % 2097152], ?_, ?_, ?_, ?_⟩
      · rw [decodeWordAux, List.append_assoc]; exact hw
      · rw [List.length_append, hL]; simp only [List.length_cons, List.length_nil]; omega
      · intro c hcm
        rcases List.mem_append.mp hcm with h1 | h1
        · exact hlow c h1
        · rw [List.mem_singleton.mp h1]; exact hc
      · rw [pack_append, hp]
        show _ * 2097152 ^ 1 + (0 * 2097152 + _) = _
        omega

/-- `(keysOf w).map encKey` for the word `w` of `l` code points packed in `n` -/
def packedKeys (n l : Nat) : List Nat :=
  if 4 < l then [n / 2097152 ^ (l - 4) * 2097152 ^ 4, n * 2097152 ^ (8 - l)] else [n * 2097152 ^ (8 - l)]

theorem packedKeys_eq (w : PyStr) (h : ∀ c ∈ w, c < 2097152) :
    (keysOf w).map encKey = packedKeys (pack w) w.length := by
  have hk : keysOf w = if 4 < w.length then [w.take 4, w] else [w] := by simp [keysOf, cmpOp, Gen.wlPrefixOp]
  rw [hk, packedKeys]
  split
  · next h4 =>
    rw [List.map_cons, List.map_cons, List.map_nil, encKey_eq, encKey_eq, pack_take w 4 h, List.length_take,
      Nat.min_eq_left (Nat.le_of_lt h4)]
  · rw [List.map_cons, List.map_nil, encKey_eq]

/-- `(ws.flatMap keysOf).map encKey` for the packed table, if every word is a non-empty string of `a`..`z` -/
def keysFrom : List Nat → Option (List Nat)
  | [] => some []
  | n :: r => match scanLower Gen.cpMaxWord n 0, keysFrom r with
    | some (l + 1), some ks => some (packedKeys n (l + 1) ++ ks)
    | _, _ => none

theorem keysFrom_spec : ∀ (packed ks : List Nat), keysFrom packed = some ks →
    ∃ ws, decodeWords packed = some ws ∧ ws.length = packed.length ∧ (ws.flatMap keysOf).map encKey = ks ∧
      ws.all lowerWord = true
  | [], _, h => ⟨[], rfl, rfl, Option.some.inj h, rfl⟩
  | n :: r, ks, h => by
    rw [keysFrom] at h
    split at h
    · next l ks' hs hr =>
      obtain ⟨w, hw, hl, hlow, hp⟩ := scanLower_spec _ n 0 _ [] hs
      obtain ⟨ws, hws, hlen, hks, hall⟩ := keysFrom_spec r ks' hr
      rw [List.append_nil] at hw
      rw [Nat.zero_add] at hl
      refine ⟨w :: ws, ?_, by rw [List.length_cons, List.length_cons, hlen], ?_, ?_⟩
      · rw [decodeWords, decodeWord, hw, hws]
      · rw [List.flatMap_cons, List.map_append, hks, packedKeys_eq w fun c hc => by have := hlow c hc; omega,
          hp, ← hl]
        exact Option.some.inj h
      · rw [List.all_cons, hall, Bool.and_true, lowerWord, Bool.and_eq_true]
        refine ⟨?_, List.all_eq_true.mpr fun c hc => ?_⟩
        · cases w with
          | nil => exact absurd hl (by simp)
          | cons _ _ => rfl
        · rw [Bool.and_eq_true, decide_eq_true_eq, decide_eq_true_eq]; exact hlow c hc
    · exact nomatch h

/-- `checkWL` on a table loaded from packed words, computed on the numbers -/
def checkPacked (n : Nat) (packed : List Nat) : Bool :=
  packed.length == n && match keysFrom packed with
    | some ks => increasing ks
    | none => false

theorem checkWL_of_packed (n : Nat) (packed : List Nat) (h : checkPacked n packed = true) :
    checkWL n (WordList.load packed n) = true := by
  rw [checkPacked, Bool.and_eq_true, beq_iff_eq] at h
  split at h
  · next ks hk =>
    obtain ⟨ws, hws, hlen, hks, hall⟩ := keysFrom_spec packed ks hk
    have hn : ws.length = n := hlen.trans h.1
    rw [WordList.load, hws]
    simp only [hn, bne_self_eq_false, Bool.false_eq_true, if_false, checkWL, tableOK, beq_self_eq_true, hks, h.2,
      hall, Bool.and_self]
  · exact nomatch h.2

/-- the BIP39 table of /repo: 2048 entries, all stored keys pairwise distinct, words in `a`..`z` -/
theorem bip39_check : checkWL 2048 BIP39? = true := checkWL_of_packed 2048 Gen.bip39WordNats (by decide +kernel)

/-- the SLIP39 table of /repo: 1024 entries, all stored keys pairwise distinct, words in `a`..`z` -/
theorem slip39_check : checkWL 1024 Buidl.Shamir.SLIP39? = true :=
  checkWL_of_packed 1024 Gen.slip39WordNats (by decide +kernel)

end Buidl.Mnemonic
