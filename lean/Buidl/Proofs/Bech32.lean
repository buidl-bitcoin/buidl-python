/-
  Buidl.Model.Bech32 below the address format: creating and verifying a checksum are one equation
  (`polymod_verify_iff`); `withChk` is the word the encoders write and, by that equation, the only one the decoders
  accept.  CBOR byte strings and bc32 round trip.
-/
import Buidl.Proofs.Polymod
import Buidl.Proofs.Regroup
import Buidl.Proofs.Base58
import Buidl.Proofs.Codec
namespace Buidl.Bech32
open Buidl Buidl.Base58

/-! ### the alphabet (and `indexOf?` on a character in / not in a table) -/

theorem alphabet_length : alphabet.length = 32 := by
  rw [alphabet, Gen.bech32Alphabet, String.toList_ofList]; rfl

theorem alphabet_nodup : alphabet.Nodup := by
  rw [alphabet, Gen.bech32Alphabet, String.toList_ofList]
  exact List.Nodup.of_map Char.toNat (by decide +kernel)

theorem one_not_mem_alphabet : '1' ∉ alphabet := by
  rw [alphabet, Gen.bech32Alphabet, String.toList_ofList]; decide +kernel

theorem alphabet_lower : ∀ c ∈ alphabet, asciiLower c = c := by
  rw [alphabet, Gen.bech32Alphabet, String.toList_ofList]; decide +kernel

def b32char (d : Nat) : Char := (alphabet[d]?).getD 'q'

theorem b32char_mem {d : Nat} (hd : d < 32) : b32char d ∈ alphabet := by
  rw [b32char, getD_getElem? alphabet 'q' (alphabet_length ▸ hd)]
  exact List.getElem_mem _

theorem indexOf?_b32char {d : Nat} (hd : d < 32) : indexOf? (b32char d) alphabet = some d :=
  indexOf?_getD alphabet_nodup 'q' (alphabet_length ▸ hd)

theorem b32char_inj {a b : Nat} (ha : a < 32) (hb : b < 32) (h : b32char a = b32char b) : a = b := by
  have := indexOf?_b32char ha
  rw [h, indexOf?_b32char hb] at this
  exact (Option.some.inj this).symm

theorem indexOf?_none_of_not_mem {c : Char} {l : Str} (h : c ∉ l) : indexOf? c l = none := by
  rw [indexOf?_eq_findIdx?]
  exact List.findIdx?_eq_none_iff.mpr fun x hx => beq_false_of_ne fun e => h (e ▸ hx)

theorem indexOf?_isSome_of_mem {c : Char} {l : Str} (h : c ∈ l) : ∃ i, indexOf? c l = some i := by
  rw [indexOf?_eq_findIdx?]
  exact Option.isSome_iff_exists.mp (List.findIdx?_isSome ▸ List.any_eq_true.mpr ⟨c, h, beq_self_eq_true c⟩)

theorem lookupAll32 (ds : List Nat) (h : ∀ d ∈ ds, d < 32) : lookupAll alphabet ds = some (ds.map b32char) :=
  lookupAll_eq_map alphabet 'q' ds (alphabet_length ▸ h)

theorem mapM_index_b32 (ds : List Nat) (h : ∀ d ∈ ds, d < 32) :
    (ds.map b32char).mapM (fun c => indexOf? c alphabet) = some ds :=
  mapM_indexOf?_map alphabet_nodup 'q' ds (alphabet_length ▸ h)

theorem mapM_index_some {cs : Str} {res : List Nat} (h : cs.mapM (fun c => indexOf? c alphabet) = some res) :
    cs = res.map b32char ∧ ∀ d ∈ res, d < 32 :=
  alphabet_length ▸ mapM_indexOf?_some 'q' h

/-! ### checksum creation versus verification -/

theorem chkDigits_eq (m : Nat) : chkDigits 5 5 31 6 m =
    [(m >>> 25) &&& 31, (m >>> 20) &&& 31, (m >>> 15) &&& 31, (m >>> 10) &&& 31, (m >>> 5) &&& 31, (m >>> 0) &&& 31] := by
  rfl

theorem chkDigits_eq_digitsBE (m : Nat) : chkDigits 5 5 31 6 m = Digits.digitsBE 32 6 m := by
  simp only [chkDigits_eq, Digits.digitsBE, and31, Nat.shiftRight_eq_div_pow, Nat.div_div_eq_div_mul, List.nil_append,
    List.cons_append, Nat.reducePow, Nat.reduceMul, Nat.div_one]

theorem chkDigits_length (m : Nat) : (chkDigits 5 5 31 6 m).length = 6 := by
  rw [chkDigits_eq_digitsBE, Digits.digitsBE_length]

theorem chkDigits_lt (m : Nat) : ∀ d ∈ chkDigits 5 5 31 6 m, d < 32 := by
  rw [chkDigits_eq_digitsBE]
  exact Digits.digitsBE_lt (by decide) 6 m

/-- verifying six checksum symbols is re-creating them -/
theorem polymod_verify_iff (values c6 : List Nat) (hlen : c6.length = 6) (hlt : ∀ d ∈ c6, d < 32) (cst : Nat)
    (hc : cst < 2 ^ 30) :
    polymod (values ++ c6) = cst ↔ c6 = chkDigits 5 5 31 6 (polymod (values ++ List.replicate 6 0) ^^^ cst) := by
  unfold polymod
  rw [polymodFrom_append, polymodFrom_append, chkDigits_eq_digitsBE]
  exact checksum.foldl_eq_iff _ hc c6 hlen hlt rfl

theorem polymod_create (values : List Nat) (c : Nat) (hc : c < 2 ^ 30) :
    polymod (values ++ chkDigits 5 5 31 6 (polymod (values ++ List.replicate 6 0) ^^^ c)) = c :=
  (polymod_verify_iff values _ (chkDigits_length _) (chkDigits_lt _) c hc).mpr rfl

/-! ### a word with its checksum -/

/-- `data` followed by the six symbols that make the checksum over `pv ‖ data ‖ ·` come out as `c`: what
    `encode_bech32_checksum` (with `pv` the expanded prefix) and `bc32encode` (with `pv = [0]`) write -/
def withChk (pv : List Nat) (c : Nat) (data : List Nat) : List Nat :=
  data ++ chkDigits 5 5 31 6 (polymod (pv ++ data ++ List.replicate 6 0) ^^^ c)

theorem withChk_lt {pv data : List Nat} {c : Nat} (h : ∀ d ∈ data, d < 32) : ∀ d ∈ withChk pv c data, d < 32 :=
  List.forall_mem_append.2 ⟨h, chkDigits_lt _⟩

theorem withChk_length (pv : List Nat) (c : Nat) (data : List Nat) : (withChk pv c data).length = data.length + 6 := by
  rw [withChk, List.length_append, chkDigits_length]

theorem pyButLast_withChk (pv : List Nat) (c : Nat) (data : List Nat) : pyButLast 6 (withChk pv c data) = data :=
  pyButLast_append _ _ 6 (chkDigits_length _)

theorem polymod_withChk (pv : List Nat) {c : Nat} (hc : c < 2 ^ 30) (data : List Nat) :
    polymod (pv ++ withChk pv c data) = c := by
  rw [withChk, ← List.append_assoc]
  exact polymod_create (pv ++ data) c hc

theorem polymod_eq_iff_withChk (pv : List Nat) {res : List Nat} {c : Nat} (hres : ∀ d ∈ res, d < 32)
    (h6 : 6 ≤ res.length) (hc : c < 2 ^ 30) : polymod (pv ++ res) = c ↔ res = withChk pv c (pyButLast 6 res) := by
  have hsplit := pyButLast_append_pyLast 6 res
  have hL : ∀ d ∈ pyLast 6 res, d < 32 := fun d hd => hres d (hsplit ▸ List.mem_append_right _ hd)
  have hw : pv ++ res = (pv ++ pyButLast 6 res) ++ pyLast 6 res := by rw [List.append_assoc, hsplit]
  rw [hw, polymod_verify_iff (pv ++ pyButLast 6 res) (pyLast 6 res) (pyLast_length 6 res h6) hL c hc, withChk]
  conv => rhs; lhs; rw [← hsplit]
  exact (List.append_right_inj _).symm

/-! ### CBOR byte strings -/

theorem cborEncCmp (n : Nat) : cmpAt Gen.cborEncCmp 0 n = decide (n ≤ 23) ∧
    cmpAt Gen.cborEncCmp 1 n = decide (n ≤ 255) ∧ cmpAt Gen.cborEncCmp 2 n = decide (n ≤ 65535) :=
  ⟨cmpOp_LtE n 23, cmpOp_LtE n 255, cmpOp_LtE n 65535⟩

theorem cborDecCmp (n : Nat) : cmpAt Gen.cborDecCmp 0 n = decide (n ≥ 64) ∧ cmpAt Gen.cborDecCmp 1 n = decide (n < 88) ∧
    cmpAt Gen.cborDecCmp 2 n = (n == 88) ∧ cmpAt Gen.cborDecCmp 3 n = (n == 89) ∧ cmpAt Gen.cborDecCmp 4 n = (n == 96) :=
  ⟨cmpOp_GtE n 64, cmpOp_Lt n 88, cmpOp_Eq n 88, cmpOp_Eq n 89, cmpOp_Eq n 96⟩

theorem cborEncode_eq (d : Bytes) (h : d.length < 2 ^ 32) :
    cborEncode d = some (
      if d.length ≤ 23 then UInt8.ofNat (0x40 + d.length) :: d
      else if d.length ≤ 255 then 0x58 :: UInt8.ofNat d.length :: d
      else if d.length ≤ 65535 then 0x59 :: (natToBE' 2 d.length ++ d)
      else 0x60 :: (natToBE' 4 d.length ++ d)) := by
  unfold cborEncode
  simp only [cborEncCmp, Gen.cborEncShort, Gen.cborEncP1, Gen.cborEncP2, Gen.cborEncP4,
    Gen.cborEncW2, Gen.cborEncW4, decide_eq_true_eq]
  by_cases h0 : d.length ≤ 23
  · have : 64 + d.length < 256 := by omega
    simp [h0, pyByte, this]
  · by_cases h1 : d.length ≤ 255
    · have : d.length < 256 := by omega
      simp [h0, h1, pyByte, this]
    · by_cases h2 : d.length ≤ 65535
      · have : d.length < 65536 := by omega
        simp [h0, h1, h2, natToBE, this]
      · have : d.length < 4294967296 := by omega
        simp [h0, h1, h2, natToBE, this]

theorem cborEncode_isSome_iff (d : Bytes) : (cborEncode d).isSome ↔ d.length < 2 ^ 32 := by
  constructor
  · intro h
    by_contra hlen
    unfold cborEncode at h
    simp only [cborEncCmp, Gen.cborEncW4, decide_eq_true_eq] at h
    have h0 : ¬ d.length ≤ 23 := by omega
    have h1 : ¬ d.length ≤ 255 := by omega
    have h2 : ¬ d.length ≤ 65535 := by omega
    simp [h0, h1, h2, natToBE] at h
    omega
  · intro h; rw [cborEncode_eq d h]; rfl

theorem cborDecode_cborEncode (d e : Bytes) (h : cborEncode d = some e) : cborDecode e = some d := by
  have hlen := (cborEncode_isSome_iff d).1 (by rw [h]; rfl)
  rw [cborEncode_eq d hlen] at h
  cases h
  by_cases h0 : d.length ≤ 23
  · have hb : (UInt8.ofNat (0x40 + d.length)).toNat = 64 + d.length := by
      rw [UInt8.toNat_ofNat']; omega
    simp only [h0, if_true, cborDecode, cborDecCmp, hb, Gen.cborDecShort]
    have h1 : 64 + d.length ≥ 64 := by omega
    have h2 : 64 + d.length < 88 := by omega
    simp [h1, h2]
  · by_cases h1 : d.length ≤ 255
    · have hb : (UInt8.ofNat d.length).toNat = d.length := by
        rw [UInt8.toNat_ofNat']; omega
      simp [h0, h1, cborDecode, cborDecCmp, Gen.cborDecW1, hb]
    · by_cases h2 : d.length ≤ 65535
      · have hl : d.length < 256 ^ 2 := by omega
        simp [h0, h1, h2, cborDecode, cborDecCmp, Gen.cborDecW2,
          List.take_left' (natToBE'_length 2 _), List.drop_left' (natToBE'_length 2 _),
          beToNat_natToBE' hl]
      · have hl : d.length < 256 ^ 4 := by omega
        simp [h0, h1, h2, cborDecode, cborDecCmp, Gen.cborDecW4,
          List.take_left' (natToBE'_length 4 _), List.drop_left' (natToBE'_length 4 _),
          beToNat_natToBE' hl]

theorem cborEncode_injective (d1 d2 e : Bytes) (h1 : cborEncode d1 = some e) (h2 : cborEncode d2 = some e) :
    d1 = d2 :=
  inj_of_roundtrip cborDecode_cborEncode h1 h2

/-! ### bc32 -/

theorem toBytes_map_toNat (data : Bytes) : toBytes (data.map (·.toNat)) = some data := by
  have hall : (data.map (·.toNat)).all (· < 256) = true :=
    List.all_eq_true.2 fun v hv => decide_eq_true (map_toNat_lt data v hv)
  rw [toBytes, if_pos hall, map_ofNat_toNat]

theorem convertbits_roundtrip (data : Bytes) :
    ∃ dd, convertbits (data.map (·.toNat)) 8 5 true = some dd ∧ (∀ d ∈ dd, d < 32) ∧
      convertbits dd 5 8 false = some (data.map (·.toNat)) := by
  obtain ⟨dd, pad, h1, hpad, hlen, hval, hlt⟩ :=
    convertbits_pad_spec 8 5 (by omega) (data.map (·.toNat)) (map_toNat_lt data)
  exact ⟨dd, h1, hlt, (convertbits_5_8_nopad_iff dd hlt _).mpr ⟨pad, hpad, by omega, hval.symm, map_toNat_lt data⟩⟩

theorem bc32encode_of_groups {data : Bytes} {dd : List Nat} (h1 : convertbits (data.map (·.toNat)) 8 5 true = some dd)
    (hlt : ∀ d ∈ dd, d < 32) : bc32encode data = some ((withChk [0] 0x3FFFFFFF dd).map b32char) := by
  unfold bc32encode
  simp only [Gen.bc32EncFrom, Gen.bc32EncTo, h1, Gen.bc32EncLead, Gen.bc32ChkPad, Gen.bc32ChkXor, Gen.bc32ChkBits,
    Gen.bc32ChkTop, Gen.bc32ChkMask, Gen.bc32ChkLen, Option.bind_eq_bind, Option.bind_some, List.replicate_one]
  exact lookupAll32 _ (withChk_lt hlt)

theorem bc32encode_eq (data : Bytes) :
    ∃ dd, convertbits (data.map (·.toNat)) 8 5 true = some dd ∧ (∀ d ∈ dd, d < 32) ∧
      convertbits dd 5 8 false = some (data.map (·.toNat)) ∧
      bc32encode data = some ((withChk [0] 0x3FFFFFFF dd).map b32char) := by
  obtain ⟨dd, h1, hlt, h2⟩ := convertbits_roundtrip data
  exact ⟨dd, h1, hlt, h2, bc32encode_of_groups h1 hlt⟩

theorem map_lower_b32 (ds : List Nat) (h : ∀ d ∈ ds, d < 32) : (ds.map b32char).map asciiLower = ds.map b32char := by
  -- by induction and not through `List.map_map`: given `(asciiLower ∘ b32char) d` (or `id (b32char d)`) beside
  -- `asciiLower (b32char d)` the kernel unfolds `asciiLower` and `b32char` down to the alphabet's string literal
  induction ds with
  | nil => rfl
  | cons d ds ih =>
    rw [List.map_cons, List.map_cons, alphabet_lower _ (b32char_mem (h d List.mem_cons_self)),
      ih fun x hx => h x (List.mem_cons_of_mem _ hx)]

theorem bc32decode_bc32encode (data : Bytes) (s : Str) (h : bc32encode data = some s) : bc32decode s = some data := by
  obtain ⟨dd, _, hlt, h2, he⟩ := bc32encode_eq data
  rw [he] at h
  cases h
  have hall := withChk_lt (pv := [0]) (c := 0x3FFFFFFF) hlt
  unfold bc32decode
  rw [map_lower_b32 _ hall, if_neg fun hc => hc.1 rfl]
  have hmem : ((withChk [0] 0x3FFFFFFF dd).map b32char).all (fun x => alphabet.contains x) = true := by
    rw [List.all_eq_true]
    intro c hc
    obtain ⟨d, hd, rfl⟩ := List.mem_map.mp hc
    simpa using b32char_mem (hall d hd)
  simp only [hmem, not_true_eq_false, if_false, mapM_index_b32 _ hall, Gen.bc32DecLead, Gen.bc32DecConst,
    List.replicate_one, polymod_withChk [0] (by decide : 0x3FFFFFFF < 2 ^ 30), ne_eq, Gen.bc32DecCut, Gen.bc32DecFrom,
    Gen.bc32DecTo, Gen.bc32DecPad, pyButLast_withChk, h2]
  exact toBytes_map_toNat data

theorem bc32encode_injective (d1 d2 : Bytes) (s : Str) (h1 : bc32encode d1 = some s) (h2 : bc32encode d2 = some s) :
    d1 = d2 :=
  inj_of_roundtrip bc32decode_bc32encode h1 h2

theorem bc32encode_isSome (data : Bytes) : (bc32encode data).isSome := by
  obtain ⟨dd, _, _, _, he⟩ := bc32encode_eq data
  rw [he]; rfl

/-- the text of `n` bytes has ⌈8n/5⌉ + 6 characters -/
theorem bc32encode_length (data : Bytes) (s : Str) (h : bc32encode data = some s) :
    5 * (s.length - 6) < 8 * data.length + 5 ∧ 8 * data.length ≤ 5 * (s.length - 6) ∧ 6 ≤ s.length := by
  obtain ⟨dd, pad, h1, hpad, hlen, _, hlt⟩ :=
    convertbits_pad_spec 8 5 (by omega) (data.map (·.toNat)) (map_toNat_lt data)
  rw [bc32encode_of_groups h1 hlt] at h; cases h
  simp only [List.length_map, withChk_length] at hlen ⊢
  omega

end Buidl.Bech32
