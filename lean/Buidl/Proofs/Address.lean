/-
  Addresses (Buidl.Model.Address).  The segwit address of a witness program is written out per network (`segwitAddr`
  over `hrpOf` / `hxOf`), so that writing and reading it are instances of the lemmas of Bech32Addr; the first character
  of a Base58Check address comes from bounds on the leading base-58 digit (`encodeBase58_head`).
-/
import Buidl.Model.Address
import Buidl.Proofs.Base58Check
import Buidl.Proofs.Bech32Addr
namespace Buidl.Address
open Buidl Buidl.Base58 Buidl.Bech32 Buidl.Script

/-! ### networks -/

def mainnet : Str := "mainnet".toList
def testnet : Str := "testnet".toList
def signet : Str := "signet".toList
def regtest : Str := "regtest".toList

def KnownNet (net : Str) : Prop := net = mainnet ∨ net = testnet ∨ net = signet ∨ net = regtest

/-- the network `decode_bech32` reports for an address made for `net` (signet shares "tb") -/
def netBack (net : Str) : Str := if net = signet then testnet else net

/-- the human-readable part `encode_bech32_checksum` writes for a network -/
def hrpOf (net : Str) : Str :=
  if net = mainnet then ['b', 'c'] else if net = regtest then ['b', 'c', 'r', 't'] else ['t', 'b']

theorem prefixOf_known {net : Str} (h : KnownNet net) : prefixOf net = some (hrpOf net) := by
  rcases h with rfl | rfl | rfl | rfl <;> decide +kernel

theorem netForPrefix_known {net : Str} (h : KnownNet net) : netForPrefix (hrpOf net) = some (netBack net) := by
  rcases h with rfl | rfl | rfl | rfl <;> decide +kernel

theorem netBack_ne_nil {net : Str} (h : KnownNet net) : netBack net ≠ [] := by
  rcases h with rfl | rfl | rfl | rfl <;> decide +kernel

theorem hrpOf_ne_nil (net : Str) : hrpOf net ≠ [] := by
  unfold hrpOf; split
  · simp
  · split <;> simp

/-- `hrp_expand` of that part -/
def hxOf (net : Str) : List Nat :=
  if net = mainnet then [3, 3, 0, 2, 3] else if net = regtest then [3, 3, 3, 3, 0, 2, 3, 18, 20] else [3, 3, 0, 20, 2]

theorem hrpExpand_hrpOf (net : Str) : hrpExpand (hrpOf net) = some (hxOf net) := by
  unfold hrpOf hxOf; split
  · decide
  · split <;> decide

theorem hrpOf_cases (net : Str) : hrpOf net = ['b', 'c'] ∨ hrpOf net = ['t', 'b'] ∨ hrpOf net = ['b', 'c', 'r', 't'] := by
  unfold hrpOf; split
  · exact Or.inl rfl
  · split
    · exact Or.inr (Or.inr rfl)
    · exact Or.inr (Or.inl rfl)

theorem decodeBech32_hrpOf (net chars : Str) :
    decodeBech32 (hrpOf net ++ '1' :: chars) = decodeBody (hrpOf net) chars := by
  rcases hrpOf_cases net with e | e | e <;> rw [e]
  · exact decodeBech32_plain _ _ (by decide) rfl
  · exact decodeBech32_plain _ _ (by decide) rfl
  · exact decodeBech32_regtest '1' chars

/-! ### the segwit address of a witness program and its decoding -/

def segwitAddr (net : Str) (v : Nat) (prog : Bytes) : Str :=
  hrpOf net ++ '1' :: (addrData (hxOf net) v prog).map b32char

theorem encode_segwit {net : Str} (hnet : KnownNet net) (v : Nat) (hv : v ≤ 16) (prog : Bytes) (hne : prog ≠ [])
    (hlen : prog.length < 256) :
    encodeBech32Checksum (vbyte v :: UInt8.ofNat prog.length :: prog) net = some (segwitAddr net v prog) :=
  encodeBech32Checksum_built net (hrpOf net) (hxOf net) (prefixOf_known hnet) (hrpOf_ne_nil net) (hrpExpand_hrpOf net)
    v hv prog hne hlen

theorem decode_segwit {net : Str} (hnet : KnownNet net) (v : Nat) (hv : v < 32) (prog : Bytes)
    (hlen : 2 ≤ prog.length ∧ prog.length ≤ 40) :
    decodeBech32 (segwitAddr net v prog) = some (netBack net, v, prog) := by
  rw [segwitAddr, decodeBech32_hrpOf]
  exact decodeBody_built (hrpOf net) (netBack net) (hxOf net) (netForPrefix_known hnet) (netBack_ne_nil hnet)
    (hrpExpand_hrpOf net) v hv prog hlen

theorem segwitAddr_length (net : Str) (v : Nat) (prog : Bytes) (hne : prog ≠ []) :
    ∃ pad, pad < 5 ∧ ((segwitAddr net v prog).length - (hrpOf net).length - 8) * 5 = 8 * prog.length + pad ∧
      (hrpOf net).length + 8 ≤ (segwitAddr net v prog).length := by
  obtain ⟨pad, hpad, hg, _, _⟩ := group32_spec prog hne
  refine ⟨pad, hpad, ?_⟩
  simp only [segwitAddr, addrData, withChk_length, List.length_append, List.length_cons, List.length_map]
  omega

theorem segwitAddr_eq (net : Str) (v : Nat) (prog : Bytes) :
    ∃ rest, segwitAddr net v prog = hrpOf net ++ '1' :: b32char v :: rest := by
  exact ⟨((addrData (hxOf net) v prog).map b32char).tail, by simp [segwitAddr, addrData, withChk]⟩

/-! ### witness programs of the templates -/

theorem rawSerialize_two (opn : Nat) (h : Bytes) (hop : opn ≤ 255) (hl : h.length ≤ 75) :
    Script.rawSerialize { cmds := [.op opn, .push h] } = some (UInt8.ofNat opn :: UInt8.ofNat h.length :: h) := by
  have h255 : h.length ≤ 255 := by omega
  simp [Script.rawSerialize, Script.serCmds, Script.serCmd, Script.intToByte, cmpAt, cmpOp, Gen.rawSerCmp, hop, hl, h255]

theorem p2wpkh_program (h : Bytes) (hl : h.length ≤ 75) :
    (Spk.p2wpkh h).rawSerialize = some (vbyte 0 :: UInt8.ofNat h.length :: h) := by
  simpa [Spk.rawSerialize, Spk.cmds, Gen.p2wpkhOps, vbyte] using rawSerialize_two 0 h (by omega) hl

theorem p2wsh_program (h : Bytes) (hl : h.length ≤ 75) :
    (Spk.p2wsh h).rawSerialize = some (vbyte 0 :: UInt8.ofNat h.length :: h) := by
  simpa [Spk.rawSerialize, Spk.cmds, Gen.p2wshOps, vbyte] using rawSerialize_two 0 h (by omega) hl

theorem p2tr_program (h : Bytes) (hl : h.length ≤ 75) :
    (Spk.p2tr h).rawSerialize = some (vbyte 1 :: UInt8.ofNat h.length :: h) := by
  simpa [Spk.rawSerialize, Spk.cmds, Gen.p2trOps, vbyte] using rawSerialize_two 81 h (by omega) hl

/-! ### first characters -/

theorem take_one_of_head {s : Str} {c : Char} (h : s.head? = some c) : s.take 1 = [c] := by
  cases s with
  | nil => simp at h
  | cons x xs => simp at h; simp [h]

theorem b58char_heads : b58char 1 = '2' ∧ b58char 2 = '3' ∧ b58char 44 = 'm' ∧ b58char 45 = 'n' := by
  simp only [b58char, Base58.alphabet, Gen.base58Alphabet]
  rw [String.toList_ofList]
  decide

/-- testnet P2PKH (version 0x6f, 25 bytes with the checksum): the text starts with 'm' or 'n' -/
theorem head_6f (rest : Bytes) (hl : rest.length = 24) (s : Str) (h : encodeBase58 (0x6f :: rest) = some s) :
    s.head? = some 'm' ∨ s.head? = some 'n' := by
  obtain ⟨d, h1, h2, h3⟩ := encodeBase58_head 0x6f rest s 33 44 46 (by omega) (by omega)
    (by rw [hl]; decide) (by rw [hl]; decide) h
  have : d = 44 ∨ d = 45 := by omega
  rcases this with rfl | rfl
  · left; rw [h3, b58char_heads.2.2.1]
  · right; rw [h3, b58char_heads.2.2.2]

/-- mainnet P2SH (version 0x05): the text starts with '3' -/
theorem head_05 (rest : Bytes) (hl : rest.length = 24) (s : Str) (h : encodeBase58 (0x05 :: rest) = some s) :
    s.head? = some '3' := by
  obtain ⟨d, h1, h2, h3⟩ := encodeBase58_head 0x05 rest s 33 2 3 (by omega) (by omega)
    (by rw [hl]; decide) (by rw [hl]; decide) h
  have : d = 2 := by omega
  subst this
  rw [h3, b58char_heads.2.1]

/-- testnet P2SH (version 0xc4): the text starts with '2' -/
theorem head_c4 (rest : Bytes) (hl : rest.length = 24) (s : Str) (h : encodeBase58 (0xc4 :: rest) = some s) :
    s.head? = some '2' := by
  obtain ⟨d, h1, h2, h3⟩ := encodeBase58_head 0xc4 rest s 34 1 2 (by omega) (by omega)
    (by rw [hl]; decide) (by rw [hl]; decide) h
  have : d = 1 := by omega
  subst this
  rw [h3, b58char_heads.1]

theorem base58_first_char (hash256 : Bytes → Bytes) (hh : ∀ b, (hash256 b).length = 32) (v : UInt8) (h : Bytes)
    (hl : h.length = 20) (s : Str) (he : encodeBase58Checksum hash256 (v :: h) = some s) :
    (v = 0x00 → s.take 1 = ['1']) ∧ (v = 0x6f → s.take 1 = ['m'] ∨ s.take 1 = ['n']) ∧
    (v = 0x05 → s.take 1 = ['3']) ∧ (v = 0xc4 → s.take 1 = ['2']) := by
  unfold encodeBase58Checksum at he
  simp only [Gen.b58EncChecksumWidth, List.cons_append] at he
  have hrest : (h ++ (hash256 (v :: h)).take 4).length = 24 := by
    simp [hl, hh]
  refine ⟨?_, ?_, ?_, ?_⟩ <;> intro hv <;> subst hv
  · exact take_one_of_head (encodeBase58_head_zero _ s he)
  · rcases head_6f _ hrest s he with e | e
    · exact Or.inl (take_one_of_head e)
    · exact Or.inr (take_one_of_head e)
  · exact take_one_of_head (head_05 _ hrest s he)
  · exact take_one_of_head (head_c4 _ hrest s he)

/-! ### `encode_base58_checksum` of version byte ‖ hash, and `decode_base58` of its text -/

theorem encodeBase58Checksum_isSome (hash256 : Bytes → Bytes) (v : UInt8) (h : Bytes) :
    ∃ s, encodeBase58Checksum hash256 (v :: h) = some s :=
  ⟨_, encodeBase58_eq _ (by simp)⟩

theorem decodeBase58_encode (hash256 : Bytes → Bytes) (hh : ∀ b, (hash256 b).length = 32) (v : UInt8) (h : Bytes)
    (s : Str) (he : encodeBase58Checksum hash256 (v :: h) = some s) : decodeBase58 hash256 s = some h := by
  unfold decodeBase58
  rw [rawDecodeBase58_encodeBase58Checksum hash256 (fun b => by rw [hh b]; omega) _ _ he]
  simp [Gen.b58DecodeVersionWidth]

end Buidl.Address
