/-
  Buidl.Proofs.Bip37 — BIP37 partial Merkle trees at the level of the specification (Buidl.Spec.Merkle), no model
  definition involved.  The successful runs of TraverseAndExtract are derivations `Extracts`, one constructor per kind
  of node of a partial tree.  Completeness is extract ∘ build; soundness and the effect of altering a hash are
  collision extractions by induction on derivations; `extractProof_*` state the three for a whole proof.
-/
import Buidl.Proofs.MerkleRoot
namespace Buidl.Merkle
open Buidl Buidl.Spec.Merkle

/-! ## TraverseAndExtract: its equations, and its successful runs as derivations -/

theorem extract_zero_cons (H : Bytes → Bytes) (c : Nat) (b : Bool) (bits : List Bool) (x : Bytes) (hs : List Bytes) :
    extract H 0 c (b :: bits) (x :: hs) = some (x, if b then [x] else [], bits, hs) := by rw [extract]

theorem extract_zero_none (H : Bytes → Bytes) (c : Nat) (bits : List Bool) (hs : List Bytes) (h : bits = [] ∨ hs = []) :
    extract H 0 c bits hs = none := by
  rcases h with rfl | rfl
  · rw [extract]; simp
  · cases bits <;> (rw [extract]; simp)

theorem extract_succ_nil (H : Bytes → Bytes) (h c : Nat) (hs : List Bytes) : extract H (h + 1) c [] hs = none := by
  rw [extract]

theorem extract_succ_false_nil (H : Bytes → Bytes) (h c : Nat) (bits : List Bool) :
    extract H (h + 1) c (false :: bits) [] = none := by rw [extract]

theorem extract_succ_false (H : Bytes → Bytes) (h c : Nat) (bits : List Bool) (x : Bytes) (hs : List Bytes) :
    extract H (h + 1) c (false :: bits) (x :: hs) = some (x, [], bits, hs) := by rw [extract]

theorem extract_succ_true (H : Bytes → Bytes) (h c : Nat) (bits : List Bool) (hs : List Bytes) :
    extract H (h + 1) c (true :: bits) hs =
      match extract H h (min c (2 ^ h)) bits hs with
      | none => none
      | some (l, ml, bits, hs) =>
        if c > 2 ^ h then
          match extract H h (c - 2 ^ h) bits hs with
          | none => none
          | some (r, mr, bits, hs) => some (H (l ++ r), ml ++ mr, bits, hs)
        else some (H (l ++ l), ml, bits, hs) := by rw [extract]; rfl

/-- TraverseAndExtract looks at the leaf count only at an expanded inner node, and there only up to the node's
    capacity (`2 ^ h` at height `h`) -/
theorem extract_min (H : Bytes → Bytes) : ∀ (h c : Nat) (fb : List Bool) (hs : List Bytes),
    extract H h (min c (2 ^ h)) fb hs = extract H h c fb hs
  | h + 1, c, true :: fb, hs => by
    have hp := Nat.two_pow_pos h
    rw [extract_succ_true, extract_succ_true, Nat.pow_succ',
      show min (min c (2 * 2 ^ h)) (2 ^ h) = min c (2 ^ h) by omega,
      show min c (2 * 2 ^ h) - 2 ^ h = min (c - 2 ^ h) (2 ^ h) by omega]
    simp only [show min c (2 * 2 ^ h) > 2 ^ h ↔ c > 2 ^ h by omega, extract_min H h (c - 2 ^ h)]
  | 0, c, fb, hs => by cases fb <;> cases hs <;> rfl
  | h + 1, c, [], hs => rfl
  | h + 1, c, false :: fb, hs => by cases hs <;> rfl

/-- `Extracts H h c fb hs x m fb' hs'`: TraverseAndExtract at a node of height `h` over `c` leaves consumes `fb`, `hs`
    down to `fb'`, `hs'` and yields the hash `x` and the matches `m`.  One constructor per kind of node of a partial
    tree; the failing runs of `extract` have no derivation. -/
inductive Extracts (H : Bytes → Bytes) :
    Nat → Nat → List Bool → List Bytes → Bytes → List Bytes → List Bool → List Bytes → Prop
  | leaf (c : Nat) (b : Bool) (fb : List Bool) (x : Bytes) (hs : List Bytes) :
      Extracts H 0 c (b :: fb) (x :: hs) x (if b then [x] else []) fb hs
  | skip (h c : Nat) (fb : List Bool) (x : Bytes) (hs : List Bytes) :
      Extracts H (h + 1) c (false :: fb) (x :: hs) x [] fb hs
  | both {h c : Nat} {fb fb1 fb2 : List Bool} {hs hs1 hs2 ml mr : List Bytes} {l r : Bytes} :
      Extracts H h (min c (2 ^ h)) fb hs l ml fb1 hs1 → c > 2 ^ h → Extracts H h (c - 2 ^ h) fb1 hs1 r mr fb2 hs2 →
      Extracts H (h + 1) c (true :: fb) hs (H (l ++ r)) (ml ++ mr) fb2 hs2
  | single {h c : Nat} {fb fb1 : List Bool} {hs hs1 ml : List Bytes} {l : Bytes} :
      Extracts H h (min c (2 ^ h)) fb hs l ml fb1 hs1 → ¬ c > 2 ^ h →
      Extracts H (h + 1) c (true :: fb) hs (H (l ++ l)) ml fb1 hs1

theorem Extracts.extract_eq {H : Bytes → Bytes} {h c : Nat} {fb fb' : List Bool} {hs hs' m : List Bytes} {x : Bytes}
    (e : Extracts H h c fb hs x m fb' hs') : extract H h c fb hs = some (x, m, fb', hs') := by
  induction e with
  | leaf => exact extract_zero_cons ..
  | skip => exact extract_succ_false ..
  | both _ hc _ ihL ihR => rw [extract_succ_true, ihL]; simp only [if_pos hc, ihR]
  | single _ hc ihL => rw [extract_succ_true, ihL]; simp only [if_neg hc]

theorem Extracts.of_extract_eq {H : Bytes → Bytes} {h c : Nat} {fb fb' : List Bool} {hs hs' m : List Bytes} {x : Bytes}
    (e : extract H h c fb hs = some (x, m, fb', hs')) : Extracts H h c fb hs x m fb' hs' := by
  -- the branches of `extract` in the order it is written: four of the nine succeed, one per constructor
  fun_induction extract H h c fb hs generalizing x m fb' hs' with
  | case1 => cases e; exact .leaf ..
  | case5 => cases e; exact .skip ..
  | case8 _ _ _ _ _ _ _ _ hL hc _ _ _ _ hR ihL ihR => cases e; exact .both (ihL hL) hc (ihR hR)
  | case9 _ _ _ _ _ _ _ _ hL hc ihL => cases e; exact .single (ihL hL) hc
  | case2 | case3 | case4 | case6 | case7 => cases e

/-! ## BIP37 completeness: extract ∘ build -/

def segMatched (seg : List (Bytes × Bool)) : List Bytes := (seg.filter (·.2)).map (·.1)

theorem segMatched_take_drop (seg : List (Bytes × Bool)) (k : Nat) :
    segMatched (seg.take k) ++ segMatched (seg.drop k) = segMatched seg := by
  unfold segMatched
  rw [← List.map_append, ← List.filter_append, List.take_append_drop]

theorem segMatched_nil_of_not_any (seg : List (Bytes × Bool)) (h : seg.any (·.2) = false) : segMatched seg = [] := by
  unfold segMatched
  rw [List.filter_eq_nil_iff.mpr fun a ha => by simpa using List.any_eq_false.mp h a ha]
  rfl

/-- parsing what TraverseAndBuild wrote gives back the node's hash and the matched leaves, and consumes exactly
    what was written -/
theorem build_extracts (H : Bytes → Bytes) : ∀ (h : Nat) (seg : List (Bytes × Bool)) (rf : List Bool) (rh : List Bytes),
    seg.length ≤ 2 ^ h →
    Extracts H h seg.length ((build H h seg).1 ++ rf) ((build H h seg).2 ++ rh)
      (calcHash H h (seg.map (·.1))) (segMatched seg) rf rh
  | 0, [], rf, rh, _ => .leaf ..
  | 0, [(x, b)], rf, rh, _ => by cases b <;> exact .leaf ..
  | 0, _ :: _ :: _, _, _, h1 => by simp at h1
  | h + 1, seg, rf, rh, h1 => by
    by_cases hany : seg.any (·.2) = true
    · have lenL : (seg.take (2 ^ h)).length = min seg.length (2 ^ h) := by rw [List.length_take, Nat.min_comm]
      have ihL := fun rf rh => build_extracts H h (seg.take (2 ^ h)) rf rh (by rw [lenL]; exact Nat.min_le_right _ _)
      rw [lenL] at ihL
      rw [calcHash_succ, List.length_map, ← List.map_take, ← List.map_drop]
      by_cases hc : seg.length > 2 ^ h
      · have lenR : (seg.drop (2 ^ h)).length = seg.length - 2 ^ h := List.length_drop
        have ihR := build_extracts H h (seg.drop (2 ^ h)) rf rh (by rw [lenR]; rw [Nat.pow_succ'] at h1; omega)
        rw [lenR] at ihR
        simp only [build, hany, hc, if_true, List.cons_append, List.append_assoc, ← segMatched_take_drop seg (2 ^ h)]
        exact .both (ihL _ _) hc ihR
      · simp only [build, hany, hc, if_true, if_false, List.cons_append]
        have hm : segMatched (seg.take (2 ^ h)) = segMatched seg := by rw [List.take_of_length_le (Nat.le_of_not_gt hc)]
        rw [← hm]
        exact .single (ihL rf rh) hc
    · simp only [build, hany, segMatched_nil_of_not_any seg (by simpa using hany)]
      exact .skip ..

/-! ## BIP37 soundness with collision extraction -/

theorem _root_.Buidl.Spec.Merkle.CollisionBetween.mono {H : Bytes → Bytes} {A A' B B' : List Bytes} (hA : ∀ a ∈ A, a ∈ A') (hB : ∀ b ∈ B, b ∈ B')
    (h : CollisionBetween H A B) : CollisionBetween H A' B' := by
  obtain ⟨a, ha, b, hb, hne, heq⟩ := h
  exact ⟨a, hA a ha, b, hB b hb, hne, heq⟩

theorem _root_.Buidl.Spec.Merkle.CollisionBetween.head {H : Bytes → Bytes} {a b : Bytes} {A B : List Bytes} (hne : a ≠ b) (heq : H a = H b) :
    CollisionBetween H (a :: A) (b :: B) := ⟨a, List.mem_cons_self, b, List.mem_cons_self, hne, heq⟩

theorem _root_.Buidl.Spec.Merkle.CollisionBetween.tail {H : Bytes → Bytes} {a b : Bytes} {A B : List Bytes} (h : CollisionBetween H A B) :
    CollisionBetween H (a :: A) (b :: B) := h.mono (fun _ => List.mem_cons_of_mem _) (fun _ => List.mem_cons_of_mem _)

theorem _root_.Buidl.Spec.Merkle.CollisionBetween.append_left {H : Bytes → Bytes} {A A' B B' : List Bytes} (h : CollisionBetween H A B) :
    CollisionBetween H (A ++ A') (B ++ B') := h.mono (fun _ => List.mem_append_left _) (fun _ => List.mem_append_left _)

theorem _root_.Buidl.Spec.Merkle.CollisionBetween.append_right {H : Bytes → Bytes} {A A' B B' : List Bytes} (h : CollisionBetween H A' B') :
    CollisionBetween H (A ++ A') (B ++ B') := h.mono (fun _ => List.mem_append_right _) (fun _ => List.mem_append_right _)

theorem calcPre_succ (H : Bytes → Bytes) (h : Nat) (seg : List Bytes) :
    calcPre H (h + 1) seg =
      if seg.length > 2 ^ h then
        (calcHash H h (seg.take (2 ^ h)) ++ calcHash H h (seg.drop (2 ^ h))) ::
          (calcPre H h (seg.take (2 ^ h)) ++ calcPre H h (seg.drop (2 ^ h)))
      else (calcHash H h (seg.take (2 ^ h)) ++ calcHash H h (seg.take (2 ^ h))) :: calcPre H h (seg.take (2 ^ h)) := rfl

theorem extractPre_both {H : Bytes → Bytes} {h c : Nat} {fb fb1 fb2 : List Bool} {hs hs1 hs2 ml mr : List Bytes} {l r : Bytes}
    (hL : extract H h (min c (2 ^ h)) fb hs = some (l, ml, fb1, hs1)) (hc : c > 2 ^ h)
    (hR : extract H h (c - 2 ^ h) fb1 hs1 = some (r, mr, fb2, hs2)) :
    extractPre H (h + 1) c (true :: fb) hs
      = (l ++ r) :: (extractPre H h (min c (2 ^ h)) fb hs ++ extractPre H h (c - 2 ^ h) fb1 hs1) := by
  rw [extractPre, hL]; simp only [hc, if_true, hR]

theorem extractPre_single {H : Bytes → Bytes} {h c : Nat} {fb fb1 : List Bool} {hs hs1 ml : List Bytes} {l : Bytes}
    (hL : extract H h (min c (2 ^ h)) fb hs = some (l, ml, fb1, hs1)) (hc : ¬ c > 2 ^ h) :
    extractPre H (h + 1) c (true :: fb) hs = (l ++ l) :: extractPre H h (min c (2 ^ h)) fb hs := by
  rw [extractPre, hL]; simp only [hc, if_false]

theorem calcHash_length (H : Bytes → Bytes) (hH : ∀ b, (H b).length = 32) :
    ∀ (h : Nat) (seg : List Bytes), 0 < seg.length → (∀ y ∈ seg, y.length = 32) → (calcHash H h seg).length = 32
  | 0, a :: _, _, hs => hs a List.mem_cons_self
  | _ + 1, _, _, _ => hH _

theorem Extracts.length {H : Bytes → Bytes} (hH : ∀ b, (H b).length = 32) {h c : Nat} {fb fb' : List Bool}
    {hs hs' m : List Bytes} {x : Bytes} (e : Extracts H h c fb hs x m fb' hs') (hl : ∀ y ∈ hs, y.length = 32) :
    x.length = 32 ∧ ∀ y ∈ hs', y.length = 32 := by
  induction e with
  | leaf | skip => exact ⟨hl _ List.mem_cons_self, fun y hy => hl y (List.mem_cons_of_mem _ hy)⟩
  | both _ _ _ ihL ihR => exact ⟨hH _, (ihR (ihL hl).2).2⟩
  | single _ _ ihL => exact ⟨hH _, (ihL hl).2⟩

/-- A traversal over the leaf count of `seg` that arrives at the true hash of `seg` yields only leaves of `seg`:
    walking down from the root, either both children carry the true hashes of the two halves, or the two
    preimages of the common parent hash differ — a collision between a string hashed while parsing and one hashed
    while computing the root. -/
theorem Extracts.sound {H : Bytes → Bytes} (hH : ∀ b, (H b).length = 32) {h c : Nat} {fb fb' : List Bool}
    {hs hs' m : List Bytes} {x : Bytes} (e : Extracts H h c fb hs x m fb' hs') :
    ∀ seg : List Bytes, seg.length = c → 0 < c → (∀ y ∈ seg, y.length = 32) → (∀ y ∈ hs, y.length = 32) →
      x = calcHash H h seg →
      (∀ t ∈ m, t ∈ seg) ∨ CollisionBetween H (extractPre H h c fb hs) (calcPre H h seg) := by
  induction e with
  | leaf c b fb x hs =>
    intro seg hlen h0 _ _ hx
    match seg, hlen with
    | a :: _, _ => left; cases b <;> simp [hx, calcHash]
    | [], hlen => subst hlen; simp at h0
  | skip => intro _ _ _ _ _ _; left; intro t ht; cases ht
  | @both h c fb fb1 fb2 hs hs1 hs2 ml mr l r eL hc eR ihL ihR =>
    intro seg hlen h0 hseg hl hx
    subst hlen
    have hp := Nat.two_pow_pos h
    have lenL : (seg.take (2 ^ h)).length = min seg.length (2 ^ h) := by rw [List.length_take, Nat.min_comm]
    have hsegL : ∀ y ∈ seg.take (2 ^ h), y.length = 32 := fun y hy => hseg y (List.mem_of_mem_take hy)
    have lenxl := eL.length hH hl
    have lencl := calcHash_length H hH h (seg.take (2 ^ h)) (by omega) hsegL
    rw [calcHash_succ, if_pos hc] at hx
    rw [extractPre_both eL.extract_eq hc eR.extract_eq, calcPre_succ, if_pos hc]
    by_cases heq : l ++ r = calcHash H h (seg.take (2 ^ h)) ++ calcHash H h (seg.drop (2 ^ h))
    · obtain ⟨e1, e2⟩ := List.append_inj heq (by rw [lenxl.1, lencl])
      rcases ihL (seg.take (2 ^ h)) lenL (by omega) hsegL hl e1 with hl1 | hcol
      · rcases ihR (seg.drop (2 ^ h)) List.length_drop (by omega) (fun y hy => hseg y (List.mem_of_mem_drop hy)) lenxl.2 e2 with
          hr1 | hcol
        · left
          intro t ht
          rcases List.mem_append.mp ht with ht | ht
          · exact List.mem_of_mem_take (hl1 t ht)
          · exact List.mem_of_mem_drop (hr1 t ht)
        · exact .inr hcol.append_right.tail
      · exact .inr hcol.append_left.tail
    · exact .inr (.head heq hx)
  | @single h c fb fb1 hs hs1 ml l eL hc ihL =>
    intro seg hlen h0 hseg hl hx
    subst hlen
    have hp := Nat.two_pow_pos h
    have lenL : (seg.take (2 ^ h)).length = min seg.length (2 ^ h) := by rw [List.length_take, Nat.min_comm]
    have hsegL : ∀ y ∈ seg.take (2 ^ h), y.length = 32 := fun y hy => hseg y (List.mem_of_mem_take hy)
    have lencl := calcHash_length H hH h (seg.take (2 ^ h)) (by omega) hsegL
    rw [calcHash_succ, if_neg hc] at hx
    rw [extractPre_single eL.extract_eq hc, calcPre_succ, if_neg hc]
    by_cases heq : l ++ l = calcHash H h (seg.take (2 ^ h)) ++ calcHash H h (seg.take (2 ^ h))
    · obtain ⟨e1, _⟩ := List.append_inj heq (by rw [(eL.length hH hl).1, lencl])
      rcases ihL (seg.take (2 ^ h)) lenL (by omega) hsegL hl e1 with hl1 | hcol
      · exact .inl fun t ht => List.mem_of_mem_take (hl1 t ht)
      · exact .inr hcol.tail
    · exact .inr (.head heq hx)

/-! ## altering a hash: the computed root determines the consumed hashes, or a collision is exhibited -/

theorem Extracts.root_determines {H : Bytes → Bytes} (hH : ∀ b, (H b).length = 32) {h c : Nat} {fb fb1 : List Bool}
    {hs1 r1 m1 : List Bytes} {x1 : Bytes} (e1 : Extracts H h c fb hs1 x1 m1 fb1 r1) :
    ∀ {fb2 : List Bool} {hs2 r2 m2 : List Bytes} {x2 : Bytes}, Extracts H h c fb hs2 x2 m2 fb2 r2 → x1 = x2 →
      (∀ y ∈ hs1, y.length = 32) → (∀ y ∈ hs2, y.length = 32) →
      (∃ p, hs1 = p ++ r1 ∧ hs2 = p ++ r2 ∧ fb1 = fb2 ∧ m1 = m2) ∨
        CollisionBetween H (extractPre H h c fb hs1) (extractPre H h c fb hs2) := by
  induction e1 with
  | leaf c b fb x hs =>
    intro fb2 hs2 r2 m2 x2 e2 hx _ _
    cases e2; subst hx
    exact .inl ⟨[x], rfl, rfl, rfl, rfl⟩
  | skip h c fb x hs =>
    intro fb2 hs2 r2 m2 x2 e2 hx _ _
    cases e2; subst hx
    exact .inl ⟨[x], rfl, rfl, rfl, rfl⟩
  | @both h c fb f1 g1 hs1 s1 u1 ml1 mr1 xl1 xr1 eL1 hc eR1 ihL ihR =>
    intro fb2 hs2 r2 m2 x2 e2 hx hl1 hl2
    cases e2 with
    | single _ hc' => exact absurd hc hc'
    | @both _ _ _ f2 _ _ s2 _ ml2 mr2 xl2 xr2 eL2 _ eR2 =>
      have len1 := eL1.length hH hl1
      have len2 := eL2.length hH hl2
      rw [extractPre_both eL1.extract_eq hc eR1.extract_eq, extractPre_both eL2.extract_eq hc eR2.extract_eq]
      by_cases heq : xl1 ++ xr1 = xl2 ++ xr2
      · obtain ⟨el, er⟩ := List.append_inj heq (by rw [len1.1, len2.1])
        rcases ihL eL2 el hl1 hl2 with ⟨p, hp1, hp2, rfl, rfl⟩ | hcol
        · rcases ihR eR2 er len1.2 len2.2 with ⟨q, hq1, hq2, rfl, rfl⟩ | hcol
          · exact .inl ⟨p ++ q, by rw [hp1, hq1, List.append_assoc], by rw [hp2, hq2, List.append_assoc], rfl, rfl⟩
          · exact .inr hcol.append_right.tail
        · exact .inr hcol.append_left.tail
      · exact .inr (.head heq hx)
  | @single h c fb f1 hs1 s1 ml1 xl1 eL1 hc ihL =>
    intro fb2 hs2 r2 m2 x2 e2 hx hl1 hl2
    cases e2 with
    | both _ hc' _ => exact absurd hc' hc
    | @single _ _ _ f2 _ s2 ml2 xl2 eL2 _ =>
      rw [extractPre_single eL1.extract_eq hc, extractPre_single eL2.extract_eq hc]
      by_cases heq : xl1 ++ xl1 = xl2 ++ xl2
      · obtain ⟨el, _⟩ := List.append_inj heq (by rw [(eL1.length hH hl1).1, (eL2.length hH hl2).1])
        rcases ihL eL2 el hl1 hl2 with hsame | hcol
        · exact .inl hsame
        · exact .inr hcol.tail
      · exact .inr (.head heq hx)

/-! ## a whole proof: `extractProof` -/

theorem extractProof_eq_some_iff {H : Bytes → Bytes} {n : Nat} {fl : List Bool} {hs : List Bytes} {r : Bytes}
    {m : List Bytes} :
    extractProof H n fl hs = some (r, m) ↔
      0 < n ∧ ∃ fb', Extracts H (ceilLog2 n) n fl hs r m fb' [] ∧ fb'.any id = false := by
  unfold extractProof
  by_cases hn : n = 0
  · simp [hn]
  · rw [if_neg hn]
    constructor
    · intro h
      split at h
      · next x m' fb' hex =>
        split at h
        · cases h
        · next hany =>
          cases h
          exact ⟨by omega, fb', .of_extract_eq hex, by simpa using hany⟩
      · cases h
    · rintro ⟨_, fb', e, hany⟩
      rw [e.extract_eq]
      simp [hany]

theorem extractProof_buildProof (H : Bytes → Bytes) {ids : List Bytes} {matched : List Bool} (hne : ids ≠ [])
    (hm : ids.length ≤ matched.length) :
    extractProof H (buildProof H ids matched).1 (buildProof H ids matched).2.2 (buildProof H ids matched).2.1
      = some (treeRoot H ids, matchedIds ids matched) := by
  have h0 : 0 < ids.length := List.length_pos_iff.mpr hne
  have hzl : (ids.zip matched).length = ids.length := by rw [List.length_zip, Nat.min_eq_left hm]
  have hb := build_extracts H (ceilLog2 ids.length) (ids.zip matched)
    (List.replicate ((8 - (build H (ceilLog2 ids.length) (ids.zip matched)).1.length % 8) % 8) false) []
    (by rw [hzl]; exact (ceilLog2_spec _).1)
  rw [hzl, List.append_nil, List.map_fst_zip (by omega)] at hb
  exact extractProof_eq_some_iff.mpr ⟨h0, _, hb, by simp⟩

/-- for the true transaction count `ids.length`: with a forged count the claim fails (F17b, `C17.F17b_witness`) -/
theorem extractProof_sound {H : Bytes → Bytes} (hH : ∀ b, (H b).length = 32) {ids : List Bytes}
    (hids : ∀ y ∈ ids, y.length = 32) {fl : List Bool} {hs : List Bytes} (hhs : ∀ y ∈ hs, y.length = 32)
    {m : List Bytes} (h : extractProof H ids.length fl hs = some (treeRoot H ids, m)) :
    (∀ t ∈ m, t ∈ ids) ∨
      CollisionBetween H (extractPre H (ceilLog2 ids.length) ids.length fl hs) (calcPre H (ceilLog2 ids.length) ids) := by
  obtain ⟨h0, fb', e, _⟩ := extractProof_eq_some_iff.mp h
  exact e.sound hH ids rfl h0 hids hhs rfl

theorem extractProof_determines {H : Bytes → Bytes} (hH : ∀ b, (H b).length = 32) {n : Nat} {fl : List Bool}
    {hs hs' : List Bytes} (hl : ∀ y ∈ hs, y.length = 32) (hl' : ∀ y ∈ hs', y.length = 32) {r : Bytes} {m m' : List Bytes}
    (h : extractProof H n fl hs = some (r, m)) (h' : extractProof H n fl hs' = some (r, m')) :
    (hs = hs' ∧ m = m') ∨
      CollisionBetween H (extractPre H (ceilLog2 n) n fl hs) (extractPre H (ceilLog2 n) n fl hs') := by
  obtain ⟨_, f, e, _⟩ := extractProof_eq_some_iff.mp h
  obtain ⟨_, f', e', _⟩ := extractProof_eq_some_iff.mp h'
  rcases e.root_determines hH e' rfl hl hl' with ⟨q, hq, hq', _, hm⟩ | hc
  · exact .inl ⟨by rw [hq, hq'], hm⟩
  · exact .inr hc

/-! ## ids in the other byte order -/

theorem segMatched_zip (ids : List Bytes) (matched : List Bool) : segMatched (ids.zip matched) = matchedIds ids matched := rfl

theorem matchedIds_map (f : Bytes → Bytes) (ids : List Bytes) (matched : List Bool) :
    matchedIds (ids.map f) matched = (matchedIds ids matched).map f := by
  unfold matchedIds
  rw [List.zip_map_left, List.filter_map, List.map_map, List.map_map]
  rfl

theorem map_reverse_reverse (l : List Bytes) : (l.map List.reverse).map List.reverse = l := by
  rw [List.map_map]
  exact List.map_id'' List.reverse_reverse l

end Buidl.Merkle
