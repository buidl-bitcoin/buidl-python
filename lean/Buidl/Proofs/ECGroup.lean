/-
  Buidl.Proofs.ECGroup — the model of buidl/pecc.py FieldElement / Point (Buidl.Model.EC) computes
  the field operations of `ZMod p` and the group law of the short Weierstrass curve
  `y² = x³ + a x + b` over `ZMod p`, for every prime `p > 3` and every non-singular curve.

  Data refinement goes through the casts `ℕ → ZMod p` and a representation relation
  `Rep : Pt → (SW p a b).Point → Prop` into Mathlib's `WeierstrassCurve.Affine.Point`
  (an `AddCommGroup`).  The last section (`Valid`, `toGroup`, `pneg` and the laws of `padd`, `pmul`,
  each read off the group's law through `Rep.eq`: two points that represent the same group element are
  equal) can be used without knowledge of Mathlib's elliptic-curve library.
-/
import Mathlib.AlgebraicGeometry.EllipticCurve.Affine.Point
import Mathlib.FieldTheory.Finite.Basic
import Mathlib.Tactic.Ring
import Buidl.Model.EC

namespace Buidl.EC
open WeierstrassCurve

/-! ## modular exponentiation and FieldElement operations are the operations of `ZMod p` -/

theorem powmodAux_cast (m : ℕ) : ∀ (fuel b e acc : ℕ), e < 2 ^ fuel →
    ((powmodAux fuel b e m acc : ℕ) : ZMod m) = (acc : ZMod m) * (b : ZMod m) ^ e := by
  intro fuel
  induction fuel with
  | zero =>
    intro b e acc h
    rw [Nat.lt_one_iff.mp h, pow_zero, mul_one]; rfl
  | succ n ih =>
    intro b e acc h
    unfold powmodAux
    split
    · next h0 => rw [h0, pow_zero, mul_one]
    · -- `e = 2 * (e / 2) + e % 2`: the base is squared, the accumulator takes the factor `b ^ (e % 2)`
      rw [ih _ _ _ (by omega), ZMod.natCast_mod, Nat.cast_mul, ← sq, ← pow_mul]
      conv_rhs => rw [← Nat.div_add_mod e 2, pow_add, ← mul_assoc, mul_right_comm]
      rcases Nat.mod_two_eq_zero_or_one e with h2 | h2
      · rw [h2, if_neg (by decide), pow_zero, mul_one]
      · rw [h2, if_pos rfl, pow_one, ZMod.natCast_mod, Nat.cast_mul]

theorem powmod_cast (b e m : ℕ) : ((powmod b e m : ℕ) : ZMod m) = (b : ZMod m) ^ e := by
  unfold powmod
  rw [powmodAux_cast m _ _ _ _ Nat.lt_log2_self, ZMod.natCast_mod, ZMod.natCast_mod, Nat.cast_one,
    one_mul]

/-- the result is reduced modulo `m` (no condition for `m = 0`, where `x % 0 = x`) -/
theorem powmodAux_mod (m : ℕ) : ∀ (fuel b e acc : ℕ), acc % m = acc →
    powmodAux fuel b e m acc % m = powmodAux fuel b e m acc := by
  intro fuel
  induction fuel with
  | zero => intro b e acc h; exact h
  | succ n ih =>
    intro b e acc h
    unfold powmodAux
    split
    · exact h
    · apply ih
      split
      · exact Nat.mod_mod _ _
      · exact h

theorem powmod_mod (b e m : ℕ) : powmod b e m % m = powmod b e m :=
  powmodAux_mod m _ _ _ _ (Nat.mod_mod _ _)

theorem powmod_lt (b e m : ℕ) (hm : 0 < m) : powmod b e m < m := by
  rw [← powmod_mod]
  exact Nat.mod_lt _ hm

theorem powmod_eq (b e m : ℕ) : powmod b e m = b ^ e % m := by
  rw [← powmod_mod, ← ZMod.natCast_eq_natCast_iff', powmod_cast, Nat.cast_pow]

variable (p : ℕ) [hp : Fact p.Prime]

theorem cast_inj_of_lt {x y : ℕ} (hx : x < p) (hy : y < p) (h : (x : ZMod p) = (y : ZMod p)) :
    x = y := by
  have := congrArg ZMod.val h
  rwa [ZMod.val_natCast_of_lt hx, ZMod.val_natCast_of_lt hy] at this

theorem cast_ne_zero_of_lt {x : ℕ} (hx : x < p) (h0 : x ≠ 0) : (x : ZMod p) ≠ 0 :=
  fun h => h0 (cast_inj_of_lt p hx hp.out.pos (h.trans Nat.cast_zero.symm))

theorem fadd_cast (a b : ℕ) : ((fadd p a b : ℕ) : ZMod p) = (a : ZMod p) + (b : ZMod p) := by
  unfold fadd; rw [ZMod.natCast_mod, Nat.cast_add]

theorem fmul_cast (a b : ℕ) : ((fmul p a b : ℕ) : ZMod p) = (a : ZMod p) * (b : ZMod p) := by
  unfold fmul; rw [ZMod.natCast_mod, Nat.cast_mul]

theorem fsub_cast (a b : ℕ) : ((fsub p a b : ℕ) : ZMod p) = (a : ZMod p) - (b : ZMod p) := by
  unfold fsub
  have hb : b % p < p := Nat.mod_lt _ hp.out.pos
  rw [ZMod.natCast_mod, Nat.cast_add, Nat.cast_sub (by omega), ZMod.natCast_self, ZMod.natCast_mod]
  ring

theorem inv_eq_pow (x : ZMod p) (hx : x ≠ 0) : x⁻¹ = x ^ (p - 2) := by
  have h2 : 2 ≤ p := hp.out.two_le
  refine (eq_inv_of_mul_eq_one_right ?_).symm
  rw [← pow_succ', show p - 2 + 1 = p - 1 by omega]
  exact ZMod.pow_card_sub_one_eq_one hx

theorem fdiv_cast (a b : ℕ) (hb : (b : ZMod p) ≠ 0) :
    ((fdiv p a b : ℕ) : ZMod p) = (a : ZMod p) / (b : ZMod p) := by
  unfold fdiv
  rw [ZMod.natCast_mod, Nat.cast_mul, powmod_cast, div_eq_mul_inv, inv_eq_pow p _ hb]

/-- dividing by zero yields zero (as `ZMod p` does: `x / 0 = 0`), for `p > 2` -/
theorem fdiv_cast_zero (a b : ℕ) (hb : (b : ZMod p) = 0) (h2 : 2 < p) :
    ((fdiv p a b : ℕ) : ZMod p) = 0 := by
  unfold fdiv
  rw [ZMod.natCast_mod, Nat.cast_mul, powmod_cast, hb, zero_pow (by omega), mul_zero]

/-- FieldElement.__pow__ is exponentiation in `ZMod p`, except for `0 ** k(p-1)` with `k > 0`
    (observation O03c: the code answers 1) -/
theorem fpow_cast (x n : ℕ) (h : (x : ZMod p) ≠ 0 ∨ n % (p - 1) ≠ 0 ∨ n = 0) :
    ((fpow p x n : ℕ) : ZMod p) = (x : ZMod p) ^ n := by
  unfold fpow
  rw [powmod_cast]
  by_cases hx : (x : ZMod p) = 0
  · rcases h with h | h | h
    · exact absurd hx h
    · have hn : n ≠ 0 := by rintro rfl; simp at h
      rw [hx, zero_pow h, zero_pow hn]
    · subst h; simp
  · exact (pow_eq_pow_mod n (ZMod.pow_card_sub_one_eq_one hx)).symm

omit hp in
/-- O03c: `FieldElement(0, p) ** (p - 1)` is 1 in the code -/
theorem fpow_zero_card_sub_one (h2 : 2 ≤ p) : fpow p 0 (p - 1) = 1 := by
  unfold fpow
  rw [Nat.mod_self, powmod_eq, pow_zero, Nat.mod_eq_of_lt (by omega)]

/-- an exponent below `p - 1` is not reduced -/
theorem fpow_cast_of_lt (x : ℕ) {n : ℕ} (h0 : n ≠ 0) (h : n < p - 1) :
    ((fpow p x n : ℕ) : ZMod p) = (x : ZMod p) ^ n :=
  fpow_cast p x n (Or.inr (Or.inl (by rwa [Nat.mod_eq_of_lt h])))

theorem fpow_two_cast (h3 : 3 < p) (x : ℕ) : ((fpow p x 2 : ℕ) : ZMod p) = (x : ZMod p) ^ 2 :=
  fpow_cast_of_lt p x (by decide) (by omega)

theorem fpow_three_cast (h3 : 3 < p) (x : ℕ) : ((fpow p x 3 : ℕ) : ZMod p) = (x : ZMod p) ^ 3 := by
  have : p ≠ 4 := by rintro rfl; exact absurd hp.out (by decide)
  exact fpow_cast_of_lt p x (by decide) (by omega)

theorem fadd_lt (a b : ℕ) : fadd p a b < p := Nat.mod_lt _ hp.out.pos
theorem fsub_lt (a b : ℕ) : fsub p a b < p := Nat.mod_lt _ hp.out.pos
theorem fmul_lt (a b : ℕ) : fmul p a b < p := Nat.mod_lt _ hp.out.pos
theorem fdiv_lt (a b : ℕ) : fdiv p a b < p := Nat.mod_lt _ hp.out.pos
theorem fpow_lt (a n : ℕ) : fpow p a n < p := powmod_lt _ _ _ hp.out.pos

theorem two_ne_zero_of_gt (h3 : 3 < p) : (2 : ZMod p) ≠ 0 := by
  have : ((2 : ℕ) : ZMod p) ≠ 0 := cast_ne_zero_of_lt p (by omega) (by omega)
  simpa using this

theorem three_ne_zero_of_gt (h3 : 3 < p) : (3 : ZMod p) ≠ 0 := by
  have : ((3 : ℕ) : ZMod p) ≠ 0 := cast_ne_zero_of_lt p (by omega) (by omega)
  simpa using this

/-! ## the curve `y² = x³ + a x + b` over `ZMod p` -/

def SW (p a b : ℕ) : WeierstrassCurve.Affine (ZMod p) := ⟨0, 0, 0, (a : ZMod p), (b : ZMod p)⟩

/-- characteristic `> 3`, and non-singular: `4a³ + 27b²` is the discriminant up to a unit (`SW_Δ`) -/
structure CurveOK (p a b : ℕ) : Prop where
  gt3 : 3 < p
  nonsing : (4 * a ^ 3 + 27 * b ^ 2) % p ≠ 0

instance (p a b : ℕ) : Decidable (CurveOK p a b) :=
  decidable_of_iff (3 < p ∧ (4 * a ^ 3 + 27 * b ^ 2) % p ≠ 0)
    ⟨fun h => ⟨h.1, h.2⟩, fun h => ⟨h.1, h.2⟩⟩

variable (a b : ℕ)

theorem SW_Δ : (SW p a b).Δ = -(2 ^ 4 * ((4 * a ^ 3 + 27 * b ^ 2 : ℕ) : ZMod p)) := by
  simp only [SW, WeierstrassCurve.Δ, WeierstrassCurve.b₂, WeierstrassCurve.b₄,
    WeierstrassCurve.b₆, WeierstrassCurve.b₈, Nat.cast_add, Nat.cast_mul, Nat.cast_pow, Nat.cast_ofNat]
  ring

theorem SW_Δ_ne_zero (hc : CurveOK p a b) : (SW p a b).Δ ≠ 0 := by
  rw [SW_Δ]
  refine neg_ne_zero.mpr (mul_ne_zero (pow_ne_zero 4 (two_ne_zero_of_gt p hc.gt3)) fun h => hc.nonsing ?_)
  rwa [ZMod.natCast_eq_zero_iff, Nat.dvd_iff_mod_eq_zero] at h

theorem SW_equation_iff (x y : ZMod p) :
    (SW p a b).Equation x y ↔ y ^ 2 = x ^ 3 + (a : ZMod p) * x + (b : ZMod p) := by
  rw [Affine.equation_iff]; simp [SW]

theorem SW_nonsingular_iff (hc : CurveOK p a b) (x y : ZMod p) :
    (SW p a b).Nonsingular x y ↔ y ^ 2 = x ^ 3 + (a : ZMod p) * x + (b : ZMod p) := by
  rw [← Affine.equation_iff_nonsingular_of_Δ_ne_zero (SW_Δ_ne_zero p a b hc), SW_equation_iff]

@[simp] theorem SW_negY (x y : ZMod p) : (SW p a b).negY x y = -y := by
  simp [Affine.negY, SW]

theorem SW_addX (x₁ x₂ ℓ : ZMod p) : (SW p a b).addX x₁ x₂ ℓ = ℓ ^ 2 - x₁ - x₂ := by
  simp only [Affine.addX, SW]; ring

theorem SW_addY (x₁ x₂ y₁ ℓ : ZMod p) :
    (SW p a b).addY x₁ x₂ y₁ ℓ = ℓ * (x₁ - (ℓ ^ 2 - x₁ - x₂)) - y₁ := by
  simp only [Affine.addY, Affine.negAddY, Affine.negY, Affine.addX, SW]; ring

/-! ## representation relation -/

inductive Rep : Pt → (SW p a b).Point → Prop
  | inf : Rep .inf 0
  | aff (x y : ℕ) (hx : x < p) (hy : y < p)
      (h : (SW p a b).Nonsingular (x : ZMod p) (y : ZMod p)) : Rep (.aff x y) (.some _ _ h)

theorem Rep.mk' {X Y : ZMod p} (hXY : (SW p a b).Nonsingular X Y) {x y : ℕ} (hx : x < p) (hy : y < p)
    (ex : (x : ZMod p) = X) (ey : (y : ZMod p) = Y) : Rep p a b (.aff x y) (.some X Y hXY) := by
  subst ex; subst ey
  exact Rep.aff x y hx hy hXY

variable {p a b}

theorem Rep.lt {P : Pt} {A : (SW p a b).Point} (h : Rep p a b P A) :
    match P with | .inf => True | .aff x y => x < p ∧ y < p := by
  cases h <;> simp [*]

/-- what chord and tangent share: once the model's `s` is the slope of the curve's line, the model's
    `x₃` and `y₃ = s (x₁ - x₃) - y₁` are the coordinates of the sum -/
theorem rep_add_of_slope {x1 y1 x2 y2 s x3 : ℕ}
    {h1 : (SW p a b).Nonsingular (x1 : ZMod p) (y1 : ZMod p)}
    {h2 : (SW p a b).Nonsingular (x2 : ZMod p) (y2 : ZMod p)}
    (hxy : ¬((x1 : ZMod p) = x2 ∧ (y1 : ZMod p) = (SW p a b).negY x2 y2))
    (hs : (s : ZMod p) = (SW p a b).slope (x1 : ZMod p) x2 y1 y2)
    (hx3 : (x3 : ZMod p) = (s : ZMod p) ^ 2 - x1 - x2) (hlt : x3 < p) :
    Rep p a b (.aff x3 (fsub p (fmul p s (fsub p x1 x3)) y1))
      (Affine.Point.some _ _ h1 + Affine.Point.some _ _ h2) := by
  rw [Affine.Point.add_some hxy]
  refine Rep.mk' p a b _ hlt (fsub_lt p _ _) ?_ ?_
  · rw [hx3, hs, SW_addX]
  · rw [fsub_cast, fmul_cast, fsub_cast, hx3, hs, SW_addY]

theorem rep_add_of_X_ne (h3 : 3 < p) (x1 y1 x2 y2 : ℕ) (hx1 : x1 < p) (hx2 : x2 < p)
    (h1 : (SW p a b).Nonsingular (x1 : ZMod p) (y1 : ZMod p))
    (h2 : (SW p a b).Nonsingular (x2 : ZMod p) (y2 : ZMod p)) (hne : x1 ≠ x2) :
    Rep p a b (padd p a (.aff x1 y1) (.aff x2 y2))
      (Affine.Point.some _ _ h1 + Affine.Point.some _ _ h2) := by
  have hne' : (x1 : ZMod p) ≠ (x2 : ZMod p) := fun h => hne (cast_inj_of_lt p hx1 hx2 h)
  have hd : ((fsub p x2 x1 : ℕ) : ZMod p) ≠ 0 := by
    rw [fsub_cast]; exact sub_ne_zero.mpr (Ne.symm hne')
  rw [padd, if_neg (fun h => hne h.1), if_neg (fun h => hne h.1), if_pos hne]
  refine rep_add_of_slope (fun h => hne' h.1) ?_ ?_ (fsub_lt p _ _)
  · rw [Affine.slope_of_X_ne hne', fdiv_cast p _ _ hd, fsub_cast, fsub_cast, ← neg_sub (y1 : ZMod p),
      ← neg_sub (x1 : ZMod p), neg_div_neg_eq]
  · rw [fsub_cast, fsub_cast, fpow_two_cast p h3]

theorem rep_add_self (h3 : 3 < p) (x1 y1 : ℕ) (hy1 : y1 < p)
    (h1 : (SW p a b).Nonsingular (x1 : ZMod p) (y1 : ZMod p)) (hy0 : y1 ≠ 0) :
    Rep p a b (padd p a (.aff x1 y1) (.aff x1 y1))
      (Affine.Point.some _ _ h1 + Affine.Point.some _ _ h1) := by
  have h2y : (2 : ZMod p) * (y1 : ZMod p) ≠ 0 :=
    mul_ne_zero (two_ne_zero_of_gt p h3) (cast_ne_zero_of_lt p hy1 hy0)
  have hyne : (y1 : ZMod p) ≠ (SW p a b).negY (x1 : ZMod p) (y1 : ZMod p) := by
    rw [SW_negY]
    exact fun h => h2y (by linear_combination h)
  rw [padd, if_neg (fun h => h.2 rfl), if_neg (fun h => hy0 h.2.2), if_neg (fun h => h rfl)]
  refine rep_add_of_slope (fun h => hyne h.2) ?_ ?_ (fsub_lt p _ _)
  · rw [Affine.slope_of_Y_ne rfl hyne, fdiv_cast p _ _ (by rwa [ZMod.natCast_mod, Nat.cast_mul]),
      fadd_cast, ZMod.natCast_mod, ZMod.natCast_mod, Nat.cast_mul, Nat.cast_mul,
      fpow_two_cast p h3, SW_negY]
    simp only [SW, Nat.cast_ofNat]
    ring
  · rw [fsub_cast, fpow_two_cast p h3, ZMod.natCast_mod, Nat.cast_mul, Nat.cast_ofNat]
    ring

/-- **Point.__add__ is the group law**: in all cases (infinity operands, opposite points,
    chord, tangent, vertical tangent) -/
theorem rep_padd (h3 : 3 < p) {P Q : Pt} {A B : (SW p a b).Point}
    (hP : Rep p a b P A) (hQ : Rep p a b Q B) : Rep p a b (padd p a P Q) (A + B) := by
  cases hP with
  | inf => simpa [padd] using hQ
  | aff x1 y1 hx1 hy1 h1 =>
    cases hQ with
    | inf => simpa [padd] using Rep.aff x1 y1 hx1 hy1 h1
    | aff x2 y2 hx2 hy2 h2 =>
      by_cases hx : x1 = x2
      · subst hx
        by_cases hy : y1 = y2
        · subst hy
          by_cases hy0 : y1 = 0
          · -- vertical tangent: a point of order two
            subst hy0
            rw [padd, if_neg (fun h => h.2 rfl), if_pos ⟨rfl, rfl, rfl⟩,
              Affine.Point.add_of_Y_eq rfl (by simp [SW])]
            exact Rep.inf
          · exact rep_add_self h3 x1 y1 hy1 h1 hy0
        · -- opposite points
          have hy' : (y1 : ZMod p) ≠ (y2 : ZMod p) := fun h => hy (cast_inj_of_lt p hy1 hy2 h)
          rw [padd, if_pos ⟨rfl, hy⟩,
            Affine.Point.add_of_Y_eq rfl ((Affine.Y_eq_of_X_eq h1.1 h2.1 rfl).resolve_left hy')]
          exact Rep.inf
      · exact rep_add_of_X_ne h3 x1 y1 x2 y2 hx1 hx2 h1 h2 hx

/-! ## Point.__rmul__ is scalar multiplication -/

/-- loop invariant of double-and-add: `result + coef • current` is constant -/
theorem rep_pmulAux (h3 : 3 < p) : ∀ (fuel coef : ℕ) (cur res : Pt) (C R : (SW p a b).Point),
    coef < 2 ^ fuel → Rep p a b cur C → Rep p a b res R →
    Rep p a b (pmulAux p a fuel coef cur res) (R + coef • C) := by
  intro fuel
  induction fuel with
  | zero =>
    intro coef cur res C R h hC hR
    rw [Nat.lt_one_iff.mp h, zero_nsmul, add_zero]; exact hR
  | succ n ih =>
    intro coef cur res C R h hC hR
    unfold pmulAux
    split
    · next h0 => rw [h0, zero_nsmul, add_zero]; exact hR
    · have hsplit : R + coef • C = (R + (coef % 2) • C) + (coef / 2) • (C + C) := by
        rw [← two_nsmul, ← mul_nsmul', add_assoc, ← add_nsmul, Nat.mod_add_div']
      rw [hsplit]
      refine ih _ _ _ _ _ (by omega) (rep_padd h3 hC hC) ?_
      rcases Nat.mod_two_eq_zero_or_one coef with h2 | h2
      · rw [h2, if_neg (by decide), zero_nsmul, add_zero]; exact hR
      · rw [h2, if_pos rfl, one_nsmul]; exact rep_padd h3 hR hC

theorem rep_pmul (h3 : 3 < p) (k : ℕ) {P : Pt} {A : (SW p a b).Point} (hP : Rep p a b P A) :
    Rep p a b (pmul p a k P) (k • A) := by
  have := rep_pmulAux h3 (k.log2 + 1) k P .inf A 0 Nat.lt_log2_self hP Rep.inf
  rwa [zero_add] at this

/-! ## API: validity predicate, map into the group, transported laws -/

/-- the point is the point at infinity, or has coordinates `< p` (FieldElement's range check)
    and passes the curve-membership check of `Point.__init__` -/
def Valid (p a b : ℕ) : Pt → Prop
  | .inf => True
  | .aff x y => x < p ∧ y < p ∧ onCurve p a b (.aff x y) = true

instance (p a b : ℕ) (P : Pt) : Decidable (Valid p a b P) := by
  cases P <;> unfold Valid <;> infer_instance

def pneg (p : ℕ) : Pt → Pt
  | .inf => .inf
  | .aff x y => .aff x ((p - y) % p)

variable (p a b)

theorem onCurve_iff (h3 : 3 < p) (x y : ℕ) :
    onCurve p a b (.aff x y) = true ↔
      (y : ZMod p) ^ 2 = (x : ZMod p) ^ 3 + (a : ZMod p) * (x : ZMod p) + (b : ZMod p) := by
  unfold onCurve
  rw [beq_iff_eq, ← fpow_two_cast p h3, ← fpow_three_cast p h3, ← fmul_cast, ← fadd_cast, ← fadd_cast]
  exact ⟨congrArg _, cast_inj_of_lt p (fpow_lt p _ _) (fadd_lt p _ _)⟩

theorem onCurve_iff_mod (h3 : 3 < p) (x y : ℕ) :
    onCurve p a b (.aff x y) = true ↔ y ^ 2 % p = (x ^ 3 + a * x + b) % p := by
  rw [onCurve_iff p a b h3, ← ZMod.natCast_eq_natCast_iff']
  push_cast; rfl

open Classical in
/-- the element of Mathlib's group of curve points represented by a model point
    (zero for a pair that is not on the curve) -/
noncomputable def toGroup : Pt → (SW p a b).Point
  | .inf => 0
  | .aff x y =>
    if h : (SW p a b).Nonsingular (x : ZMod p) (y : ZMod p) then .some _ _ h else 0

def ofGroup : (SW p a b).Point → Pt
  | .zero => .inf
  | .some x y _ => .aff x.val y.val

variable {p a b}

theorem toGroup_of_rep {P : Pt} {A : (SW p a b).Point} (h : Rep p a b P A) : toGroup p a b P = A := by
  cases h with
  | inf => rfl
  | aff x y hx hy h => exact dif_pos h

theorem ofGroup_of_rep {P : Pt} {A : (SW p a b).Point} (h : Rep p a b P A) : ofGroup p a b A = P := by
  cases h with
  | inf => rfl
  | aff x y hx hy h =>
    show Pt.aff (x : ZMod p).val (y : ZMod p).val = _
    rw [ZMod.val_natCast_of_lt hx, ZMod.val_natCast_of_lt hy]

/-- `Rep` is a partial bijection: `toGroup` reads `A` off `P`, `ofGroup` reads `P` off `A` -/
theorem Rep.eq_iff {P Q : Pt} {A B : (SW p a b).Point} (hP : Rep p a b P A) (hQ : Rep p a b Q B) :
    P = Q ↔ A = B :=
  ⟨fun e => by rw [← toGroup_of_rep hP, e, toGroup_of_rep hQ],
   fun e => by rw [← ofGroup_of_rep hP, e, ofGroup_of_rep hQ]⟩

theorem Rep.eq {P Q : Pt} {A B : (SW p a b).Point} (hP : Rep p a b P A) (hQ : Rep p a b Q B)
    (e : A = B) : P = Q :=
  (hP.eq_iff hQ).mpr e

theorem valid_of_rep (h3 : 3 < p) {P : Pt} {A : (SW p a b).Point} (h : Rep p a b P A) :
    Valid p a b P := by
  cases h with
  | inf => trivial
  | aff x y hx hy h =>
    exact ⟨hx, hy, (onCurve_iff p a b h3 x y).mpr ((SW_equation_iff p a b _ _).mp h.1)⟩

theorem rep_toGroup (hc : CurveOK p a b) {P : Pt} (h : Valid p a b P) :
    Rep p a b P (toGroup p a b P) := by
  cases P with
  | inf => exact Rep.inf
  | aff x y =>
    obtain ⟨hx, hy, hon⟩ := h
    have hns : (SW p a b).Nonsingular (x : ZMod p) (y : ZMod p) :=
      (SW_nonsingular_iff p a b hc _ _).mpr ((onCurve_iff p a b hc.gt3 x y).mp hon)
    simp only [toGroup, dif_pos hns]
    exact Rep.aff x y hx hy hns

theorem valid_iff_rep (hc : CurveOK p a b) (P : Pt) :
    Valid p a b P ↔ ∃ A, Rep p a b P A :=
  ⟨fun h => ⟨_, rep_toGroup hc h⟩, fun ⟨_, h⟩ => valid_of_rep hc.gt3 h⟩

theorem rep_ofGroup (A : (SW p a b).Point) : Rep p a b (ofGroup p a b A) A := by
  have : NeZero p := ⟨hp.out.ne_zero⟩
  cases A with
  | zero => exact Rep.inf
  | some x y h =>
    exact Rep.mk' p a b h (ZMod.val_lt x) (ZMod.val_lt y) (ZMod.natCast_zmod_val x)
      (ZMod.natCast_zmod_val y)

theorem toGroup_ofGroup (A : (SW p a b).Point) : toGroup p a b (ofGroup p a b A) = A :=
  toGroup_of_rep (rep_ofGroup A)

theorem ofGroup_valid (h3 : 3 < p) (A : (SW p a b).Point) : Valid p a b (ofGroup p a b A) :=
  valid_of_rep h3 (rep_ofGroup A)

theorem ofGroup_toGroup (hc : CurveOK p a b) {P : Pt} (h : Valid p a b P) :
    ofGroup p a b (toGroup p a b P) = P :=
  ofGroup_of_rep (rep_toGroup hc h)

theorem toGroup_inj (hc : CurveOK p a b) {P Q : Pt} (hP : Valid p a b P) (hQ : Valid p a b Q)
    (h : toGroup p a b P = toGroup p a b Q) : P = Q :=
  (rep_toGroup hc hP).eq (rep_toGroup hc hQ) h

@[simp] theorem toGroup_inf : toGroup p a b .inf = 0 := rfl

theorem toGroup_eq_zero (hc : CurveOK p a b) {P : Pt} (hP : Valid p a b P) :
    toGroup p a b P = 0 ↔ P = .inf :=
  ((rep_toGroup hc hP).eq_iff Rep.inf).symm

omit hp in
theorem valid_inf : Valid p a b .inf := trivial

omit hp in
theorem Valid.lt {x y : ℕ} (h : Valid p a b (.aff x y)) : x < p ∧ y < p := ⟨h.1, h.2.1⟩

theorem valid_aff_iff (h3 : 3 < p) (x y : ℕ) :
    Valid p a b (.aff x y) ↔ x < p ∧ y < p ∧ y ^ 2 % p = (x ^ 3 + a * x + b) % p := by
  simp only [Valid, onCurve_iff_mod p a b h3]

/-- the constructor check on the result of `Point.__add__` never fails -/
theorem padd_valid (hc : CurveOK p a b) {P Q : Pt} (hP : Valid p a b P) (hQ : Valid p a b Q) :
    Valid p a b (padd p a P Q) :=
  valid_of_rep hc.gt3 (rep_padd hc.gt3 (rep_toGroup hc hP) (rep_toGroup hc hQ))

theorem toGroup_padd (hc : CurveOK p a b) {P Q : Pt} (hP : Valid p a b P) (hQ : Valid p a b Q) :
    toGroup p a b (padd p a P Q) = toGroup p a b P + toGroup p a b Q :=
  toGroup_of_rep (rep_padd hc.gt3 (rep_toGroup hc hP) (rep_toGroup hc hQ))

theorem pmul_valid (hc : CurveOK p a b) (k : ℕ) {P : Pt} (hP : Valid p a b P) :
    Valid p a b (pmul p a k P) :=
  valid_of_rep hc.gt3 (rep_pmul hc.gt3 k (rep_toGroup hc hP))

theorem toGroup_pmul (hc : CurveOK p a b) (k : ℕ) {P : Pt} (hP : Valid p a b P) :
    toGroup p a b (pmul p a k P) = k • toGroup p a b P :=
  toGroup_of_rep (rep_pmul hc.gt3 k (rep_toGroup hc hP))

theorem rep_pneg {P : Pt} {A : (SW p a b).Point} (h : Rep p a b P A) :
    Rep p a b (pneg p P) (-A) := by
  cases h with
  | inf => exact Rep.inf
  | aff x y hx hy h =>
    rw [Affine.Point.neg_some]
    refine Rep.mk' p a b _ hx (Nat.mod_lt _ hp.out.pos) rfl ?_
    rw [SW_negY, ZMod.natCast_mod, Nat.cast_sub hy.le, ZMod.natCast_self, zero_sub]

theorem pneg_valid (hc : CurveOK p a b) {P : Pt} (hP : Valid p a b P) : Valid p a b (pneg p P) :=
  valid_of_rep hc.gt3 (rep_pneg (rep_toGroup hc hP))

theorem toGroup_pneg (hc : CurveOK p a b) {P : Pt} (hP : Valid p a b P) :
    toGroup p a b (pneg p P) = - toGroup p a b P :=
  toGroup_of_rep (rep_pneg (rep_toGroup hc hP))

omit hp in
theorem padd_inf_left (Q : Pt) : padd p a .inf Q = Q := by simp [padd]

omit hp in
theorem padd_inf_right (P : Pt) : padd p a P .inf = P := by cases P <;> simp [padd]

theorem padd_comm (hc : CurveOK p a b) {P Q : Pt} (hP : Valid p a b P) (hQ : Valid p a b Q) :
    padd p a P Q = padd p a Q P :=
  have rP := rep_toGroup hc hP
  have rQ := rep_toGroup hc hQ
  (rep_padd hc.gt3 rP rQ).eq (rep_padd hc.gt3 rQ rP) (add_comm _ _)

theorem padd_assoc (hc : CurveOK p a b) {P Q R : Pt} (hP : Valid p a b P) (hQ : Valid p a b Q)
    (hR : Valid p a b R) : padd p a (padd p a P Q) R = padd p a P (padd p a Q R) :=
  have rP := rep_toGroup hc hP
  have rQ := rep_toGroup hc hQ
  have rR := rep_toGroup hc hR
  (rep_padd hc.gt3 (rep_padd hc.gt3 rP rQ) rR).eq (rep_padd hc.gt3 rP (rep_padd hc.gt3 rQ rR))
    (add_assoc _ _ _)

theorem padd_pneg (hc : CurveOK p a b) {P : Pt} (hP : Valid p a b P) :
    padd p a P (pneg p P) = .inf :=
  have rP := rep_toGroup hc hP
  (rep_padd hc.gt3 rP (rep_pneg rP)).eq Rep.inf (add_neg_cancel _)

theorem pneg_padd (hc : CurveOK p a b) {P : Pt} (hP : Valid p a b P) :
    padd p a (pneg p P) P = .inf := by
  rw [padd_comm hc (pneg_valid hc hP) hP, padd_pneg hc hP]

theorem padd_eq_inf_iff (hc : CurveOK p a b) {P Q : Pt} (hP : Valid p a b P) (hQ : Valid p a b Q) :
    padd p a P Q = .inf ↔ Q = pneg p P := by
  have rP := rep_toGroup hc hP
  have rQ := rep_toGroup hc hQ
  rw [(rep_padd hc.gt3 rP rQ).eq_iff Rep.inf, rQ.eq_iff (rep_pneg rP), add_eq_zero_iff_eq_neg']

omit hp in
theorem pneg_pneg {P : Pt} (hP : Valid p a b P) : pneg p (pneg p P) = P := by
  cases P with
  | inf => rfl
  | aff x y =>
    obtain ⟨_, hy, _⟩ := hP
    simp only [pneg]
    congr 1
    by_cases h0 : y = 0
    · rw [h0, Nat.sub_zero, Nat.mod_self, Nat.sub_zero, Nat.mod_self]
    · rw [Nat.mod_eq_of_lt (show p - y < p by omega), Nat.sub_sub_self hy.le, Nat.mod_eq_of_lt hy]

omit hp in
theorem pmul_zero (P : Pt) : pmul p a 0 P = .inf := by simp [pmul, pmulAux]

omit hp in
theorem pmul_inf (k : ℕ) : pmul p a k .inf = .inf := by
  unfold pmul
  generalize k.log2 + 1 = fuel
  induction fuel generalizing k with
  | zero => rfl
  | succ n ih =>
    unfold pmulAux
    split
    · rfl
    · rw [padd_inf_left, ite_self]
      exact ih _

theorem pmul_one (hc : CurveOK p a b) {P : Pt} (hP : Valid p a b P) : pmul p a 1 P = P :=
  have rP := rep_toGroup hc hP
  (rep_pmul hc.gt3 1 rP).eq rP (one_nsmul _)

theorem pmul_add (hc : CurveOK p a b) (j k : ℕ) {P : Pt} (hP : Valid p a b P) :
    pmul p a (j + k) P = padd p a (pmul p a j P) (pmul p a k P) :=
  have rP := rep_toGroup hc hP
  (rep_pmul hc.gt3 _ rP).eq (rep_padd hc.gt3 (rep_pmul hc.gt3 j rP) (rep_pmul hc.gt3 k rP))
    (add_nsmul _ j k)

theorem pmul_two (hc : CurveOK p a b) {P : Pt} (hP : Valid p a b P) :
    pmul p a 2 P = padd p a P P := by
  rw [pmul_add hc 1 1 hP, pmul_one hc hP]

theorem pmul_succ (hc : CurveOK p a b) (k : ℕ) {P : Pt} (hP : Valid p a b P) :
    pmul p a (k + 1) P = padd p a (pmul p a k P) P := by
  rw [pmul_add hc k 1 hP, pmul_one hc hP]

theorem pmul_mul (hc : CurveOK p a b) (j k : ℕ) {P : Pt} (hP : Valid p a b P) :
    pmul p a (j * k) P = pmul p a j (pmul p a k P) :=
  have rP := rep_toGroup hc hP
  (rep_pmul hc.gt3 _ rP).eq (rep_pmul hc.gt3 j (rep_pmul hc.gt3 k rP)) (mul_nsmul' _ j k)

theorem pmul_padd (hc : CurveOK p a b) (k : ℕ) {P Q : Pt} (hP : Valid p a b P) (hQ : Valid p a b Q) :
    pmul p a k (padd p a P Q) = padd p a (pmul p a k P) (pmul p a k Q) :=
  have rP := rep_toGroup hc hP
  have rQ := rep_toGroup hc hQ
  (rep_pmul hc.gt3 k (rep_padd hc.gt3 rP rQ)).eq
    (rep_padd hc.gt3 (rep_pmul hc.gt3 k rP) (rep_pmul hc.gt3 k rQ)) (nsmul_add _ _ k)

theorem pmul_pneg (hc : CurveOK p a b) (k : ℕ) {P : Pt} (hP : Valid p a b P) :
    pmul p a k (pneg p P) = pneg p (pmul p a k P) :=
  have rP := rep_toGroup hc hP
  (rep_pmul hc.gt3 k (rep_pneg rP)).eq (rep_pneg (rep_pmul hc.gt3 k rP)) (neg_nsmul _ k)

theorem pmul_eq_inf_iff (hc : CurveOK p a b) (k : ℕ) {P : Pt} (hP : Valid p a b P) :
    pmul p a k P = .inf ↔ k • toGroup p a b P = 0 :=
  (rep_pmul hc.gt3 k (rep_toGroup hc hP)).eq_iff Rep.inf

theorem pmul_mod (hc : CurveOK p a b) (n k : ℕ) {P : Pt} (hP : Valid p a b P)
    (hn : pmul p a n P = .inf) : pmul p a (k % n) P = pmul p a k P :=
  have rP := rep_toGroup hc hP
  (rep_pmul hc.gt3 _ rP).eq (rep_pmul hc.gt3 k rP)
    (nsmul_eq_mod_nsmul k ((pmul_eq_inf_iff hc n hP).mp hn)).symm

omit hp in
theorem padd_self_eq_inf_iff (x y : ℕ) :
    padd p a (.aff x y) (.aff x y) = .inf ↔ y = 0 := by
  constructor
  · intro h
    by_contra hy
    simp [padd, hy] at h
  · intro h; simp [padd, h]

end Buidl.EC
