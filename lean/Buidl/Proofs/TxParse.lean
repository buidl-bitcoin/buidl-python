/-
  Helper lemmas about Buidl.Model.Script / Buidl.Model.Tx on ARBITRARY byte strings (C04, malformed streams):
  what the parsers return; which parsed values are fixed points of serialise ∘ parse; everything a parser leaves
  unread is a suffix of its input.
-/
import Buidl.Proofs.Tx
namespace Buidl.Script
open Buidl

/-- an opcode command as the parser produces it: never one of the push opcodes 1..78 -/
def OpOK : Cmd → Prop
  | .op n => (n = 0 ∨ 79 ≤ n) ∧ n ≤ 255
  | .push _ => True

theorem readCmd_opOK (c : UInt8) (r : Bytes) : OpOK (readCmd c r).1 :=
  let P := fun x : Cmd × Bytes × Bool => OpOK x.1
  iteInduction (motive := P) (fun _ => True.intro) fun h0 =>
  iteInduction (motive := P) (fun _ => True.intro) fun h1 =>
  iteInduction (motive := P) (fun _ => True.intro) fun h2 =>
  iteInduction (motive := P) (fun _ => True.intro) fun h3 => by
    have := c.toNat_lt
    show (c.toNat = 0 ∨ 79 ≤ c.toNat) ∧ c.toNat ≤ 255
    omega

theorem cmdsOf_ops (s : Bytes) : ∀ c ∈ (cmdsOf s).1, OpOK c := by
  induction s using cmdsOf.induct with
  | case1 => rw [cmdsOf]; exact nofun
  | case2 c r _ ih => rw [cmdsOf, if_pos ‹_›]; exact List.forall_mem_cons.mpr ⟨readCmd_opOK c r, ih⟩
  | case3 c r _ => rw [cmdsOf, if_neg ‹_›]; exact List.forall_mem_cons.mpr ⟨readCmd_opOK c r, nofun⟩

theorem cmdWF_of_opOK {c : Cmd} (ho : OpOK c) (hp : ∀ d, c = .push d → d.length ≤ 520) : CmdWF c := by
  cases c with
  | op n => exact ho.1.elim Or.inl fun h => Or.inr ⟨h, ho.2⟩
  | push d => exact hp d rfl
end Buidl.Script

namespace Buidl.Tx
open Buidl Buidl.Script

/-- a data element the serialiser can write back and the parser reads back as itself -/
def PushOK : Cmd → Prop
  | .push d => d ≠ [] ∧ d.length ≤ 520
  | .op _ => True

instance : DecidablePred PushOK := fun c => by cases c <;> unfold PushOK <;> infer_instance

/-- a parsed script that survives serialise → parse unchanged: it carries `raw` (a push ran past the end:
    the bytes are kept verbatim), or no data element is empty (read back as OP_0, N04c) or longer than
    520 bytes (refused by the serialiser) and the commands take fewer than 2^63 bytes -/
def Reencodable (s : Script) : Prop :=
  s.raw ≠ none ∨ ((∀ c ∈ s.cmds, PushOK c) ∧ cmdsSize s.cmds < 2 ^ 63)

instance (s : Script) : Decidable (Reencodable s) := by unfold Reencodable; infer_instance

def ScriptFix (s : Script) : Prop :=
  ∃ e, Script.serialize s = some e ∧ ∀ rest, Script.parse (e ++ rest) = some (s, rest)

def ParsedScript (s : Script) : Prop := ∃ raw : Bytes, raw.length < 2 ^ 63 ∧ s = parseRaw raw

theorem parseRaw_raw (raw : Bytes) : (parseRaw raw).raw = none ∨ ((parseRaw raw).raw = some raw ∧ raw ≠ []) := by
  rw [parseRaw_eq]
  by_cases h : (cmdsOf raw).2 = true
  · exact Or.inl (if_pos h)
  · exact Or.inr ⟨if_neg h, fun e => h (e ▸ by rw [cmdsOf])⟩

theorem parseRaw_ops (raw : Bytes) : ∀ c ∈ (parseRaw raw).cmds, OpOK c :=
  parseRaw_eq raw ▸ cmdsOf_ops raw

/-- the size bound is the one `read` accepts (`readVarstr`) -/
theorem scriptFix_iff {s : Script} (hnone : s.raw = none) (hops : ∀ c ∈ s.cmds, OpOK c) :
    ScriptFix s ↔ (∀ c ∈ s.cmds, PushOK c) ∧ cmdsSize s.cmds < 2 ^ 63 := by
  constructor
  · intro hfix
    obtain ⟨b, hb, hl, hs⟩ := script_roundTrip_inv hfix
    rw [rawSerialize_of_raw_none hnone] at hb
    have wf : ∀ c ∈ s.cmds, CmdWF c := fun c hc =>
      cmdWF_of_opOK (hops c hc) fun d hd => push_le_of_serCmds hb (hd ▸ hc)
    -- the script read back is the canonical form of the commands: a fixed point has no empty data element
    rw [parseRaw_serCmds _ b wf hb] at hs
    refine ⟨fun c hc => ?_, serCmds_length wf hb ▸ hl⟩
    have : canonCmd c = c := List.map_eq_map_iff.mp ((congrArg Script.cmds hs).symm.trans (List.map_id _).symm) c hc
    cases c with
    | op n => trivial
    | push d =>
      cases d with
      | nil => cases this
      | cons x xs => exact ⟨List.cons_ne_nil x xs, wf _ hc⟩
  · rintro ⟨hpush, hsize⟩
    have h := script_roundTrip ⟨hnone, fun c hc => cmdWF_of_opOK (hops c hc) fun d hd => (hd ▸ hpush c hc).2, hsize⟩
    rw [canonScript, canon_eq_self fun hm => (hpush _ hm).1 rfl, ← hnone] at h
    exact h

theorem parsedScript_fix {s : Script} (hp : ParsedScript s) (hr : Reencodable s) : ScriptFix s := by
  obtain ⟨raw, hl, rfl⟩ := hp
  rcases parseRaw_raw raw with hnone | ⟨hsome, hne⟩
  · exact (scriptFix_iff hnone (parseRaw_ops raw)).mpr (hr.resolve_left fun h => h hnone)
  · refine script_roundTrip_raw ?_ hl
    unfold rawSerialize
    rw [hsome]
    exact if_pos hne

theorem template_shape {s : Script} (ht : isTemplate s = true) :
    ∃ h : Bytes, (h.length = 20 ∨ h.length = 32) ∧
      (s.cmds = [.op 0x76, .op 0xA9, .push h, .op 0x88, .op 0xAC] ∨ s.cmds = [.op 0xA9, .push h, .op 0x87] ∨
       s.cmds = [.op 0, .push h] ∨ s.cmds = [.op 0x51, .push h]) := by
  simp only [isTemplate, Bool.or_eq_true] at ht
  rcases ht with (((h | h) | h) | h) | h
  · unfold isP2pkh at h; split at h
    · next x heq => exact ⟨x, Or.inl (by simpa using h), Or.inl heq⟩
    · cases h
  · unfold isP2sh at h; split at h
    · next x heq => exact ⟨x, Or.inl (by simpa using h), Or.inr (Or.inl heq)⟩
    · cases h
  · unfold isP2wpkh at h; split at h
    · next x heq => exact ⟨x, Or.inl (by simpa using h), Or.inr (Or.inr (Or.inl heq))⟩
    · cases h
  · unfold isP2wsh at h; split at h
    · next x heq => exact ⟨x, Or.inr (by simpa using h), Or.inr (Or.inr (Or.inl heq))⟩
    · cases h
  · unfold isP2tr at h; split at h
    · next x heq => exact ⟨x, Or.inr (by simpa using h), Or.inr (Or.inr (Or.inr heq))⟩
    · cases h

theorem template_wf {s : Script} (ht : isTemplate s = true) (hraw : s.raw = none) :
    ScriptWF s ∧ canonScript s = s := by
  obtain ⟨h, hl, hshape⟩ := template_shape ht
  obtain ⟨cmds, raw⟩ := s
  simp only at hraw hshape; subst hraw
  have hne : h ≠ [] := by intro e; subst e; simp at hl
  have hle : h.length ≤ 520 := by omega
  have hcanon : canonCmd (.push h) = .push h := canonCmd_push_ne hne
  rcases hshape with rfl | rfl | rfl | rfl
  all_goals
    refine ⟨⟨rfl, ?_, ?_⟩, ?_⟩
    · simp only [List.mem_cons, List.mem_nil_iff, or_false, forall_eq_or_imp, forall_eq, CmdWF, hle, Nat.reduceEqDiff,
        Nat.reduceLeDiff, and_self, or_true, and_true]
    · simp only [cmdsSize, cmdSize, if_pos (show h.length ≤ 75 by omega)]; omega
    · simp only [canonScript, canon, List.map_cons, List.map_nil, hcanon]; rfl

/-- what `ScriptPubKey.parse` returns: a rebuilt template, or the parse of some bytes that is no template -/
def ParsedSpk (s : Script) : Prop :=
  (isTemplate s = true ∧ s.raw = none) ∨ (isTemplate s = false ∧ ParsedScript s)

theorem parsedSpk_fix {s : Script} (hp : ParsedSpk s) (hr : Reencodable s) :
    RoundTrip Script.serialize parseScriptPubKey s s := by
  rcases hp with ⟨ht, hraw⟩ | ⟨ht, hps⟩
  · obtain ⟨wf, hc⟩ := template_wf ht hraw
    have h := script_roundTrip wf
    rw [hc] at h
    exact spk_roundTrip h (Or.inl hraw)
  · exact spk_roundTrip (parsedScript_fix hps hr) (Or.inr ht)

/-- `TxIn.parse` returns `noWit` of an input; `parseWitnesses` then puts the witness back -/
theorem noWit_witness {i : TxIn} (hv : i.value = none) (hk : i.scriptPubkey = none) :
    { noWit i with witness := i.witness } = i := by
  cases i; cases hv; cases hk; rfl

theorem script_yields (s : Bytes) : Yields s (Script.parse s) ParsedScript :=
  (readVarstr_yields s).bind fun raw _ hl => .pure ⟨raw, hl, rfl⟩

theorem spk_yields (s : Bytes) : Yields s (parseScriptPubKey s) ParsedSpk :=
  (script_yields s).bind fun sc r hp => by
    dsimp only
    split
    · next ht => exact .pure (Or.inl ⟨ht, rfl⟩)
    · next ht => exact .pure (Or.inr ⟨Bool.eq_false_iff.mpr ht, hp⟩)

theorem witness_yields (s : Bytes) : Yields s (Witness.parse s) WitnessWF :=
  (readVarint_yields s).bind fun n _ hn => (parseItems_eq ▸ Yields.parseN readVarstr_yields n _).bind fun _ _ hl =>
    .pure ⟨hl.1 ▸ hn, hl.2⟩

def ParsedIn (i : TxIn) : Prop :=
  i.prevTx.length = 32 ∧ i.prevIndex < 2 ^ 32 ∧ i.sequence < 2 ^ 32 ∧ ParsedScript i.scriptSig ∧
  i.value = none ∧ i.scriptPubkey = none

theorem txin_yields (s : Bytes) : Yields s (TxIn.parse s) fun i => ParsedIn i ∧ i.witness = {} := by
  simp only [TxIn.parse, sread, Gen.txinParPrevW, Gen.txinParIndexW, Gen.sequenceParW]
  by_cases h36 : 36 < s.length
  · exact .drop 32 <| .drop 4 <| (script_yields _).bind fun sc r hp => .guard <| .some
      ⟨⟨by simp only [List.length_reverse, List.length_take]; omega, leToNat_take_lt 4 _, leToNat_take_lt 4 r, hp, rfl, rfl⟩,
        rfl⟩ (List.drop_suffix 4 r)
  · -- nothing is left for `Script.parse`, which refuses the empty stream
    rw [List.drop_drop, List.drop_eq_nil_of_le (by omega)]
    exact .none

theorem txout_yields (s : Bytes) : Yields s (TxOut.parse s) fun o => o.amount < 2 ^ 64 ∧ ParsedSpk o.scriptPubkey := by
  simp only [TxOut.parse, sread]
  exact .drop _ <| (spk_yields _).bind fun _ _ hp => .pure ⟨leToNat_take_lt 8 s, hp⟩

theorem parseIns_yields (n : Nat) (s : Bytes) :
    Yields s (parseIns n s) fun l => l.length = n ∧ ∀ i ∈ l, ParsedIn i ∧ i.witness = {} :=
  parseIns_eq ▸ Yields.parseN txin_yields n s

theorem parseOuts_yields (n : Nat) (s : Bytes) :
    Yields s (parseOuts n s) fun l => l.length = n ∧ ∀ o ∈ l, o.amount < 2 ^ 64 ∧ ParsedSpk o.scriptPubkey :=
  parseOuts_eq ▸ Yields.parseN txout_yields n s

theorem parseWitnesses_yields : ∀ (l : List TxIn) (s : Bytes), (∀ i ∈ l, ParsedIn i) →
    Yields s (parseWitnesses l s) fun l' => l'.length = l.length ∧ ∀ i ∈ l', ParsedIn i ∧ WitnessWF i.witness
  | [], _, _ => .pure ⟨rfl, nofun⟩
  | i :: t, s, hp => (witness_yields s).bind fun _ _ hw =>
      (parseWitnesses_yields t _ fun x hx => hp x (List.mem_cons_of_mem i hx)).bind fun _ _ ht =>
        .pure ⟨congrArg (· + 1) ht.1, List.forall_mem_cons.mpr ⟨⟨hp i List.mem_cons_self, hw⟩, ht.2⟩⟩

structure ParsedTx (t : Tx) : Prop where
  version : t.version < 2 ^ 32
  locktime : t.locktime < 2 ^ 32
  nins : t.ins.length < 2 ^ 64
  nouts : t.outs.length < 2 ^ 64
  ins : ∀ i ∈ t.ins, ParsedIn i ∧ WitnessWF i.witness
  outs : ∀ o ∈ t.outs, o.amount < 2 ^ 64 ∧ ParsedSpk o.scriptPubkey
  legacy : t.segwit = false → ∀ i ∈ t.ins, i.witness = {}

theorem parseLegacy_yields (s : Bytes) : Yields s (Tx.parseLegacy s) ParsedTx := by
  simp only [Tx.parseLegacy, sread]
  exact .drop 4 <|
    (readVarint_yields _).bind fun _ _ hn =>
    (parseIns_yields _ _).bind fun _ _ hi =>
    (readVarint_yields _).bind fun _ _ hm =>
    (parseOuts_yields _ _).bind fun _ r ho =>
    .guard <| .some
      ⟨leToNat_take_lt 4 s, leToNat_take_lt 4 r, hi.1 ▸ hn, ho.1 ▸ hm,
        fun i h => ⟨(hi.2 i h).1, (hi.2 i h).2 ▸ ⟨by decide, nofun⟩⟩, ho.2, fun _ i h => (hi.2 i h).2⟩
      (List.drop_suffix 4 r)

theorem parseSegwit_yields (s : Bytes) : Yields s (Tx.parseSegwit s) fun t => ParsedTx t ∧ t.segwit = true := by
  simp only [Tx.parseSegwit, sread]
  exact .guard <| .drop 4 <| .drop 2 <|
    (readVarint_yields _).bind fun _ _ hn =>
    (parseIns_yields _ _).bind fun _ _ hi =>
    (readVarint_yields _).bind fun _ _ hm =>
    (parseOuts_yields _ _).bind fun _ _ ho =>
    (parseWitnesses_yields _ _ fun i h => (hi.2 i h).1).bind fun _ r hw =>
    .guard <| .some
      ⟨⟨leToNat_take_lt 4 s, leToNat_take_lt 4 r, hw.1 ▸ hi.1 ▸ hn, ho.1 ▸ hm, hw.2, ho.2, nofun⟩, rfl⟩
      (List.drop_suffix 4 r)

theorem parse_yields (s : Bytes) : Yields s (Tx.parse s) ParsedTx := by
  rw [parse_eq]
  refine .guard ?_
  split
  · exact (parseSegwit_yields s).imp fun _ h => h.1
  · exact parseLegacy_yields s

/-- under which a transaction `Tx.parse` returns survives serialise → parse unchanged (`parsedTx_fix`): every script
    `Reencodable`, and not the legacy form with zero inputs (reachable only through a non-minimal input count; N04d) -/
def Reenc (t : Tx) : Prop :=
  (∀ i ∈ t.ins, Reencodable i.scriptSig) ∧ (∀ o ∈ t.outs, Reencodable o.scriptPubkey) ∧ (t.segwit = false → t.ins ≠ [])

instance (t : Tx) : Decidable (Reenc t) := by unfold Reenc; infer_instance

theorem parsedTx_fix (t : Tx) (hp : ParsedTx t) (hr : Reenc t) : RoundTrip Tx.serialize Tx.parse t t := by
  obtain ⟨hri, hro, hz⟩ := hr
  have hi : RoundTrip serIns (parseIns t.ins.length) t.ins (t.ins.map noWit) :=
    ins_roundTrip fun i hi =>
      let ⟨⟨h1, h2, h3, h4, _, _⟩, _⟩ := hp.ins i hi
      txin_roundTrip h1 h2 h3 (parsedScript_fix h4 (hri i hi))
  have ho : RoundTrip serOuts (parseOuts t.outs.length) t.outs (t.outs.map id) :=
    outs_roundTrip fun o ho => txout_roundTrip (hp.outs o ho).1 (parsedSpk_fix (hp.outs o ho).2 (hro o ho))
  rw [List.map_id] at ho
  refine tx_roundTrip (fun h => ⟨hz h, ?_⟩) (fun h => ?_)
  · have hb : t.ins.map noWit = t.ins :=
      (List.map_congr_left fun i hi => by
        have := noWit_witness (hp.ins i hi).1.2.2.2.2.1 (hp.ins i hi).1.2.2.2.2.2
        rwa [hp.legacy h i hi] at this).trans (List.map_id _)
    rw [hb] at hi
    have := legacy_roundTrip hp.version hp.locktime hp.nins hp.nouts hi ho
    rwa [Tx.eta_segwit t h] at this
  · have hw := witnesses_roundTrip noWit fun i hi => (hp.ins i hi).2
    rw [(List.map_congr_left fun i hi => noWit_witness (hp.ins i hi).1.2.2.2.2.1 (hp.ins i hi).1.2.2.2.2.2).trans
      (List.map_id _)] at hw
    have := segwit_roundTrip hp.version hp.locktime hp.nins hp.nouts hi ho hw
    rwa [Tx.eta_segwit t h] at this

/-- **Parse soundness.**  Whatever the bytes: what `Tx.parse` leaves unread is a suffix of its input; the
    returned transaction has every field within its wire width; and if it is `Reenc` (decidable, on the
    result alone) it serialises, and its serialisation followed by anything parses back to exactly it —
    so the accepted bytes stand for the returned transaction. -/
theorem parse_sound {b rest : Bytes} {t : Tx} (h : Tx.parse b = some (t, rest)) :
    (∃ consumed, b = consumed ++ rest) ∧ ParsedTx t ∧
    (Reenc t → ∃ e, t.serialize = some e ∧ ∀ r, Tx.parse (e ++ r) = some (t, r)) := by
  obtain ⟨hp, hs⟩ := parse_yields b (t, rest) h
  obtain ⟨c, hc⟩ := hs
  exact ⟨⟨c, hc.symm⟩, hp, parsedTx_fix t hp⟩

/-- **Truncation.**  Let `e` be the serialisation of a well-formed transaction and `p` a strict prefix of it.
    Because of Python's silent short reads `Tx.parse p` may succeed (a cut inside the locktime or inside the
    last witness item is not noticed) — but never as a `Reenc` transaction that stands for `p`: what it returns,
    if `Reenc`, does not re-serialise to `p`. -/
theorem truncation (t : Tx) (e p x : Bytes) (wf : TxWF t) (he : t.serialize = some e) (hpx : e = p ++ x) (hx : x ≠ [])
    (t' : Tx) (r : Bytes) (hp : Tx.parse p = some (t', r)) (hr : Reenc t') : t'.serialize ≠ some p := by
  intro hs
  exact hx ((parsedTx_fix t' (parse_yields _ _ hp).1 hr).prefix_free (tx_roundTrip_wf wf) hs he (by rw [List.append_nil, hpx])).2

end Buidl.Tx
