/-
  What the composition `generate_shares`, then `recover_mnemonic` on any k or more distinct share mnemonics (C15
  `generate_then_recover`) is put together from.  `generate_shares` makes every share its own 1-of-1 group (member
  threshold 1), so the group loop of `recover` only collects the shares' (index, value) pairs, and any k of them that
  come from a split recover.
-/
import Buidl.Proofs.ShamirSplit
import Buidl.Proofs.ShareCodec
import Buidl.Proofs.Shamir
namespace Buidl.Shamir
open Buidl Buidl.Mnemonic

theorem forall2_mem_left {α β} {R : α → β → Prop} {l : List α} {l' : List β} (h : List.Forall₂ R l l') :
    ∀ a ∈ l, ∃ b ∈ l', R a b := by
  induction h with
  | nil => intro a ha; cases ha
  | cons h1 _ ih =>
    intro a ha
    rcases List.mem_cons.mp ha with rfl | ha
    · exact ⟨_, List.mem_cons_self, h1⟩
    · obtain ⟨b, hb, hr⟩ := ih a ha
      exact ⟨b, List.mem_cons_of_mem _ hb, hr⟩

/-! ## the shares built by generate_shares -/

/-- the Share object `generate_shares` builds from one split entry -/
def mkShare (numBits id e k n : Nat) (p : Nat × Bytes) : Share :=
  ⟨numBits, id, e, p.1, k, n, 0, 1, beToNat p.2, p.2⟩

theorem new_mkShare (numBits id e k n : Nat) (hk : 1 ≤ k) (hkn : k ≤ n) (hn : n ≤ 16) (p : Nat × Bytes)
    (hgi : p.1 ≤ 15) (hlen : p.2.length = numBits / 8) :
    Share.new numBits id e p.1 k n 0 1 (beToNat p.2) = some (mkShare numBits id e k n p) :=
  (share_new_some_iff ..).mpr ⟨hgi, hk, hkn, hn, Nat.zero_le _, Nat.le_refl _, by decide, hlen ▸ beToNat_lt p.2,
    by rw [mkShare, natToBE'_beToNat_of_length hlen]⟩

theorem mkShares_eq (numBits id e k n : Nat) (hk : 1 ≤ k) (hkn : k ≤ n) (hn : n ≤ 16) (data : ShareData)
    (h : ∀ p ∈ data, p.1 ≤ 15 ∧ p.2.length = numBits / 8) :
    mkShares numBits id e k n data = some (data.map (mkShare numBits id e k n)) := by
  induction data with
  | nil => rfl
  | cons p r ih =>
    have hp := h p List.mem_cons_self
    rw [mkShares, new_mkShare numBits id e k n hk hkn hn p hp.1 hp.2, ih (fun q hq => h q (List.mem_cons_of_mem _ hq))]
    rfl

theorem mkShare_ok (numBits id e k n : Nat) (hnb : numBits = 128 ∨ numBits = 256) (hid : id < 2 ^ 15)
    (he : e < 32) (hk : 1 ≤ k) (hkn : k ≤ n) (hn : n ≤ 16) (p : Nat × Bytes) (hgi : p.1 ≤ 15)
    (hlen : p.2.length = numBits / 8) : ShareOK (mkShare numBits id e k n p) :=
  .of_new (new_mkShare numBits id e k n hk hkn hn p hgi hlen) hid he (by omega) (by omega)

/-- shares made by `generate_shares` from entries with distinct indices are `Consistent` -/
theorem consistent_mkShare (numBits id e k n : Nat) (l : List Share)
    (h : ∀ sh ∈ l, ∃ p, sh = mkShare numBits id e k n p) (hnd : (l.map (·.groupIndex)).Nodup) :
    Consistent l := by
  have hf : ∀ {α} (f : Share → α), (∀ p q, f (mkShare numBits id e k n p) = f (mkShare numBits id e k n q)) →
      ∀ s ∈ l, ∀ t ∈ l, f s = f t := by
    intro α f hpq s hs t ht
    obtain ⟨p, rfl⟩ := h s hs
    obtain ⟨q, rfl⟩ := h t ht
    exact hpq p q
  refine ⟨hf _ fun _ _ => rfl, hf _ fun _ _ => rfl, hf _ fun _ _ => rfl, hf _ fun _ _ => rfl,
    hf _ fun _ _ => rfl, List.Nodup.of_map Prod.fst ?_⟩
  rw [List.map_map]
  exact hnd

/-! ## recover: every share is its own 1-of-1 group -/

theorem groupEntry_single (hmac256 : Bytes → Bytes → Bytes) (i : Nat) (g0 : Share) (rest : List Share)
    (hmt : ∀ s ∈ g0 :: rest, s.memberThreshold = 1) :
    groupEntry hmac256 i (g0 :: rest) = some (i, g0.bytes) := by
  have hall : allSame (·.memberThreshold) (g0 :: rest) = true :=
    (allSame_iff _ _).mpr ⟨List.cons_ne_nil _ _, fun s hs t ht => by rw [hmt s hs, hmt t ht]⟩
  unfold groupEntry
  simp only [hall, hmt g0 List.mem_cons_self, Bool.not_true, Bool.false_eq_true, if_false, beq_self_eq_true,
    if_true]

theorem gatherGroups_single (hmac256 : Bytes → Bytes → Bytes) (ss : List Share)
    (hmt : ∀ sh ∈ ss, sh.memberThreshold = 1) (is : List Nat) :
    gatherGroups hmac256 ss is =
      some (is.filterMap fun i => (ss.find? (·.groupIndex = i)).map fun g => (i, g.bytes)) := by
  induction is with
  | nil => rfl
  | cons i r ih =>
    rw [gatherGroups, ih, List.filterMap_cons, ← List.head?_filter]
    cases hf : ss.filter (·.groupIndex = i) with
    | nil => rfl
    | cons g0 rest =>
      rw [groupEntry_single hmac256 i g0 rest fun s hs => hmt s (List.mem_filter.mp (hf ▸ hs)).1]
      rfl

/-- a permutation because both lists are duplicate-free and have the same members -/
theorem gather_single (hmac256 : Bytes → Bytes → Bytes) (ss : List Share) (n : Nat)
    (hmt : ∀ sh ∈ ss, sh.memberThreshold = 1) (hlt : ∀ sh ∈ ss, sh.groupIndex < n)
    (hnd : (ss.map (·.groupIndex)).Nodup) :
    ∃ sd, gatherGroups hmac256 ss (List.range n) = some sd ∧
      sd.Perm (ss.map fun sh => (sh.groupIndex, sh.bytes)) := by
  refine ⟨_, gatherGroups_single hmac256 ss hmt _, (List.perm_ext_iff_of_nodup ?_ ?_).mpr fun p => ?_⟩
  · refine List.nodup_range.filterMap fun i j p hi hj => ?_
    obtain ⟨_, _, rfl⟩ := Option.map_eq_some_iff.mp hi
    obtain ⟨_, _, h⟩ := Option.map_eq_some_iff.mp hj
    exact (congrArg Prod.fst h).symm
  · exact List.Nodup.of_map Prod.fst (by rwa [List.map_map])
  · simp only [List.mem_filterMap, List.mem_range, Option.map_eq_some_iff, List.mem_map]
    constructor
    · rintro ⟨i, _, g, hg, rfl⟩
      have := List.find?_some hg
      exact ⟨g, List.mem_of_find?_eq_some hg, by rw [of_decide_eq_true this]⟩
    · rintro ⟨sh, hsh, rfl⟩
      obtain ⟨g, hg⟩ := Option.isSome_iff_exists.mp <|
        (List.find?_isSome (p := fun s => decide (s.groupIndex = sh.groupIndex))).mpr ⟨sh, hsh, decide_eq_true rfl⟩
      have hgi : g.groupIndex = sh.groupIndex := by simpa using List.find?_some hg
      rw [← List.inj_on_of_nodup_map hnd (List.mem_of_find?_eq_some hg) hsh hgi]
      exact ⟨_, hlt sh hsh, g, hg, by rw [hgi]⟩

/-- **Share level**: `recover` on any `k` or more 1-of-1 shares with distinct group indices whose (index, value)
    pairs are entries of a split of `enc` decrypts `enc` (both `k = 1` and `k ≥ 2`) -/
theorem recoverWith_of_split (hmac256 : Bytes → Bytes → Bytes) (kdf : Bytes → Bytes → Nat → Nat → Bytes)
    (hh : ∀ k m, 4 ≤ (hmac256 k m).length) {enc : Bytes} {k n : Nat} {ρ rest : List Nat} {data : ShareData}
    (hsp : splitSecret hmac256 enc k n ρ = .ok data rest) (ss : List Share)
    (hmt : ∀ sh ∈ ss, sh.memberThreshold = 1) (hss : ∀ sh ∈ ss, (sh.groupIndex, sh.bytes) ∈ data)
    (hnd : (ss.map (·.groupIndex)).Nodup) (hlen : k ≤ ss.length) (id e : Nat) (pass : Bytes) :
    recoverWith hmac256 kdf id e k n ss pass = decrypt kdf enc id e pass := by
  obtain ⟨hk1, _, _, _, hdata, _, hkone⟩ := split_data_facts hmac256 hh enc k n ρ data rest hsp
  have hlt : ∀ sh ∈ ss, sh.groupIndex < n := fun sh hsh => (hdata _ (hss sh hsh)).1
  obtain ⟨sd, hg, hperm⟩ := gather_single hmac256 ss n hmt hlt hnd
  have hsd : ∀ p ∈ sd, p ∈ data := fun p hp => by
    obtain ⟨sh, hsh, rfl⟩ := List.mem_map.mp (hperm.subset hp)
    exact hss sh hsh
  have hsdlen : sd.length = ss.length := by rw [hperm.length_eq, List.length_map]
  have hany : ss.any (fun s => decide (s.groupIndex ≥ n)) = false := by
    rw [List.any_eq_false]
    intro sh hsh
    rw [decide_eq_true_eq]
    exact Nat.not_le.mpr (hlt sh hsh)
  rw [recoverWith, hany]
  simp only [Bool.false_eq_true, if_false, hg]
  by_cases hk : k = 1
  · rw [if_pos (by rw [hk]; rfl)]
    cases sd with
    | nil => rw [List.length_nil] at hsdlen; omega
    | cons e0 _ =>
      have := hsd e0 List.mem_cons_self
      rw [hkone hk, List.mem_singleton] at this
      rw [this]
  · rw [if_neg (by simpa using hk), if_neg (by omega),
      recoverSecret_of_split hmac256 hh enc k n ρ data rest (by omega) hsp sd hsd
        ((hperm.map _).nodup_iff.mpr (by rwa [List.map_map])) (by omega)]

/-! ## the stages of generate_shares -/

theorem generateShares_unpack (sha256 : Bytes → Bytes) (hmac256 : Bytes → Bytes → Bytes)
    (kdf : Bytes → Bytes → Nat → Nat → Bytes) (bip39 slip39 : WordList)
    (mnemonic : PyStr) (k n : Nat) (pass : Bytes) (e id : Nat) (ρ : List Nat) (ms : List PyStr)
    (hgen : generateShares sha256 hmac256 kdf bip39 slip39 mnemonic k n pass e id ρ = .ok ms) :
    ∃ secret enc data rest shares,
      mnemonicToBytes sha256 bip39 mnemonic = some secret ∧
      (secret.length * 8 = 128 ∨ secret.length * 8 = 256) ∧
      encrypt kdf secret id e pass = some enc ∧
      splitSecret hmac256 enc k n ρ = .ok data rest ∧
      mkShares (secret.length * 8) id e k n data = some shares ∧
      mapM? (Share.mnemonic slip39) shares = some ms := by
  unfold generateShares at hgen
  cases hsec : mnemonicToBytes sha256 bip39 mnemonic with
  | none => rw [hsec] at hgen; cases hgen
  | some secret =>
    rw [hsec] at hgen
    simp only at hgen
    by_cases hb : Gen.genSharesBits.contains (secret.length * 8) = true
    · simp only [hb, Bool.not_true, Bool.false_eq_true, if_false] at hgen
      cases henc : encrypt kdf secret id e pass with
      | none => rw [henc] at hgen; cases hgen
      | some enc =>
        rw [henc] at hgen
        simp only at hgen
        cases hsp : splitSecret hmac256 enc k n ρ with
        | reject => rw [hsp] at hgen; cases hgen
        | noRandomness => rw [hsp] at hgen; cases hgen
        | ok data rest =>
          rw [hsp] at hgen
          simp only at hgen
          cases hmk : mkShares (secret.length * 8) id e k n data with
          | none => rw [hmk] at hgen; cases hgen
          | some shares =>
            rw [hmk] at hgen
            simp only at hgen
            cases hms : mapM? (Share.mnemonic slip39) shares with
            | none => rw [hms] at hgen; cases hgen
            | some ms' =>
              rw [hms] at hgen
              simp only [GenResult.ok.injEq] at hgen
              subst hgen
              have hbits : secret.length * 8 = 128 ∨ secret.length * 8 = 256 := by
                simp only [Gen.genSharesBits, List.contains_eq_mem, List.mem_cons, List.not_mem_nil,
                  or_false, decide_eq_true_eq] at hb
                exact hb
              exact ⟨secret, enc, data, rest, shares, rfl, hbits, henc, hsp, hmk, hms⟩
    · have hb' : Gen.genSharesBits.contains (secret.length * 8) = false := by simpa using hb
      rw [hb'] at hgen
      simp at hgen

end Buidl.Shamir
