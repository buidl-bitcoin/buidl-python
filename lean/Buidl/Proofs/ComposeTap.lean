/-
  Glue between the interpreter model (Buidl.Model.Interp, C06/C07), the taproot builder's model
  (Buidl.Model.Taproot, C12) and the MuSig / k-of-n tree model (Buidl.Model.MuSig, C13): the two taproot oracles
  of `Interp.Env` instantiated with the model of buidl/taproot.py, the script shape of MultiSigTapScript /
  MuSigTapScript in the interpreter's vocabulary and its well-formedness (so that it serialises and reads back),
  and the script-path spend of one leaf of a library-built tree.  For Buidl.Props.C13Compose.
-/
import Buidl.Proofs.Verify
import Buidl.Props.C12
import Buidl.Props.C13
import Buidl.Proofs.Script

namespace Buidl.ComposeTap
open Buidl Buidl.EC Buidl.Script Buidl.MuSig Buidl.Interp
open Buidl.Taproot (Hashes Leaf Tree ControlBlock parityOf tweakedKey cbAccepts numberToOpCode timelockCmds)

/-! ## the taproot oracles of `Interp.Env`, instantiated with the model of buidl/taproot.py -/

/-- `control_block.external_pubkey(tap_script)` for the bytes of a control block and the script bytes that
    `TapLeaf.hash` hashes: parse the block (Model.Taproot), recompute the output key from the leaf
    `{raw = leafBytes}` with the block's leaf version, and compare the parity bit -/
def tapCommitReal (H : Hashes) (cbBytes leafBytes : Bytes) : Except Err (Bytes × Bool) :=
  match ControlBlock.parse cbBytes with
  | none => .error .valueError
  | some cb =>
    match cb.externalPubkey H { cmds := [], raw := some leafBytes } with
    | none => .error .valueError
    | some q =>
      match parityOf q with
      | none => .error .attributeError
      | some par => .ok (xonly q, par == cb.parity)

/-- `ControlBlock.parse(b)` raises -/
def cbErrReal (b : Bytes) : Option Err := if (ControlBlock.parse b).isSome then none else some .valueError

def TapOracles (H : Hashes) (env : Env) : Prop := env.cbErr = cbErrReal ∧ env.tapCommit = tapCommitReal H

def tapEnv (H : Hashes) (base : Env) : Env := { base with cbErr := cbErrReal, tapCommit := tapCommitReal H }

theorem tapEnv_oracles (H : Hashes) (base : Env) : TapOracles H (tapEnv H base) := ⟨rfl, rfl⟩

theorem externalPubkey_congr (H : Hashes) (cb : ControlBlock) {s₁ s₂ : Script}
    (h : Script.serialize s₁ = Script.serialize s₂) : cb.externalPubkey H s₁ = cb.externalPubkey H s₂ := by
  simp only [ControlBlock.externalPubkey, ControlBlock.merkleRoot, Leaf.hash, Leaf.preimage, h]

theorem serialize_raw {cs : List Cmd} {leaf : Bytes} (hne : leaf ≠ []) :
    Script.serialize { cmds := cs, raw := some leaf } = encodeVarstr leaf := by
  simp [Script.serialize, rawSerialize, hne]

theorem serialize_cmds {cs : List Cmd} {leaf : Bytes} (h : serCmds cs = some leaf) :
    Script.serialize { cmds := cs } = encodeVarstr leaf := by
  simp [Script.serialize, rawSerialize, h]

/-- the oracle is the commitment test of `Script.evaluate` as modelled by the taproot builder (`cbAccepts`), on
    every script that serialises to the length-prefixed `leaf` -/
theorem tapCommitReal_iff_cbAccepts (H : Hashes) (b leaf qx : Bytes) (s : Script)
    (hs : Script.serialize s = encodeVarstr leaf) (hne : leaf ≠ []) :
    tapCommitReal H b leaf = .ok (qx, true) ↔ cbAccepts H b s qx = true := by
  unfold tapCommitReal cbAccepts
  cases ControlBlock.parse b with
  | none => simp
  | some cb =>
    simp only
    rw [externalPubkey_congr H cb (s₁ := s) (s₂ := { cmds := [], raw := some leaf }) (by rw [hs, serialize_raw hne])]
    cases cb.externalPubkey H { cmds := [], raw := some leaf } with
    | none => simp
    | some q =>
      simp only
      cases parityOf q <;> simp [and_comm]

/-! ## the scripts of MultiSigTapScript / MuSigTapScript in the interpreter's vocabulary -/

theorem checksigAdds_eq_addChain (xs : List Bytes) : checksigAdds xs = addChain xs := by
  induction xs with
  | nil => rfl
  | cons x xs ih => rw [checksigAdds, ih]; rfl

/-- the leaf script over sorted x-only keys `x0 :: rest`: a lone key is `<x0> CHECKSIG`, more keys are the
    CHECKSIG / CHECKSIGADD chain closed by `k EQUAL` -/
def leafScript (x0 : Bytes) (rest : List Bytes) (k : Nat) : List Cmd :=
  if rest = [] then [.push x0, .op 0xAC] else tapMultisigScript x0 rest k

theorem numberToOpCode_some {k kop : Nat} (h : numberToOpCode k = some kop) (hk : 1 ≤ k) :
    k ≤ 16 ∧ kop = 80 + k := by
  unfold numberToOpCode at h
  split at h
  · cases h
  · rw [if_neg (by omega)] at h
    simp only [Gen.numOpMax, Gen.numOpBase, Option.some.injEq] at *
    omega

/-- **MultiSigTapScript(S, k).commands without timelock**, when it exists, is `leafScript` over the sorted
    x-only keys of `S`; with two or more keys `k ≤ 16` (number_to_op_code) -/
theorem multiSigCmds_shape {S : List Pt} {k : Nat} {c : List Cmd} (h : multiSigCmds S k none none = some c)
    (hk : 1 ≤ k) :
    ∃ x0 rest, sortBytes (S.map xonly) = x0 :: rest ∧ rest.length + 1 = S.length ∧
      (∀ x ∈ x0 :: rest, x.length = 32) ∧ (rest ≠ [] → k ≤ 16) ∧ c = leafScript x0 rest k := by
  have hperm := (Props.C13.sort_sorted_perm (S.map xonly)).1
  obtain ⟨pre, x0, rest, hpre, hs, hc⟩ := multiSigCmds_some h
  cases hpre
  rw [hs] at hperm
  have hlen : rest.length + 1 = S.length := by simpa using hperm.length_eq
  refine ⟨x0, rest, hs, hlen, fun x hx => ?_, ?_⟩
  · obtain ⟨p, _, rfl⟩ := List.mem_map.mp (hperm.mem_iff.mp hx)
    exact EC.xonly_length p
  rcases hc with ⟨hn, kop, hko, rfl⟩ | ⟨hn, rfl⟩
  · have hr : rest ≠ [] := fun e => by rw [← hlen, e] at hn; exact Nat.lt_irrefl 1 hn
    obtain ⟨hk16, rfl⟩ := numberToOpCode_some hko hk
    refine ⟨fun _ => hk16, ?_⟩
    rw [leafScript, if_neg hr, tapMultisigScript, checksigAdds_eq_addChain]
    rfl
  · have hr : rest = [] := List.length_eq_zero_iff.mp (by omega)
    exact ⟨fun h' => absurd hr h', by rw [leafScript, if_pos hr]; rfl⟩

/-- MuSigTapScript(points).commands without timelock is the single-key leaf of the aggregate key -/
theorem musigNew_shape {H : Hashes} {S : List Pt} {M : MuSig} (h : musigNew H S none none = some M) :
    M.cmds = leafScript (xonly M.point) [] 0 := by
  obtain ⟨pre, hpre, hc⟩ := Props.C13.musig_leaf_timelock_prefix h
  cases hpre
  exact hc

/-! ## the leaf scripts are well-formed commands -/

theorem mem_addChain {xs : List Bytes} {c : Cmd} (h : c ∈ addChain xs) : (∃ x ∈ xs, c = .push x) ∨ c = .op 0xBA := by
  obtain ⟨x, hx, hc⟩ := List.mem_flatMap.mp h
  rcases List.mem_cons.mp hc with rfl | hc
  · exact Or.inl ⟨x, hx, rfl⟩
  · exact Or.inr (List.mem_singleton.mp hc)

theorem addChain_length (xs : List Bytes) : (addChain xs).length = 2 * xs.length := by
  rw [← checksigAdds_eq_addChain, checksigAdds_length]

theorem mem_leafScript {x0 : Bytes} {rest : List Bytes} {k : Nat} {c : Cmd} (h : c ∈ leafScript x0 rest k) :
    (∃ x ∈ x0 :: rest, c = .push x) ∨ c = .op 0xAC ∨ c = .op 0xBA ∨ (rest ≠ [] ∧ c = .op (80 + k)) ∨ c = .op 0x87 := by
  unfold leafScript at h
  split at h
  · rcases List.mem_cons.mp h with rfl | h
    · exact Or.inl ⟨x0, List.mem_cons_self, rfl⟩
    · exact Or.inr (Or.inl (List.mem_singleton.mp h))
  · next hr =>
    have key : c = .push x0 ∨ c = .op 0xAC ∨ c ∈ addChain rest ∨ c = .op (80 + k) ∨ c = .op 0x87 := by
      simpa [tapMultisigScript, or_assoc] using h
    rcases key with rfl | h | h | h | h
    · exact Or.inl ⟨x0, List.mem_cons_self, rfl⟩
    · exact Or.inr (Or.inl h)
    · rcases mem_addChain h with ⟨x, hx, rfl⟩ | h
      · exact Or.inl ⟨x, List.mem_cons_of_mem _ hx, rfl⟩
      · exact Or.inr (Or.inr (Or.inl h))
    · exact Or.inr (Or.inr (Or.inr (Or.inl ⟨hr, h⟩)))
    · exact Or.inr (Or.inr (Or.inr (Or.inr h)))

theorem leafScript_wf (x0 : Bytes) (rest : List Bytes) (k : Nat) (h : ∀ x ∈ x0 :: rest, x.length = 32)
    (hk : rest ≠ [] → k ≤ 16) :
    (∀ c ∈ leafScript x0 rest k, CmdWF c) ∧ Cmd.push [] ∉ leafScript x0 rest k ∧
      (leafScript x0 rest k).length ≤ 2 * rest.length + 4 ∧ leafScript x0 rest k ≠ [] := by
  refine ⟨fun c hc => ?_, fun hc => ?_, ?_, ?_⟩
  · rcases mem_leafScript hc with ⟨x, hx, rfl⟩ | rfl | rfl | ⟨hr, rfl⟩ | rfl
    · simp only [CmdWF, h x hx]; omega
    · exact Or.inr (by omega)
    · exact Or.inr (by omega)
    · have := hk hr; exact Or.inr (by omega)
    · exact Or.inr (by omega)
  · rcases mem_leafScript hc with ⟨x, hx, e⟩ | e | e | ⟨-, e⟩ | e
    · have := h x hx
      rw [← Cmd.push.inj e] at this
      cases this
    all_goals cases e
  · unfold leafScript
    split
    · simp
    · simp only [tapMultisigScript, List.length_append, addChain_length, List.length_cons, List.length_nil]; omega
  · unfold leafScript
    split <;> simp [tapMultisigScript]

/-! ## all keys of a leaf signed -/

/-- one signature per key, in script order, each a non-empty signature that verifies for its key -/
def AllSigned (env : Env) (keys sigs : List Bytes) : Prop :=
  List.Forall₂ (fun x s => schnorrCheck env x s = .ok (some true)) keys sigs

theorem sigCount_eq_one_iff {env : Env} {x s : Bytes} :
    sigCount env x s = 1 ↔ schnorrCheck env x s = .ok (some true) := by
  unfold sigCount
  split <;> simp [*]

theorem sigCount_le (env : Env) (x s : Bytes) : sigCount env x s ≤ 1 := by
  unfold sigCount; split <;> omega

theorem countValid_le (env : Env) : ∀ (keys sigs : List Bytes), countValid env keys sigs ≤ keys.length
  | [], _ => Nat.le_of_eq (by unfold countValid; rfl)
  | _ :: _, [] => Nat.zero_le _
  | x :: xs, s :: ss => by
    have := countValid_le env xs ss
    have := sigCount_le env x s
    simp only [countValid, List.length_cons]; omega

theorem allSigned_iff {env : Env} : ∀ {keys sigs : List Bytes},
    AllSigned env keys sigs ↔ ChecksOK env keys sigs ∧ countValid env keys sigs = keys.length
  | [], [] => ⟨fun _ => ⟨trivial, rfl⟩, fun _ => .nil⟩
  | [], _ :: _ => ⟨fun h => (nomatch h), fun h => h.1.elim⟩
  | _ :: _, [] => ⟨fun h => (nomatch h), fun h => h.1.elim⟩
  | x :: xs, s :: ss => by
    have h1 := countValid_le env xs ss
    have h2 := sigCount_le env x s
    have ih := allSigned_iff (env := env) (keys := xs) (sigs := ss)
    unfold AllSigned at ih ⊢
    rw [List.forall₂_cons, ih, ← sigCount_eq_one_iff]
    simp only [countValid, ChecksOK, List.length_cons]
    constructor
    · rintro ⟨h, hok, hc⟩
      exact ⟨⟨⟨_, sigCount_eq_one_iff.mp h⟩, hok⟩, by omega⟩
    · rintro ⟨⟨_, hok⟩, hc⟩
      exact ⟨by omega, hok, by omega⟩

/-! ## `List.Forall₂` against an `Option`-valued function -/

/-- the relation in which C13 states what a `mapM'` returned is an equation between mapped lists, so that
    members and `Nodup` travel by `List.mem_map`, `List.Nodup.map_on`, `List.Nodup.of_map` -/
theorem forall₂_some_iff {α β : Type} {f : α → Option β} {l : List α} {cs : List β} :
    List.Forall₂ (fun a c => f a = some c) l cs ↔ l.map f = cs.map some := by
  rw [← List.forall₂_eq_eq_eq, List.forall₂_map_left_iff, List.forall₂_map_right_iff]

theorem forall₂_some_mem {α β : Type} {f : α → Option β} {l : List α} {cs : List β}
    (h : List.Forall₂ (fun a c => f a = some c) l cs) {a : α} (ha : a ∈ l) : ∃ c ∈ cs, f a = some c := by
  obtain ⟨c, hc, e⟩ := List.mem_map.mp (forall₂_some_iff.mp h ▸ List.mem_map_of_mem ha)
  exact ⟨c, hc, e.symm⟩

/-! ## a script-path spend of one leaf of a tree built by the library -/

/-- **every leaf of a library-built tree can be opened.**  `t` is a tree of leaves built from commands (no `raw`
    override), one of them the default-version leaf with well-formed commands `cmds`; the internal key is
    `a·G ≠ ∞`, the tagged hashes are 32 bytes long, `env` has the real taproot oracles, and `cb` is the control
    block `t.control_block(a·G, leaf)` returns, with at most 128 sibling hashes (the consensus depth limit, which
    is also the length limit of `ControlBlock.parse`).  Then the output key `Q`, the script bytes and the block
    bytes exist, the taproot builder's commitment test `cbAccepts` holds for them, and they end a script-path
    witness for `OP_1 <xonly Q>` -/
theorem tree_leaf_opens {H : Hashes} (hL : ∀ m, (H.tapLeaf m).length = 32) (hB : ∀ m, (H.tapBranch m).length = 32)
    {env : Env} (horacle : TapOracles H env) {t : Tree} (hraw : ∀ l ∈ t.leaves, l.script.raw = none)
    {a : Int} (ha : smul a G ≠ .inf) {cmds : List Cmd} (wf : ∀ c ∈ cmds, CmdWF c) (hnp : Cmd.push [] ∉ cmds)
    (hne : cmds ≠ []) (hlen : cmds.length ≤ 2 ^ 40) {cb : ControlBlock}
    (hcb : t.controlBlock H (smul a G) (some { script := { cmds := cmds } }) = some cb)
    (hdepth : cb.hashes.length ≤ 128) :
    ∃ Q rawTap cbBytes, t.externalPubkey H (smul a G) = some Q ∧ serCmds cmds = some rawTap ∧
      cb.serialize = some cbBytes ∧ cbAccepts H cbBytes { cmds := cmds, raw := some rawTap } (xonly Q) = true ∧
      ScriptPathEnd env (xonly Q) rawTap cbBytes { cmds := cmds } := by
  obtain ⟨rawTap, hser⟩ := serCmds_isSome wf
  obtain ⟨v, hv, hparse⟩ := parse_serCmds wf hnp hlen hser
  have hrne : rawTap ≠ [] := by
    rintro rfl
    have h1 := serCmds_length wf hser
    have h2 := cmdsSize_ge_length cmds
    exact hne (List.length_eq_zero_iff.mp (by rw [List.length_nil] at h1; omega))
  have hcoh := Props.C12.coherent_of_no_raw H t { script := { cmds := cmds } } rfl hraw
  obtain ⟨Q, hQ, hext, hpar, hver, hint⟩ := Props.C12.control_block_external_pubkey H hcoh hcb
  obtain ⟨_, _, _, _, _, _, _, _, _, _, _, _, ho⟩ := Taproot.controlBlock_opens H hcb
  have hver : cb.version = 192 := hver
  have hp2 : cb.parity < 2 := by
    cases Q with
    | inf => cases hpar
    | aff qx qy => simp only [parityOf, Option.some.injEq] at hpar; omega
  obtain ⟨b, cb', hs, hp, _, hv', hp', _, hall⟩ := Props.C12.cb_roundtrip_key H (cb := cb) a hint ha (by omega)
    (by omega) hp2 (ho.hash_length hL hB) hdepth
  obtain ⟨b0, key, hb, _, _, hvb, _⟩ := Props.C12.cb_parse_fields hp
  -- the builder's test accepts the block for the leaf; the oracle, and the test on the script with `raw` set, are that test
  have hacc : cbAccepts H b { cmds := cmds } (xonly Q) = true := by simp [cbAccepts, hp, hall, hext, hpar, hp']
  have htc := (tapCommitReal_iff_cbAccepts H b rawTap (xonly Q) _ (serialize_cmds hser) hrne).mpr hacc
  refine ⟨Q, rawTap, b, hQ, hser, hs,
    (tapCommitReal_iff_cbAccepts H b rawTap (xonly Q) _ (serialize_raw hrne) hrne).mp htc,
    ⟨b0, _, hb, fun e => ?_⟩, horacle.1 ▸ (by simp [cbErrReal, hp]), ⟨v, [], hv, hparse⟩, hrne, horacle.2 ▸ htc⟩
  -- the first byte carries the leaf version 192: it is not the annex tag 0x50
  rw [hv', hver, e] at hvb
  exact absurd hvb (by decide)

def leafThreshold (rest : List Bytes) (k : Nat) : Nat := if rest = [] then 1 else k

/-- the setting of the spend theorems: 32-byte tagged hashes; an environment with the real taproot oracles; a
    tree of leaves built from commands (no `raw` override), one of them the default-version leaf with script
    `leafScript x0 rest k` (32-byte keys; `1 ≤ k ≤ 16` when there are several); internal key `a·G ≠ ∞`; `cb` the
    control block `t.control_block(a·G, leaf)` returns, of depth ≤ 128 -/
structure LeafSetting (H : Hashes) (env : Env) (t : Tree) (a : Int) (x0 : Bytes) (rest : List Bytes) (k : Nat)
    (cb : ControlBlock) : Prop where
  hL : ∀ m, (H.tapLeaf m).length = 32
  hB : ∀ m, (H.tapBranch m).length = 32
  oracles : TapOracles H env
  noRaw : ∀ l ∈ t.leaves, l.script.raw = none
  key : smul a G ≠ .inf
  h32 : ∀ x ∈ x0 :: rest, x.length = 32
  hk : rest ≠ [] → 1 ≤ k ∧ k ≤ 16
  hn : rest.length ≤ 2 ^ 32
  hcb : t.controlBlock H (smul a G) (some { script := { cmds := leafScript x0 rest k } }) = some cb
  depth : cb.hashes.length ≤ 128

/-- what a spend theorem says about the leaf with commands `cmds` of the tree `t` (internal key `a·G`, control
    block `cb`): the output key `Q`, the script bytes and the block bytes exist, the taproot builder's commitment
    test `cbAccepts` holds for them, and for the output `OP_1 <xonly Q>`

    * (complete) a witness `sigs (reversed) ‖ script ‖ block` with `Enough sigs fuel` is accepted by `verifyInput`;
    * (sound) every accepted input with a witness `w ‖ script ‖ block` has an empty scriptSig, and `Found` holds of
      some top items of `w`. -/
def LeafSpend (H : Hashes) (env : Env) (t : Tree) (a : Int) (cmds : List Cmd) (cb : ControlBlock)
    (Enough : List Bytes → Nat → Prop) (Found : List Bytes → Prop) : Prop :=
  ∃ Q rawTap cbBytes, t.externalPubkey H (smul a G) = some Q ∧ serCmds cmds = some rawTap ∧
    cb.serialize = some cbBytes ∧ cbAccepts H cbBytes { cmds := cmds, raw := some rawTap } (xonly Q) = true ∧
    (∀ sigs fuel, Enough sigs fuel →
      verifyInput Cfg.repaired env [] (p2trSpk (xonly Q)) (sigs.reverse ++ [rawTap, cbBytes]) fuel = .accept) ∧
    (∀ ss w fuel, verifyInput Cfg.repaired env ss (p2trSpk (xonly Q)) (w ++ [rawTap, cbBytes]) fuel = .accept →
      ss = [] ∧ ∃ sigs r, w.reverse = sigs ++ r ∧ Found sigs)

theorem LeafSpend.imp {H : Hashes} {env : Env} {t : Tree} {a : Int} {cmds : List Cmd} {cb : ControlBlock}
    {E E' : List Bytes → Nat → Prop} {F F' : List Bytes → Prop} (h : LeafSpend H env t a cmds cb E F)
    (he : ∀ sigs fuel, E' sigs fuel → E sigs fuel) (hf : ∀ sigs, F sigs → F' sigs) :
    LeafSpend H env t a cmds cb E' F' := by
  obtain ⟨Q, rawTap, cbBytes, hQ, hser, hcbs, hacc, hcomp, hsound⟩ := h
  refine ⟨Q, rawTap, cbBytes, hQ, hser, hcbs, hacc, fun sigs fuel hE => hcomp sigs fuel (he sigs fuel hE),
    fun ss w fuel hv => ?_⟩
  obtain ⟨hss, sigs, r, hrev, hF⟩ := hsound ss w fuel hv
  exact ⟨hss, sigs, r, hrev, hf sigs hF⟩

theorem leafScript_iff (env : Env) (x0 : Bytes) (rest : List Bytes) (k : Nat) (hk : rest ≠ [] → 1 ≤ k ∧ k ≤ 16)
    (S alt : Stack) (wit : Option (List Bytes)) (f : Nat) :
    run Cfg.repaired env (f + (2 * rest.length + 4)) ⟨leafScript x0 rest k, S, alt, wit, true⟩ = .accept ↔
      ∃ sigs r, S = sigs ++ r ∧ ChecksOK env (x0 :: rest) sigs ∧
        countValid env (x0 :: rest) sigs = leafThreshold rest k := by
  unfold leafScript leafThreshold
  split
  · next hr =>
    subst hr
    rw [show f + (2 * ([] : List Bytes).length + 4) = (f + 2) + 2 from rfl, tapleaf_single_iff]
    constructor
    · rintro ⟨sig, r, rfl, hv⟩
      exact ⟨[sig], r, rfl, ⟨⟨_, hv⟩, trivial⟩, by simp [countValid, sigCount, hv]⟩
    · rintro ⟨sigs, r, rfl, hok, hcnt⟩
      match sigs, hok with
      | [s], _ => exact ⟨s, r, rfl, sigCount_eq_one_iff.mp (by simpa [countValid] using hcnt)⟩
  · next hr => exact tapMultisig_iff env x0 rest k (hk hr) S alt wit f

/-- **one leaf of a library-built tree, spent through the script path**: accepted when the signatures, one per
    key in script order, can all be checked and exactly the threshold verify; an accepted input carries such
    elements on top -/
theorem tree_leaf_spend {H : Hashes} {env : Env} {t : Tree} {a : Int} {x0 : Bytes} {rest : List Bytes} {k : Nat}
    {cb : ControlBlock} (S : LeafSetting H env t a x0 rest k cb) :
    LeafSpend H env t a (leafScript x0 rest k) cb
      (fun sigs fuel => ChecksOK env (x0 :: rest) sigs ∧ countValid env (x0 :: rest) sigs = leafThreshold rest k ∧
        sigs.length + 2 * rest.length + 6 ≤ fuel)
      (fun sigs => ChecksOK env (x0 :: rest) sigs ∧ countValid env (x0 :: rest) sigs = leafThreshold rest k) := by
  obtain ⟨hL, hB, horacle, hraw, ha, h32, hk, hn, hcb, hdepth⟩ := S
  obtain ⟨wf, hnp, hlen, hne⟩ := leafScript_wf x0 rest k h32 (fun h => (hk h).2)
  obtain ⟨Q, rawTap, cbBytes, hQ, hser, hcs, hacc, P⟩ :=
    tree_leaf_opens hL hB horacle hraw ha wf hnp hne (by omega) hcb hdepth
  have hxl : (xonly Q).length = 32 := EC.xonly_length Q
  have hc : ∃ c r, leafScript x0 rest k = c :: r ∧ c ≠ .op 0xA9 := by
    unfold leafScript; split <;> exact ⟨_, _, rfl, nofun⟩
  refine ⟨Q, rawTap, cbBytes, hQ, hser, hcs, hacc, fun sigs fuel ⟨hok, hcnt, hf⟩ => ?_, fun ss w fuel hacc => ?_⟩
  · obtain ⟨f, rfl⟩ : ∃ f, fuel = f + (2 * rest.length + 4) + sigs.reverse.length + 2 :=
      ⟨fuel - (sigs.length + 2 * rest.length + 6), by rw [List.length_reverse]; omega⟩
    rw [verifyInput_p2tr_scriptpath P hxl hc, List.reverse_reverse]
    exact (leafScript_iff env x0 rest k hk _ _ _ f).mpr ⟨sigs, [], (List.append_nil _).symm, hok, hcnt⟩
  · -- the equation read backwards: an accepted spend has an empty scriptSig, and then the script accepted
    obtain rfl := structural_witness_empty (spk := p2trSpk (xonly Q)) (by simp [isP2tr, p2trSpk, hxl])
      (verifyInput_accept hacc).1
    have hrun := verifyInput_p2tr_scriptpath P hxl hc w fuel ▸ verifyInput_mono hacc (w.length + 2)
    exact ⟨rfl, (leafScript_iff env x0 rest k hk _ _ _ fuel).mp (run_mono hrun _)⟩

/-- the same for a script that asks for a signature of every key (a lone key, or `k` = number of keys): the
    spend is accepted with one valid signature per key, and only then -/
theorem tree_leaf_spend_all {H : Hashes} {env : Env} {t : Tree} {a : Int} {x0 : Bytes} {rest : List Bytes} {k : Nat}
    {cb : ControlBlock} (S : LeafSetting H env t a x0 rest k cb) (hthr : leafThreshold rest k = rest.length + 1) :
    LeafSpend H env t a (leafScript x0 rest k) cb
      (fun sigs fuel => AllSigned env (x0 :: rest) sigs ∧ 3 * rest.length + 7 ≤ fuel) (AllSigned env (x0 :: rest)) :=
  (tree_leaf_spend S).imp
    (fun sigs fuel ⟨hall, hf⟩ => by
      obtain ⟨hok, hcnt⟩ := allSigned_iff.mp hall
      have hsl := hok.length_eq
      exact ⟨hok, hcnt.trans hthr.symm, by rw [List.length_cons] at hsl; omega⟩)
    (fun sigs ⟨hok, hcnt⟩ => allSigned_iff.mpr ⟨hok, hcnt.trans hthr⟩)

/-! ## MuSig sessions: the key that is signed for -/

/-- without a merkle root the key MuSig signs for is the even representative of the aggregate key: same
    x-only encoding -/
theorem externalKey_nil_xonly {H : Hashes} {M : MuSig} {q : Int} (hq : M.point = smul q G) {ext : Pt}
    (h : externalKey H M [] = some ext) : xonly ext = xonly M.point := by
  simp only [externalKey, ne_eq, not_true_eq_false, if_false] at h
  have hne : M.point ≠ .inf := by
    intro e; rw [e, Taproot.evenPointOf_inf] at h; cases h
  rw [Taproot.evenPointOf_eq hne] at h
  injection h with h
  rw [← h, hq]
  exact Taproot.groupLaw.xonly_evenPoint_smul q

end Buidl.ComposeTap
