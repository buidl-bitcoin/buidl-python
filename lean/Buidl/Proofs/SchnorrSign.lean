/-
  C02 helper: PrivateKey.sign_schnorr and the BIP340 signing algorithm, each evaluated to the same closed
  form in the nonce `k'` (`signSchnorr_eq`, `spec_sign_eq`): `none` when `k'·G` is infinite (`k' = 0`),
  otherwise `x(k'·G)` with `sOf`, whose verification succeeds (`specCore_sOf`).
-/
import Buidl.Proofs.SchnorrVerify
namespace Buidl.Schnorr
open Buidl Buidl.EC
open Buidl.Spec.BIP340 (liftX hashTag tagChallenge tagAux tagNonce bytes32 int)

attribute [local irreducible] fsqrt fpow pmul powmod

theorem xorBytes_eq (a b : Bytes) : xorBytes a b = Spec.BIP340.xor a b := by
  induction a generalizing b with
  | nil => cases b <;> simp [xorBytes, Spec.BIP340.xor]
  | cons x xs ih =>
    cases b with
    | nil => simp [xorBytes, Spec.BIP340.xor]
    | cons y ys =>
      have := ih ys
      simp only [Spec.BIP340.xor] at this
      simp [xorBytes, Spec.BIP340.xor, this]

/-- the secret after even-Y normalisation of the public key (`PrivateKey.even_secret`) -/
def evenSec (d py : ℕ) : ℕ := if py % 2 = 1 then N - d else d

theorem evenSec_spec (d py : ℕ) : (if py % 2 = 0 then d else N - d) = evenSec d py :=
  ite_mod_two_eq_zero py d (N - d)

theorem evenSecret_aff (d px py : ℕ) : evenSecret d (.aff px py) = some (evenSec d py) := rfl

theorem evenSec_lt {d py : ℕ} (h1 : 1 ≤ d) (h2 : d < N) : evenSec d py < N := by
  unfold evenSec; split <;> omega

/-- the even-Y representative of `d·G` is `evenSec d · G`: for the public key this is PrivateKey.even_secret,
    for the nonce point the flip of `k` in sign_schnorr -/
theorem evenRep_pub {d px py : ℕ} (hd2 : d < N) (hPd : smul (d : ℤ) G = .aff px py) :
    evenRep (.aff px py) = smul (evenSec d py : ℤ) G :=
  (evenPoint_eq_evenRep (hPd ▸ smul_G_tors _)).symm.trans (evenPoint_smul_nat hd2.le hPd)

/-- the point the signature carries: sign_schnorr recomputes the nonce point only when it flips the nonce (to
    `evenSec k' ry`); either way it is the even-y representative of `k'·G` -/
theorem flip_nonce {k' rx ry : ℕ} (hk : k' < N) (hR : smul (k' : ℤ) G = .aff rx ry) :
    (if ry % 2 = 1 then smul ((if ry % 2 = 1 then N - k' else k' : ℕ) : ℤ) G else .aff rx ry) =
      evenRep (.aff rx ry) := by
  rw [evenRep_pub hk hR, evenSec]
  split
  · rfl
  · exact hR.symm

theorem take32_append (x y : ℕ) : (bytes32 x ++ bytes32 y).take 32 = bytes32 x :=
  List.take_left' (natToBE'_length 32 x)

theorem drop32_append (x y : ℕ) : ((bytes32 x ++ bytes32 y).drop 32).take 32 = bytes32 y := by
  have h : (bytes32 x).length = 32 := natToBE'_length 32 x
  rw [List.drop_left' h]
  exact List.take_of_length_le (by simp [bytes32])

theorem beToNat_bytes32 {x : ℕ} (h : x < 256 ^ 32) : beToNat (bytes32 x) = x := beToNat_natToBE' h

theorem spec_verify_serialized (sha256 : Bytes → Bytes) (px py : ℕ) (hv : Valid P A B (.aff px py))
    (m : Bytes) (rx s : ℕ) (hrx : rx < P) (hs : s < N) :
    Spec.BIP340.verify sha256 (bytes32 px) m (bytes32 rx ++ bytes32 s) =
      specCore sha256 (evenRep (.aff px py)) m rx s := by
  have hpx : beToNat (bytes32 px) = px := beToNat_bytes32 (lt_trans hv.1 P_lt_2_256)
  have hlift : liftX (beToNat (bytes32 px)) = some (evenRep (.aff px py)) := by
    rw [hpx]; exact liftX_of_valid hv
  rw [spec_verify_unfold, hlift, take32_append, drop32_append, beToNat_bytes32 (lt_trans hrx P_lt_2_256),
    beToNat_bytes32 (lt_trans hs N_lt_2_256)]
  simp only []
  rw [if_neg (by omega), if_neg (by omega)]

/-- BIP340's `s` for the secret `d` with public key `(px, py)` and the nonce `k'` with `k'·G = (rx, ry)`:
    `k + e·d` on the even-y normalisations of both -/
def sOf (sha256 : Bytes → Bytes) (d px py k' rx ry : ℕ) (m : Bytes) : ℕ :=
  (evenSec k' ry + evenSec d py * (int (hashTag sha256 tagChallenge (bytes32 rx ++ bytes32 px ++ m)) % N)) % N

theorem sOf_lt (sha256 : Bytes → Bytes) (d px py k' rx ry : ℕ) (m : Bytes) : sOf sha256 d px py k' rx ry m < N :=
  Nat.mod_lt _ N_pos

theorem serialize_eq (R : Pt) {s : ℕ} (hs : s < N) : serialize R s = some (xonly R ++ bytes32 s) := by
  rw [serialize, natToBE_some (lt_trans hs N_lt_2_256)]
  rfl

section
variable {sha256 : Bytes → Bytes} {d px py k' rx ry : ℕ}

/-- the verification equation: `s·G − e·(±d·G) = ±k'·G`, whose x is `rx` and whose y is even -/
theorem specCore_sOf (hd : d < N) (hk : k' < N) (hPd : smul (d : ℤ) G = .aff px py)
    (hR : smul (k' : ℤ) G = .aff rx ry) (m : Bytes) :
    specCore sha256 (evenRep (.aff px py)) m rx (sOf sha256 d px py k' rx ry m) = true := by
  have hpar := parity_evenRep (.aff rx ry)
  rw [evenRep_pub hk hR] at hpar
  unfold specCore sOf
  rw [xonly_evenRep, xonly_aff, evenRep_pub hd hPd, sadd_smul_G, (smul_G_eq_iff_cast (b := evenSec k' ry)).mpr]
  · rw [← evenRep_pub hk hR, evenRep_aff] at hpar ⊢
    exact (Bool.and_eq_true _ _).mpr ⟨decide_eq_true hpar, decide_eq_true rfl⟩
  · have he : int (hashTag sha256 tagChallenge (bytes32 rx ++ bytes32 px ++ m)) % N ≤ N := (Nat.mod_lt _ N_pos).le
    generalize int (hashTag sha256 tagChallenge (bytes32 rx ++ bytes32 px ++ m)) % N = e at he ⊢
    rw [Int.cast_add, Int.cast_mul, cast_N_sub he, Int.cast_natCast, ZMod.natCast_mod]
    push_cast
    ring

theorem spec_verify_sOf (hd : d < N) (hk : k' < N) (hPd : smul (d : ℤ) G = .aff px py)
    (hR : smul (k' : ℤ) G = .aff rx ry) (m : Bytes) :
    Spec.BIP340.verify sha256 (bytes32 px) m (bytes32 rx ++ bytes32 (sOf sha256 d px py k' rx ry m)) = true := by
  rw [spec_verify_serialized sha256 px py (hPd ▸ smul_valid G_valid _) m rx _
    (hR ▸ smul_valid G_valid (k' : ℤ) : Valid P A B (.aff rx ry)).1 (sOf_lt ..), specCore_sOf hd hk hPd hR]

end

section
variable (sha256 : Bytes → Bytes) {d px py k' : ℕ} (m a : Bytes) (hd1 : 1 ≤ d) (hd2 : d < N)
  (hPd : smul (d : ℤ) G = .aff px py)
include hd1 hd2 hPd

theorem spec_nonce_some : ∃ k', Spec.BIP340.nonce sha256 d m a = some k' ∧ k' < N := by
  unfold Spec.BIP340.nonce
  rw [if_neg (by omega), hPd]
  exact ⟨_, rfl, Nat.mod_lt _ N_pos⟩

variable (hn : Spec.BIP340.nonce sha256 d m a = some k') (hk : k' < N)
include hn hk

/-- **BIP340 Sign, evaluated**: it fails exactly when `k'·G` is infinite (`k' = 0`), and its self-check passes -/
theorem spec_sign_eq : Spec.BIP340.sign sha256 d m a =
    match smul (k' : ℤ) G with
    | .inf => none
    | .aff rx ry => some (bytes32 rx ++ bytes32 (sOf sha256 d px py k' rx ry m)) := by
  unfold Spec.BIP340.nonce at hn
  unfold Spec.BIP340.sign
  rw [if_neg (by omega), hPd] at hn ⊢
  dsimp only at hn ⊢
  rw [Option.some.inj hn]
  split
  · next h0 => rw [h0, show smul ((0 : ℕ) : ℤ) G = .inf from smul_zero G]
  · cases hR : smul (k' : ℤ) G with
    | inf => rfl
    | aff rx ry =>
      have hv := spec_verify_sOf (sha256 := sha256) hd2 hk hPd hR m
      unfold sOf at hv ⊢
      simp only [evenSec_spec, Nat.mul_comm (int _ % N)]
      rw [if_pos hv]

variable (c : Cache) (hc : CacheOK sha256 c) (hm : m.length = 32) (ha : a.length = 32)
include hc hm ha

omit hk in
theorem bip340K_eq : ∃ c', bip340K sha256 c d (.aff px py) m (some a) = some (k', c') ∧ CacheOK sha256 c' := by
  unfold Spec.BIP340.nonce at hn
  rw [if_neg (by omega), hPd] at hn
  obtain rfl := Option.some.inj hn
  obtain ⟨c1, h1, hc1⟩ := taggedHash_spec sha256 c hc Gen.schnorrTagAux a
  have hlt : evenSec d py < 256 ^ 32 := lt_trans (evenSec_lt hd1 hd2) N_lt_2_256
  obtain ⟨c2, h2, hc2⟩ := taggedHash_spec sha256 c1 hc1 Gen.schnorrTagNonce
    (xorBytes (natToBE' 32 (evenSec d py)) (hashTag sha256 Gen.schnorrTagAux a) ++ xonly (.aff px py) ++ m)
  refine ⟨c2, ?_, hc2⟩
  rw [bip340K, evenSecret_aff, some_bind_eq, hm, ha, if_neg (show ¬ cmpAt Gen.bip340KCmp 0 32 = true by decide),
    if_neg (show ¬ cmpAt Gen.bip340KCmp 1 32 = true by decide), natToBE, if_pos hlt, some_bind_eq,
    hashAux, h1, some_bind_eq]
  dsimp only
  rw [hashNonce, h2, some_bind_eq, xorBytes_eq, tagAux_eq, tagNonce_eq]
  simp only [evenSec_spec]
  rfl

/-- **sign_schnorr, evaluated**: the same pair `(R, s)`, `R` normalised to even y; the self-verification passes -/
theorem signSchnorr_eq : ∃ c', CacheOK sha256 c' ∧ signSchnorr sha256 c d m (some a) =
    match smul (k' : ℤ) G with
    | .inf => none
    | .aff rx ry => some ((evenRep (.aff rx ry), sOf sha256 d px py k' rx ry m), c') := by
  have hT : Tors (.aff px py) := hPd ▸ smul_G_tors _
  obtain ⟨c2, hK, hc2⟩ := bip340K_eq sha256 m a hd1 hd2 hPd hn c hc hm ha
  have hmk : mkPrivateKey d = some (.aff px py) := by
    unfold mkPrivateKey; rw [if_neg (by omega), if_neg (by omega), hPd]
  rw [signSchnorr, hmk, some_bind_eq, evenSecret_aff, some_bind_eq, hK, some_bind_eq]
  dsimp only
  cases hR : smul (k' : ℤ) G with
  | inf => exact ⟨c, hc, rfl⟩
  | aff rx ry =>
    have hvR : Valid P A B (.aff rx ry) := hR ▸ smul_valid G_valid _
    obtain ⟨c3, hC, hc3⟩ := taggedHash_spec sha256 c2 hc2 Gen.schnorrTagChallenge
      (xonly (evenRep (.aff rx ry)) ++ xonly (.aff px py) ++ m)
    have hQ' : (if py % 2 = 1 then smul (-1) (.aff px py) else .aff px py) = evenRep (.aff px py) := by
      rw [← evenPoint_eq_evenRep hT]; rfl
    obtain ⟨c4, hV, hc4⟩ := verifySchnorr_core sha256 c3 hc3 px py _ hQ' (evenRep_valid hT.1) m rx
      (if ry % 2 = 1 then P - ry else ry) (sOf sha256 d px py k' rx ry m) hvR.1
    rw [← evenRep_aff, specCore_sOf hd2 hk hPd hR] at hV
    refine ⟨c4, hc4, ?_⟩
    have hpar : parityOf (.aff rx ry) = some (ry % 2) := rfl
    simp only [hpar, Option.bind_eq_bind, Option.bind_some, flip_nonce hk hR, hashChallenge, hC]
    rw [tagChallenge_eq, xonly_evenRep, xonly_aff, xonly_aff]
    show (mkSig _ (sOf sha256 d px py k' rx ry m) >>= _) = _
    rw [mkSig_eq, if_neg (Nat.not_le.mpr (sOf_lt ..)), some_bind_eq]
    simp only [hV, Option.bind_some]
    rfl

end

theorem parse_serialize_even (x y s : ℕ) (hv : Valid P A B (.aff x y)) (hy : y % 2 = 0) (hs : s < N) :
    parse (bytes32 x ++ bytes32 s) = some (.aff x y, s) := by
  have hev : evenRep (.aff x y) = .aff x y := by
    show (if y % 2 = 1 then Pt.aff x (P - y) else Pt.aff x y) = _
    rw [if_neg (show ¬ y % 2 = 1 by omega)]
  have hp : parsePoint (bytes32 x) = some (.aff x y) := by
    have := parsePoint_xonly hv (by simp)
    rwa [hev] at this
  rw [parse_eq, take32_append, drop32_append, hp, beToNat_bytes32 (lt_trans hs N_lt_2_256)]
  simp only []
  rw [if_neg (by omega)]

end Buidl.Schnorr
