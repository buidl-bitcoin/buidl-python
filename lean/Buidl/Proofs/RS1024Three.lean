/-
  Three wrong words within 33 consecutive positions (first to last at most 32 apart:
  every triple of positions of a 20- or 33-word share) always change the RS1024 polymod.
  Kernel certificate: `three_check` in Buidl.Proofs.RS1024ThreeCheck.
-/
import Buidl.Proofs.RS1024ThreeCheck
import Buidl.Proofs.RS1024Two
namespace Buidl.Shamir
open Buidl

/-! ## the inverse certificate gives injectivity -/

/-- a left inverse on the unit vectors is a left inverse below `2^20` -/
theorem checkInv_sound (vs m : List Nat) (h : checkInv vs m = true) (d : Nat) (hd : d < 2 ^ 20) :
    combo m (combo vs d) = d := by
  simp only [checkInv, List.all_eq_true, List.mem_range, beq_iff_eq] at h
  have hx : ∀ a b, combo m (combo vs (a ^^^ b)) = combo m (combo vs a) ^^^ combo m (combo vs b) := fun a b => by
    rw [combo_xor, combo_xor]
  rw [linear_combo (f := fun d => combo m (combo vs d)) hx 20 d hd,
    List.map_congr_left fun j hj => h j (List.mem_range.mp hj), combo_units 20 d hd]

theorem combo_injective (vs m : List Nat) (h : checkInv vs m = true) (d : Nat) (hd : d < 2 ^ 20)
    (hz : combo vs d = 0) : d = 0 := by
  rw [← checkInv_sound vs m h d hd, hz, combo_zero]

/-! ## unpacking the kernel check -/

/-- `pairsFrom` on a chain of bases: every basis has been checked against all of `prev` and all earlier ones -/
theorem pairsFrom_basesChain : ∀ (n g0 : Nat) (prev : List (List Nat)),
    pairsFrom prev (basesChain n (basisAt g0)) = true → ∀ s, g0 < s → s ≤ g0 + n →
      (∀ wg ∈ prev, checkPair (basisAt s) wg = true) ∧
        ∀ g, g0 < g → g < s → checkPair (basisAt s) (basisAt g) = true := by
  intro n
  induction n with
  | zero => intro g0 _ _ s h1 h2; omega
  | succ n ih =>
    intro g0 prev h s h1 h2
    rw [basesChain, ← basisAt_succ, pairsFrom, Bool.and_eq_true, List.all_eq_true] at h
    by_cases hs : s = g0 + 1
    · subst hs
      exact ⟨h.1, fun g hg hgs => by omega⟩
    · obtain ⟨hp, hg⟩ := ih (g0 + 1) _ h.2 s (by omega) (by omega)
      refine ⟨fun wg hwg => hp wg (List.mem_append_left _ hwg), fun g hg0 hgs => ?_⟩
      by_cases hg1 : g = g0 + 1
      · exact hg1 ▸ hp _ (List.mem_append_right _ List.mem_cons_self)
      · exact hg g (by omega) hgs

theorem pair_checked (s g : Nat) (hg : 1 ≤ g) (hgs : g < s) (hs : s ≤ 32) :
    checkPair (basisAt s) (basisAt g) = true :=
  (pairsFrom_basesChain 32 0 [] three_check s (by omega) (by omega)).2 g hg hgs

/-! ## three errors -/

theorem basisAt_length (g : Nat) : (basisAt g).length = 10 := by rw [basisAt, List.length_map, List.length_range]

/-- the core: `L^s(d₁) ⊕ L^g(d₂) ⊕ d₃ ≠ 0` for `d₁ ≠ 0`, `1 ≤ g < s ≤ 32`: its high part is the combination of
    the twenty high parts of `basisAt s ++ basisAt g` selected by `d₁ | d₂ << 10` -/
theorem three_ne_zero (s g d1 d2 d3 : Nat) (hg : 1 ≤ g) (hgs : g < s) (hs : s ≤ 32) (h1 : d1 < 1024)
    (h10 : d1 ≠ 0) (h2 : d2 < 1024) (h3 : d3 < 1024) :
    rsLpow s d1 ^^^ rsLpow g d2 ^^^ d3 ≠ 0 := by
  intro hz
  have happ := combo_append (basisAt s) (basisAt g) d1 d2 (by rw [basisAt_length]; exact h1)
  rw [basisAt_length, ← rsLpow_combo s d1 h1, ← rsLpow_combo g d2 h2, xor_eq_zero_imp hz] at happ
  have hd : d1 ^^^ (d2 <<< 10) < 2 ^ 20 := by
    refine Nat.xor_lt_two_pow (by omega) ?_
    rw [Nat.shiftLeft_eq]
    omega
  have heq : d1 = d2 <<< 10 := xor_eq_zero_imp (combo_lt_1024
    (fun d hd h => combo_injective _ _ (pair_checked s g hg hgs hs) d hd (by rwa [List.map_append] at h))
    hd (happ ▸ h3))
  rw [Nat.shiftLeft_eq] at heq
  omega

/-- only `a ≠ a'` is asked: the second and third "errors" may be trivial, so this covers one and two wrong words
    as well -/
theorem polymod_three_errors (pre mid1 mid2 post : List Nat) (a a' b b' c c' : Nat)
    (ha : a < 1024) (ha' : a' < 1024) (hb : b < 1024) (hb' : b' < 1024) (hc : c < 1024) (hc' : c' < 1024)
    (hna : a ≠ a') (hspan : mid1.length + 1 + (mid2.length + 1) ≤ 32) :
    rs1024Polymod (pre ++ a :: (mid1 ++ b :: (mid2 ++ c :: post)))
      ≠ rs1024Polymod (pre ++ a' :: (mid1 ++ b' :: (mid2 ++ c' :: post))) := by
  have hd1 : a ^^^ a' < 1024 := Nat.xor_lt_two_pow (n := 10) ha ha'
  have hd2 : b ^^^ b' < 1024 := Nat.xor_lt_two_pow (n := 10) hb hb'
  have hd3 : c ^^^ c' < 1024 := Nat.xor_lt_two_pow (n := 10) hc hc'
  refine checksum.ne_of_xor_eq_zeros post.length
    (Nat.xor_lt_two_pow (Nat.xor_lt_two_pow (rsLpow_lt _ _ (by omega)) (rsLpow_lt _ _ (by omega))) (by omega))
    (three_ne_zero (mid1.length + 1 + (mid2.length + 1)) (mid2.length + 1) _ _ _ (by omega) (by omega) hspan hd1
      (xor_ne_zero hna) hd2 hd3) ?_
  simp only [rs1024Polymod, ← List.cons_append, ← List.append_assoc]
  rw [checksum.foldl_subst_diff, checksum.foldl_subst_diff, checksum.foldl_single_diff, checksum.step_zeros,
    checksum.step_zeros, checksum.zeros_xor (mid2.length + 1), XorChecksum.zeros_add, rsLpow_eq_zeros, rsLpow_eq_zeros]

end Buidl.Shamir
