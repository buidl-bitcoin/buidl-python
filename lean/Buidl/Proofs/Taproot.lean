/-
  Buidl.Proofs.Taproot — the lemmas for C12 (taproot commitment) over Buidl.Model.Taproot that use no group
  facts.  Hash functions are arbitrary (`H : Hashes`).  The group facts C12/C13 need are the structure
  `GroupLaw` of Buidl.Proofs.TaprootRel.  Control blocks go through `Opens H t c hs` (the sibling path `hs` opens
  the leaf hash `c` to the root of `t`): what the library builds opens (`controlBlock_opens`), what folds to the
  root opens or exhibits a collision (`opens_of_fold`).
-/
import Buidl.Proofs.SecpConst
import Buidl.Proofs.ListM
import Buidl.Model.Taproot

namespace Buidl.Taproot
open Buidl Buidl.EC Buidl.Script

/-! ## Python bytes order -/

theorem bytesLt_iff_lt : ∀ (a b : Bytes), bytesLt a b = true ↔ a < b
  | [], [] => by simp [bytesLt]
  | [], _ :: _ => by simp [bytesLt]
  | _ :: _, [] => by simp [bytesLt]
  | x :: xs, y :: ys => by
    rw [bytesLt, List.cons_lt_cons_iff, ← bytesLt_iff_lt xs ys, UInt8.lt_iff_toNat_lt, ← UInt8.toNat_inj]
    split
    · next h => exact iff_of_true rfl (Or.inl h)
    · next h =>
      split
      · next h' => exact iff_of_false Bool.false_ne_true (by omega)
      · next h' => exact ⟨fun hh => Or.inr ⟨by omega, hh⟩, fun hh => hh.elim (fun a => absurd a h) (·.2)⟩

theorem bytesLt_eq_false_iff (a b : Bytes) : bytesLt a b = false ↔ b ≤ a := by
  rw [← List.not_lt, ← bytesLt_iff_lt, Bool.not_eq_true]

theorem bytesLt_irrefl (a : Bytes) : bytesLt a a = false :=
  (bytesLt_eq_false_iff a a).mpr (List.le_refl a)

theorem branchPre_comm (a b : Bytes) : branchPre a b = branchPre b a := by
  unfold branchPre
  simp only [bytesLt_iff_lt]
  split
  · next h => rw [if_neg (List.lt_asymm h)]
  · next h =>
    split
    · rfl
    · next h' => rw [List.le_antisymm (List.not_lt.mp h') (List.not_lt.mp h)]

theorem branchHash_comm (H : Hashes) (a b : Bytes) : branchHash H a b = branchHash H b a := by
  unfold branchHash; rw [branchPre_comm]

theorem branchPre_length (a b : Bytes) : (branchPre a b).length = a.length + b.length := by
  unfold branchPre; split <;> simp [Nat.add_comm]

theorem branchPre_inj {L : Nat} {a b a' b' : Bytes} (ha : a.length = L) (hb : b.length = L)
    (ha' : a'.length = L) (hb' : b'.length = L) (h : branchPre a b = branchPre a' b') :
    (a = a' ∧ b = b') ∨ (a = b' ∧ b = a') := by
  unfold branchPre at h
  split at h <;> split at h
  · obtain ⟨h1, h2⟩ := List.append_inj h (ha.trans ha'.symm); exact Or.inl ⟨h1, h2⟩
  · obtain ⟨h1, h2⟩ := List.append_inj h (ha.trans hb'.symm); exact Or.inr ⟨h1, h2⟩
  · obtain ⟨h1, h2⟩ := List.append_inj h (hb.trans ha'.symm); exact Or.inr ⟨h2, h1⟩
  · obtain ⟨h1, h2⟩ := List.append_inj h (hb.trans hb'.symm); exact Or.inl ⟨h2, h1⟩

/-! ## the loop of ControlBlock.merkle_root -/

theorem foldPath_append (H : Hashes) (c : Bytes) (p q : List Bytes) :
    foldPath H c (p ++ q) = foldPath H (foldPath H c p) q := by
  induction p generalizing c with
  | nil => rfl
  | cons h t ih => simp only [List.cons_append, foldPath]; exact ih _

theorem foldPath_snoc (H : Hashes) (c : Bytes) (p : List Bytes) (h : Bytes) :
    foldPath H c (p ++ [h]) = branchHash H (foldPath H c p) h := by
  rw [foldPath_append]; rfl

/-! ## leaves, the tree hash and the tweaked key: what `some` means -/

theorem leafIn_iff (x : Leaf) (ls : List Leaf) : leafIn x ls = true ↔ ∃ l ∈ ls, x.eqv l = true := by
  unfold leafIn; simp [List.any_eq_true]

theorem Leaf.eqv_iff {x l : Leaf} : x.eqv l = true ↔ x.version = l.version ∧ x.script.cmds = l.script.cmds := by
  rw [Leaf.eqv, Bool.and_eq_true, beq_iff_eq, beq_iff_eq]

theorem Leaf.eqv_refl (x : Leaf) : x.eqv x = true := Leaf.eqv_iff.mpr ⟨rfl, rfl⟩

theorem leafIn_append (x : Leaf) (a b : List Leaf) : leafIn x (a ++ b) = (leafIn x a || leafIn x b) :=
  List.any_append

theorem Leaf.hash_eq (H : Hashes) (l : Leaf) : l.hash H = l.preimage.map H.tapLeaf := by
  unfold Leaf.hash; cases l.preimage <;> rfl

theorem Leaf.hash_some {H : Hashes} {l : Leaf} {c : Bytes} (h : l.hash H = some c) :
    ∃ m, l.preimage = some m ∧ H.tapLeaf m = c :=
  Option.map_eq_some_iff.mp (l.hash_eq H ▸ h)

theorem Leaf.preimage_some {l : Leaf} {m : Bytes} (h : l.preimage = some m) :
    ∃ s, l.version ≤ 255 ∧ Script.serialize l.script = some s ∧ m = UInt8.ofNat l.version :: s := by
  obtain ⟨v, hv, h⟩ := Option.bind_eq_some_iff.mp h
  obtain ⟨s, hs, h⟩ := Option.bind_eq_some_iff.mp h
  unfold intToByte at hv
  split at hv
  · next hle => exact ⟨s, hle, hs, (Option.some.inj h).symm.trans (Option.some.inj hv ▸ rfl)⟩
  · cases hv

theorem Leaf.preimage_inj {l l' : Leaf} {m : Bytes} (h : l.preimage = some m) (h' : l'.preimage = some m) :
    l.version = l'.version ∧ Script.serialize l.script = Script.serialize l'.script := by
  obtain ⟨s, hv, hs, e⟩ := Leaf.preimage_some h
  obtain ⟨s', hv', hs', e'⟩ := Leaf.preimage_some h'
  obtain ⟨e1, e2⟩ := List.cons.inj (e.symm.trans e')
  have := congrArg UInt8.toNat e1
  rw [u8_ofNat_toNat, u8_ofNat_toNat] at this
  exact ⟨by omega, hs.trans ((congrArg some e2).trans hs'.symm)⟩

theorem Tree.hash_branch {H : Hashes} {l r : Tree} {root : Bytes} (h : (Tree.branch l r).hash H = some root) :
    ∃ lh rh, l.hash H = some lh ∧ r.hash H = some rh ∧ branchHash H lh rh = root := by
  obtain ⟨lh, hl, h⟩ := Option.bind_eq_some_iff.mp h
  obtain ⟨rh, hr, h⟩ := Option.bind_eq_some_iff.mp h
  exact ⟨lh, rh, hl, hr, Option.some.inj h⟩

theorem evenPointOf_eq {X : Pt} (h : X ≠ .inf) : evenPointOf X = some (evenPoint X) := by
  cases X with
  | inf => exact absurd rfl h
  | aff x y => rfl

theorem evenPointOf_inf : evenPointOf .inf = none := rfl

theorem parityOf_eq {X : Pt} (h : X ≠ .inf) : parityOf X = some (parity X) := by
  cases X with
  | inf => exact absurd rfl h
  | aff x y => rfl

theorem parityOf_some {X : Pt} {p : Nat} (h : parityOf X = some p) : X ≠ .inf ∧ p = parity X := by
  cases X with
  | inf => simp [parityOf] at h
  | aff x y => simp only [parityOf, Option.some.injEq] at h; exact ⟨by simp, by simp [parity, h]⟩

theorem tweakedKey_eq (H : Hashes) {X : Pt} (h : X ≠ .inf) (root : Bytes) :
    tweakedKey H X root = some (sadd (evenPoint X) (smul (beToNat (H.tapTweak (xonly X ++ root)) : Int) G)) := by
  simp [tweakedKey, evenPointOf_eq h, tweak, saddInt]

theorem tweakedKey_inf (H : Hashes) (root : Bytes) : tweakedKey H .inf root = none := by
  simp [tweakedKey, evenPointOf_inf]

theorem tweakedKey_some {H : Hashes} {X Q : Pt} {root : Bytes} (h : tweakedKey H X root = some Q) :
    X ≠ .inf ∧ Q = sadd (evenPoint X) (smul (beToNat (H.tapTweak (xonly X ++ root)) : Int) G) := by
  cases X with
  | inf => simp [tweakedKey_inf] at h
  | aff x y =>
    rw [tweakedKey_eq H (by simp)] at h
    exact ⟨by simp, (Option.some.inj h).symm⟩

theorem tweakedKey_congr (H : Hashes) {X Y : Pt} (root : Bytes) (he : evenPointOf X = evenPointOf Y)
    (hx : xonly X = xonly Y) : tweakedKey H X root = tweakedKey H Y root := by
  simp [tweakedKey, tweak, he, hx]

/-! ## ControlBlock codec -/

theorem cbParseCmp_0 (x : Nat) : cmpAt Gen.cbParseCmp 0 x = (x != 1) := cmpOp_NotEq x 1
theorem cbParseCmp_1 (x : Nat) : cmpAt Gen.cbParseCmp 1 x = decide (x < 33) := cmpOp_Lt x 33
theorem cbParseCmp_2 (x : Nat) : cmpAt Gen.cbParseCmp 2 x = decide (x > 4129) := cmpOp_Gt x 4129

theorem cbParse_eq (b : Bytes) : ControlBlock.parse b =
    if b.length % 32 ≠ 1 then none
    else if b.length < 33 ∨ b.length > 4129 then none
    else match b with
      | [] => none
      | b0 :: _ =>
        match parseXonly ((b.drop 1).take 32) with
        | none => none
        | some X => some { version := b0.toNat &&& 254, parity := b0.toNat &&& 1, internal := X,
                           hashes := cbChunks b ((b.length - 33) / 32) 0 } := by
  unfold ControlBlock.parse
  simp only [cbParseCmp_0, cbParseCmp_1, cbParseCmp_2, bne_iff_ne, Bool.or_eq_true, decide_eq_true_eq]
  rfl

theorem cbChunks_append : ∀ (hs : List Bytes) (pre : Bytes) (i : Nat),
    (∀ h ∈ hs, h.length = 32) → pre.length = 33 + 32 * i →
    cbChunks (pre ++ hs.flatten) hs.length i = hs
  | [], _, _, _, _ => rfl
  | h :: t, pre, i, hl, hpre => by
    have hh : h.length = 32 := hl h List.mem_cons_self
    rw [List.length_cons, cbChunks, List.flatten_cons, List.drop_left' hpre, List.take_left' hh,
      ← List.append_assoc, cbChunks_append t (pre ++ h) (i + 1) (fun x hx => hl x (List.mem_cons_of_mem h hx))
        (by rw [List.length_append]; omega)]

theorem exists_flatten_of_length {α : Type} (w : Nat) : ∀ (m : Nat) (l : List α), l.length = w * m →
    ∃ hs : List (List α), hs.flatten = l ∧ (∀ h ∈ hs, h.length = w) ∧ hs.length = m
  | 0, l, hl => ⟨[], (List.eq_nil_of_length_eq_zero hl).symm, nofun, rfl⟩
  | m + 1, l, hl => by
    obtain ⟨hs, h1, h2, h3⟩ := exists_flatten_of_length w m (l.drop w) (by rw [List.length_drop, hl, Nat.mul_succ]; omega)
    refine ⟨l.take w :: hs, by rw [List.flatten_cons, h1, List.take_append_drop], ?_, congrArg (· + 1) h3⟩
    exact List.forall_mem_cons.mpr ⟨by rw [List.length_take, hl, Nat.mul_succ]; omega, h2⟩

/-- a byte is its version bits plus its parity bit -/
theorem byte_of_masks : ∀ x, x < 256 → (x &&& 254) + (x &&& 1) = x := by decide +kernel

theorem cbSerialize_eq {cb : ControlBlock} (h : cb.version + cb.parity < 256) :
    cb.serialize = some (UInt8.ofNat (cb.version + cb.parity) :: (xonly cb.internal ++ cb.hashes.flatten)) := by
  unfold ControlBlock.serialize intToByte
  rw [if_pos (by omega)]
  rfl

theorem cbParse_length {b : Bytes} {cb : ControlBlock} (h : ControlBlock.parse b = some cb) :
    ∃ m, m ≤ 128 ∧ b.length = 33 + 32 * m := by
  rw [cbParse_eq] at h
  split at h
  · cases h
  · split at h
    · cases h
    · exact ⟨(b.length - 33) / 32, by omega, by omega⟩

theorem cbParse_cons (b0 : UInt8) {key : Bytes} {hs : List Bytes} (hk : key.length = 32)
    (hh : ∀ h ∈ hs, h.length = 32) (hn : hs.length ≤ 128) :
    ControlBlock.parse (b0 :: (key ++ hs.flatten)) = (parseXonly key).map fun X =>
      { version := b0.toNat &&& 254, parity := b0.toNat &&& 1, internal := X, hashes := hs } := by
  have hlen : (b0 :: (key ++ hs.flatten)).length = 33 + 32 * hs.length := by
    rw [List.length_cons, List.length_append, hk, List.length_flatten_of_length hh]; omega
  rw [cbParse_eq, hlen, if_neg (Decidable.not_not.mpr (Nat.add_mul_mod_self_left 33 32 _)), if_neg (by omega)]
  simp only [List.drop_succ_cons, List.drop_zero]
  rw [List.take_left' hk, show (33 + 32 * hs.length - 33) / 32 = hs.length by omega, ← List.cons_append,
    cbChunks_append hs _ 0 hh (by rw [List.length_cons, hk])]
  cases parseXonly key <;> rfl

theorem cb_parse_sound {b : Bytes} {cb : ControlBlock} (h : ControlBlock.parse b = some cb) :
    ∃ b0 key, b = b0 :: (key ++ cb.hashes.flatten) ∧ key.length = 32 ∧ parseXonly key = some cb.internal ∧
      cb.version = b0.toNat &&& 254 ∧ cb.parity = b0.toNat &&& 1 ∧ (∀ x ∈ cb.hashes, x.length = 32) ∧
      cb.hashes.length ≤ 128 ∧ b.length = 33 + 32 * cb.hashes.length := by
  obtain ⟨m, hm, hlen⟩ := cbParse_length h
  cases b with
  | nil => rw [List.length_nil] at hlen; omega
  | cons b0 rest =>
    rw [List.length_cons] at hlen
    obtain ⟨hs, h1, h2, h3⟩ := exists_flatten_of_length 32 m (rest.drop 32) (by rw [List.length_drop]; omega)
    have hk : (rest.take 32).length = 32 := by rw [List.length_take]; omega
    have hb : rest = rest.take 32 ++ hs.flatten := by rw [h1, List.take_append_drop]
    rw [hb, cbParse_cons b0 hk h2 (h3 ▸ hm)] at h
    obtain ⟨X, hX, rfl⟩ := Option.map_eq_some_iff.mp h
    exact ⟨b0, _, by rw [← hb], hk, hX, rfl, rfl, h2, h3 ▸ hm, by rw [List.length_cons, h3]; omega⟩

/-! ## the control block built by the library -/

/-- `Opens H t c hs`: `c` is the hash of a leaf occurrence of `t` and `hs` its sibling hashes, leaf to root -/
inductive Opens (H : Hashes) : Tree → Bytes → List Bytes → Prop
  | leaf (l : Leaf) (c : Bytes) : l.hash H = some c → Opens H (.leaf l) c []
  | left (l r : Tree) (c : Bytes) (hs : List Bytes) (rh : Bytes) :
      Opens H l c hs → r.hash H = some rh → Opens H (.branch l r) c (hs ++ [rh])
  | right (l r : Tree) (c : Bytes) (hs : List Bytes) (lh : Bytes) :
      Opens H r c hs → l.hash H = some lh → Opens H (.branch l r) c (hs ++ [lh])

theorem Opens.exists_leaf {H : Hashes} {t : Tree} {c : Bytes} {hs : List Bytes} (h : Opens H t c hs) :
    ∃ l ∈ t.leaves, l.hash H = some c := by
  induction h with
  | leaf l c hl => exact ⟨l, List.mem_singleton_self l, hl⟩
  | left l r c hs rh _ _ ih => obtain ⟨x, hx, hc⟩ := ih; exact ⟨x, List.mem_append_left _ hx, hc⟩
  | right l r c hs lh _ _ ih => obtain ⟨x, hx, hc⟩ := ih; exact ⟨x, List.mem_append_right _ hx, hc⟩

/-- an opening folds to the root: `ControlBlock.merkle_root` recomputes `tree.hash()` -/
theorem Opens.fold {H : Hashes} {t : Tree} {c : Bytes} {hs : List Bytes} (h : Opens H t c hs) :
    t.hash H = some (foldPath H c hs) := by
  induction h with
  | leaf l c hl => exact hl
  | left l r c hs rh _ hr ih => rw [Tree.hash, ih, hr, foldPath_snoc]; rfl
  | right l r c hs lh _ hl ih => rw [Tree.hash, ih, hl, foldPath_snoc, branchHash_comm]; rfl

theorem pathHashes_opens (H : Hashes) : ∀ (t : Tree) (x : Leaf) (root : Bytes),
    leafIn x t.leaves = true → t.hash H = some root →
    ∃ p, t.pathHashes H x = some p ∧ ∃ l ∈ t.leaves, x.eqv l = true ∧ ∃ c, l.hash H = some c ∧ Opens H t c p
  | .leaf l, x, root, hin, hr => by
    obtain ⟨l', hl', he⟩ := (leafIn_iff _ _).mp hin
    cases List.mem_singleton.mp hl'
    exact ⟨[], rfl, l, List.mem_singleton_self l, he, root, hr, Opens.leaf _ _ hr⟩
  | .branch l r, x, root, hin, hr => by
    obtain ⟨lh, rh, hlh, hrh, _⟩ := Tree.hash_branch hr
    rw [Tree.pathHashes]
    by_cases h1 : leafIn x l.leaves = true
    · obtain ⟨p, hp, y, hy, he, c, hc, ho⟩ := pathHashes_opens H l x lh h1 hlh
      rw [if_pos h1, hp, hrh]
      exact ⟨p ++ [rh], rfl, y, List.mem_append_left _ hy, he, c, hc, Opens.left _ _ _ _ _ ho hrh⟩
    · have h2 : leafIn x r.leaves = true := by
        rw [Tree.leaves, leafIn_append, Bool.or_eq_true] at hin
        exact hin.resolve_left h1
      obtain ⟨p, hp, y, hy, he, c, hc, ho⟩ := pathHashes_opens H r x rh h2 hrh
      rw [if_neg h1, if_pos h2, hp, hlh]
      exact ⟨p ++ [lh], rfl, y, List.mem_append_right _ hy, he, c, hc, Opens.right _ _ _ _ _ ho hlh⟩

/-- `TapLeaf.control_block` and `TapBranch.control_block` are one function of the tree -/
theorem Tree.controlBlock_eq (H : Hashes) (t : Tree) (P : Pt) (x : Leaf) :
    t.controlBlock H P (some x) =
      if leafIn x t.leaves then do
        let Q ← t.externalPubkey H P
        let par ← parityOf Q
        let p ← t.pathHashes H x
        pure { version := x.version, parity := par, internal := P, hashes := p }
      else none := by
  cases t with
  | leaf l =>
    rw [Tree.controlBlock, show leafIn x (Tree.leaf l).leaves = x.eqv l from Bool.or_false _]
    by_cases he : x.eqv l = true
    · rw [if_pos he, if_neg (by simp [he]), ← (Leaf.eqv_iff.mp he).1]; rfl
    · rw [if_neg he, if_pos (by simpa using he)]
  | branch l r => rw [Tree.controlBlock]; cases leafIn x (Tree.branch l r).leaves <;> rfl

theorem controlBlock_opens (H : Hashes) {t : Tree} {P : Pt} {x : Leaf} {cb : ControlBlock}
    (h : t.controlBlock H P (some x) = some cb) :
    cb.version = x.version ∧ cb.internal = P ∧
    ∃ root Q, t.hash H = some root ∧ tweakedKey H P root = some Q ∧ parityOf Q = some cb.parity ∧
      ∃ l ∈ t.leaves, x.eqv l = true ∧ ∃ c, l.hash H = some c ∧ Opens H t c cb.hashes := by
  rw [Tree.controlBlock_eq] at h
  split at h
  · next hin =>
    obtain ⟨Q, hq, h⟩ := Option.bind_eq_some_iff.mp h
    obtain ⟨par, hpar, h⟩ := Option.bind_eq_some_iff.mp h
    obtain ⟨p, hp, h⟩ := Option.bind_eq_some_iff.mp h
    obtain ⟨root, hr, hq⟩ := Option.bind_eq_some_iff.mp hq
    cases h
    obtain ⟨p', hp', ho⟩ := pathHashes_opens H t x root hin hr
    cases hp.symm.trans hp'
    exact ⟨rfl, rfl, root, Q, hr, hq, hpar, ho⟩
  · cases h

/-! ## binding: accepted openings are genuine, or exhibit a collision; lengths of hashes and paths -/

def LeafCollision (H : Hashes) : Prop := ∃ m m', m ≠ m' ∧ H.tapLeaf m = H.tapLeaf m'
def BranchCollision (H : Hashes) : Prop := ∃ m m', m ≠ m' ∧ H.tapBranch m = H.tapBranch m'
/-- for the real tagged hashes: a SHA-256 collision between messages with different 64-byte tag prefixes -/
def CrossCollision (H : Hashes) : Prop := ∃ m m', H.tapLeaf m = H.tapBranch m'
def TweakCollision (H : Hashes) : Prop :=
  ∃ X r X' r' Q Q', (xonly X, r) ≠ (xonly X', r') ∧ tweakedKey H X r = some Q ∧ tweakedKey H X' r' = some Q' ∧
    xonly Q = xonly Q'

theorem foldPath_length (H : Hashes) {L : Nat} (hB : ∀ m, (H.tapBranch m).length = L) :
    ∀ (hs : List Bytes) (c : Bytes), c.length = L → (foldPath H c hs).length = L
  | [], _, hc => hc
  | _ :: t, _, _ => foldPath_length H hB t _ (hB _)

theorem Tree.hash_length (H : Hashes) {L : Nat} (hL : ∀ m, (H.tapLeaf m).length = L)
    (hB : ∀ m, (H.tapBranch m).length = L) : ∀ (t : Tree) (root : Bytes), t.hash H = some root → root.length = L
  | .leaf l, root, h => by
    obtain ⟨m, _, rfl⟩ := Leaf.hash_some (l := l) h
    exact hL m
  | .branch l r, root, h => by
    obtain ⟨lh, rh, _, _, rfl⟩ := Tree.hash_branch h
    exact hB _

theorem Opens.hash_length {H : Hashes} {L : Nat} (hL : ∀ m, (H.tapLeaf m).length = L)
    (hB : ∀ m, (H.tapBranch m).length = L) {t : Tree} {c : Bytes} {hs : List Bytes} (h : Opens H t c hs) :
    ∀ s ∈ hs, s.length = L := by
  induction h with
  | leaf => exact fun _ hs => nomatch hs
  | left _ r _ _ rh _ hr ih =>
    exact List.forall_mem_append.mpr ⟨ih, List.forall_mem_singleton.mpr (Tree.hash_length H hL hB r rh hr)⟩
  | right l _ _ _ lh _ hl ih =>
    exact List.forall_mem_append.mpr ⟨ih, List.forall_mem_singleton.mpr (Tree.hash_length H hL hB l lh hl)⟩

def Tree.depth : Tree → Nat
  | .leaf _ => 0
  | .branch l r => 1 + max l.depth r.depth

theorem Opens.length_le_depth {H : Hashes} {t : Tree} {c : Bytes} {hs : List Bytes} (h : Opens H t c hs) :
    hs.length ≤ t.depth := by
  induction h with
  | leaf => exact Nat.le_refl 0
  | left _ _ _ _ _ _ _ ih => simp only [List.length_append, List.length_singleton, Tree.depth]; omega
  | right _ _ _ _ _ _ _ ih => simp only [List.length_append, List.length_singleton, Tree.depth]; omega

theorem controlBlock_depth (H : Hashes) {t : Tree} {P : Pt} {x : Leaf} {cb : ControlBlock}
    (h : t.controlBlock H P (some x) = some cb) : cb.hashes.length ≤ t.depth := by
  obtain ⟨_, _, _, _, _, _, _, _, _, _, _, _, ho⟩ := controlBlock_opens H h
  exact ho.length_le_depth

/-- **Merkle binding**: a leaf hash `c = H_TapLeaf(m)` and sibling hashes `hs` (all of the hash length) that
    fold to the root of `t` are a genuine opening of a leaf occurrence of `t` — or two different TapBranch
    preimages collide, or a TapLeaf hash equals a TapBranch hash -/
theorem opens_of_fold (H : Hashes) {L : Nat} (hL : ∀ m, (H.tapLeaf m).length = L)
    (hB : ∀ m, (H.tapBranch m).length = L) :
    ∀ (t : Tree) (root : Bytes), t.hash H = some root →
    ∀ (hs : List Bytes) (m : Bytes), (∀ h ∈ hs, h.length = L) → foldPath H (H.tapLeaf m) hs = root →
    Opens H t (H.tapLeaf m) hs ∨ BranchCollision H ∨ CrossCollision H
  | .leaf l, root, hr, hs, m, hlen, hf => by
    rcases List.eq_nil_or_concat hs with rfl | ⟨hs0, h, rfl⟩
    · exact Or.inl (Opens.leaf l _ (hr.trans (congrArg some hf.symm)))
    · rw [List.concat_eq_append, foldPath_snoc] at hf
      obtain ⟨ml, _, hml⟩ := Leaf.hash_some (l := l) hr
      exact Or.inr (Or.inr ⟨ml, _, hml.trans hf.symm⟩)
  | .branch l r, root, hr, hs, m, hlen, hf => by
    obtain ⟨lh, rh, hlh, hrh, hr⟩ := Tree.hash_branch hr
    rcases List.eq_nil_or_concat hs with rfl | ⟨hs0, h, rfl⟩
    · exact Or.inr (Or.inr ⟨m, _, hf.trans hr.symm⟩)
    · rw [List.concat_eq_append] at hf hlen ⊢
      rw [foldPath_snoc] at hf
      have hlen0 : ∀ x ∈ hs0, x.length = L := fun x hx => hlen x (List.mem_append_left _ hx)
      have hh : h.length = L := hlen h (List.mem_append_right _ (List.mem_singleton_self h))
      have hc0 : (foldPath H (H.tapLeaf m) hs0).length = L := foldPath_length H hB hs0 _ (hL m)
      have hlhL := Tree.hash_length H hL hB l lh hlh
      have hrhL := Tree.hash_length H hL hB r rh hrh
      by_cases hpre : branchPre (foldPath H (H.tapLeaf m) hs0) h = branchPre lh rh
      · rcases branchPre_inj hc0 hh hlhL hrhL hpre with ⟨e1, e2⟩ | ⟨e1, e2⟩
        · rcases opens_of_fold H hL hB l lh hlh hs0 m hlen0 e1 with ho | hc
          · subst e2; exact Or.inl (Opens.left _ _ _ _ _ ho hrh)
          · exact Or.inr hc
        · rcases opens_of_fold H hL hB r rh hrh hs0 m hlen0 e1 with ho | hc
          · subst e2; exact Or.inl (Opens.right _ _ _ _ _ ho hlh)
          · exact Or.inr hc
      · exact Or.inr (Or.inl ⟨_, _, hpre, hf.trans hr.symm⟩)

theorem foldPath_inj_left (H : Hashes) {L : Nat} (hB : ∀ m, (H.tapBranch m).length = L) :
    ∀ (hs : List Bytes) (c c' : Bytes), c.length = L → c'.length = L → (∀ h ∈ hs, h.length = L) →
    foldPath H c hs = foldPath H c' hs → c = c' ∨ BranchCollision H
  | [], _, _, _, _, _, h => Or.inl h
  | x :: t, c, c', hc, hc', hl, h => by
    rcases foldPath_inj_left H hB t _ _ (hB _) (hB _) (fun y hy => hl y (List.mem_cons_of_mem x hy)) h with he | hcol
    · by_cases hpre : branchPre c x = branchPre c' x
      · have hx : x.length = L := hl x List.mem_cons_self
        rcases branchPre_inj hc hx hc' hx hpre with ⟨e, _⟩ | ⟨e1, e2⟩
        · exact Or.inl e
        · exact Or.inl (e1.trans e2)
      · exact Or.inr ⟨_, _, hpre, he⟩
    · exact Or.inr hcol

theorem opens_unique (H : Hashes) : ∀ (t : Tree) (c : Bytes) (hs hs' : List Bytes),
    (t.leaves.map Leaf.preimage).Nodup → Opens H t c hs → Opens H t c hs' → hs = hs' ∨ LeafCollision H := by
  intro t
  induction t with
  | leaf l =>
    intro c hs hs' _ h h'
    cases h; cases h'; exact Or.inl rfl
  | branch l r ihl ihr =>
    intro c hs hs' hnd h h'
    rw [Tree.leaves, List.map_append] at hnd
    obtain ⟨hndl, hndr, hdis⟩ := List.nodup_append.mp hnd
    -- the same hash opened on both sides: two leaves with different preimages collide
    have cross : ∀ {p q : List Bytes}, Opens H l c p → Opens H r c q → LeafCollision H := by
      intro p q ho ho'
      obtain ⟨x, hx, hxc⟩ := ho.exists_leaf
      obtain ⟨y, hy, hyc⟩ := ho'.exists_leaf
      obtain ⟨mx, hpx, hmx⟩ := Leaf.hash_some hxc
      obtain ⟨my, hpy, hmy⟩ := Leaf.hash_some hyc
      exact ⟨mx, my, fun hm => hdis _ (List.mem_map.mpr ⟨x, hx, hpx⟩) _ (List.mem_map.mpr ⟨y, hy, hpy⟩) (congrArg some hm),
        hmx.trans hmy.symm⟩
    cases h with
    | left _ _ _ p rh ho hr =>
      cases h' with
      | left _ _ _ p' rh' ho' hr' =>
        rcases ihl c p p' hndl ho ho' with e | hc
        · cases hr.symm.trans hr'; exact Or.inl (by rw [e])
        · exact Or.inr hc
      | right _ _ _ p' lh' ho' hl' => exact Or.inr (cross ho ho')
    | right _ _ _ p lh ho hl =>
      cases h' with
      | left _ _ _ p' rh' ho' hr' => exact Or.inr (cross ho' ho)
      | right _ _ _ p' lh' ho' hl' =>
        rcases ihr c p p' hndr ho ho' with e | hc
        · cases hl.symm.trans hl'; exact Or.inl (by rw [e])
        · exact Or.inr hc

/-! ## acceptance of a (control block, script) pair for an output key -/

theorem cbParse_internal {b : Bytes} {cb : ControlBlock} (h : ControlBlock.parse b = some cb) :
    parseXonly (xonly cb.internal) = some cb.internal := by
  obtain ⟨_, key, _, hkl, hkp, _⟩ := cb_parse_sound h
  rwa [xonly_of_parseXonly hkl hkp]

theorem cbAccepts_some {H : Hashes} {b : Bytes} {s : Script} {qx : Bytes} (h : cbAccepts H b s qx = true) :
    ∃ cb m q, ControlBlock.parse b = some cb ∧ Leaf.preimage { script := s, version := cb.version } = some m ∧
      tweakedKey H cb.internal (foldPath H (H.tapLeaf m) cb.hashes) = some q ∧
      parityOf q = some cb.parity ∧ xonly q = qx := by
  unfold cbAccepts at h
  split at h
  · cases h
  · next cb hp =>
    split at h
    · cases h
    · next q he =>
      split at h
      · cases h
      · next par hpar =>
        rw [Bool.and_eq_true, beq_iff_eq, beq_iff_eq] at h
        obtain ⟨root, hroot, hq⟩ := Option.bind_eq_some_iff.mp he
        obtain ⟨c, hc, hroot⟩ := Option.bind_eq_some_iff.mp hroot
        obtain ⟨m, hm, rfl⟩ := Leaf.hash_some hc
        cases hroot
        exact ⟨cb, m, q, hp, hm, hq, h.1 ▸ hpar, h.2⟩

theorem cbAccepts_of {H : Hashes} {b : Bytes} {s : Script} {cb : ControlBlock} {m : Bytes} {q : Pt}
    (hp : ControlBlock.parse b = some cb) (hm : Leaf.preimage { script := s, version := cb.version } = some m)
    (hq : tweakedKey H cb.internal (foldPath H (H.tapLeaf m) cb.hashes) = some q)
    (hpar : parityOf q = some cb.parity) : cbAccepts H b s (xonly q) = true := by
  unfold cbAccepts
  simp [hp, ControlBlock.externalPubkey, ControlBlock.merkleRoot, Leaf.hash_eq, hm, hq, hpar]

/-! ## the `_leaves` memo is transparent -/

theorem MTree.erase_fresh : ∀ t : Tree, (MTree.fresh t).erase = t
  | .leaf _ => rfl
  | .branch l r => by simp [MTree.fresh, MTree.erase, MTree.erase_fresh l, MTree.erase_fresh r]

theorem MTree.memoOK_fresh : ∀ t : Tree, (MTree.fresh t).MemoOK
  | .leaf _ => trivial
  | .branch l r => ⟨MTree.memoOK_fresh l, MTree.memoOK_fresh r, fun m h => by cases h⟩

theorem MTree.leavesM_spec : ∀ t : MTree, t.MemoOK →
    t.leavesM.1 = t.erase.leaves ∧ t.leavesM.2.erase = t.erase ∧ t.leavesM.2.MemoOK
  | .leaf _, _ => ⟨rfl, rfl, trivial⟩
  | .branch l r (some m), h => ⟨h.2.2 m rfl, rfl, h⟩
  | .branch l r none, h => by
    obtain ⟨a1, a2, a3⟩ := MTree.leavesM_spec l h.1
    obtain ⟨b1, b2, b3⟩ := MTree.leavesM_spec r h.2.1
    refine ⟨?_, ?_, a3, b3, ?_⟩
    · simp only [MTree.leavesM, MTree.erase, Tree.leaves, a1, b1]
    · simp only [MTree.leavesM, MTree.erase, a2, b2]
    · intro m hm
      cases hm
      simp only [MTree.erase, Tree.leaves, a1, b1, a2, b2]

/-- `n` calls of `leaves()` in a row on one object: the answers and the object afterwards -/
def MTree.leavesIter : Nat → MTree → List (List Leaf) × MTree
  | 0, t => ([], t)
  | n + 1, t => let a := t.leavesM; let r := MTree.leavesIter n a.2; (a.1 :: r.1, r.2)

theorem MTree.leavesIter_spec : ∀ (n : Nat) (t : MTree), t.MemoOK →
    (MTree.leavesIter n t).1 = List.replicate n t.erase.leaves ∧ (MTree.leavesIter n t).2.erase = t.erase ∧
      (MTree.leavesIter n t).2.MemoOK
  | 0, _, h => ⟨rfl, rfl, h⟩
  | n + 1, t, h => by
    obtain ⟨a1, a2, a3⟩ := MTree.leavesM_spec t h
    obtain ⟨b1, b2, b3⟩ := MTree.leavesIter_spec n t.leavesM.2 a3
    refine ⟨?_, ?_, b3⟩
    · simp only [MTree.leavesIter, b1, a1, a2, List.replicate_succ]
    · simp only [MTree.leavesIter, b2, a2]

end Buidl.Taproot
