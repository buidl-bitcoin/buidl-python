/-
  Buidl.Proofs.ShamirLagrange — `ShareSet.interpolate` is Lagrange interpolation over the field GF256 of
  Buidl.Proofs.GF256 (Mathlib `Lagrange.interpolate`), column by column; hence from enough points of polynomials of
  bounded degree it returns their value at any further position (`interpolate_at`).
-/
import Buidl.Proofs.GF256
import Buidl.Proofs.Bytes
import Buidl.Proofs.ListM
import Mathlib.LinearAlgebra.Lagrange
namespace Buidl.Shamir
open Buidl

attribute [local irreducible] expN logN

/-! ## the model's `interpolate` without the partiality -/

theorem sumM_eq {α} (f : α → Option Nat) (g : α → Nat) (l : List α) (h : ∀ a ∈ l, f a = some (g a)) :
    sumM f l = some (l.map g).sum := by
  induction l with
  | nil => rfl
  | cons a r ih =>
    rw [sumM, h a (by simp), ih (fun b hb => h b (by simp [hb]))]
    simp

/-- the byte `exp[(log2[y] + lg) % 255] if y > 0 else 0` -/
def mulB (lg : Nat) (y : UInt8) : UInt8 :=
  if y > 0 then UInt8.ofNat (expN ((logN y.toNat + lg) % 255)) else 0

theorem mulAcc_eq (lg : Nat) (y c : UInt8) : mulAcc lg y c = some (c ^^^ mulB lg y) := by
  unfold mulAcc mulB
  by_cases hy : y > 0
  · have hm : (logN y.toNat + lg) % 255 < 255 := Nat.mod_lt _ (by decide)
    simp only [hy, if_true, log2?_eq y.toNat_lt, Gen.gfOrder2, exp?_eq hm, expN_lt hm]
  · simp [hy]

theorem zipMulAcc_eq (lg : Nat) : ∀ (ys cs : Bytes),
    zipMulAcc lg ys cs = some (List.zipWith (fun y c => c ^^^ mulB lg y) ys cs) := by
  intro ys
  induction ys with
  | nil => intro cs; simp [zipMulAcc]
  | cons y ys ih =>
    intro cs
    cases cs with
    | nil => simp [zipMulAcc]
    | cons c cs => simp [zipMulAcc, mulAcc_eq, ih]

/-- the exponent `log` of the loop body for the share with x-coordinate `sx` -/
def lgOf (x : Nat) (sd : ShareData) (sx : Nat) : Nat :=
  ((((sd.map fun o => logN (o.1 ^^^ x)).sum : Int) - logN (sx ^^^ x)
      - ((sd.map fun o => logN (sx ^^^ o.1)).sum : Int)) % 255).toNat

theorem interpStep_eq (x : Nat) (sd : ShareData) (hx : x < 256) (hn : ∀ o ∈ sd, o.1 < 256) (result : Bytes)
    (sh : Nat × Bytes) (hsh : sh.1 < 256) :
    interpStep x sd (sd.map fun o => logN (o.1 ^^^ x)).sum result sh
      = some (List.zipWith (fun y c => c ^^^ mulB (lgOf x sd sh.1) y) sh.2 result) := by
  unfold interpStep
  rw [log2?_eq (xor_lt_256 hsh hx),
    sumM_eq _ (fun o : Nat × Bytes => logN (sh.1 ^^^ o.1)) sd
      (fun o ho => log2?_eq (xor_lt_256 hsh (hn o ho)))]
  simp only [zipMulAcc_eq, Gen.gfOrder, lgOf]
  rfl

theorem foldM?_eq_foldlM {α β} (f : β → α → Option β) (l : List α) (b : β) :
    foldM? f b l = l.foldlM f b := by
  induction l generalizing b with
  | nil => rfl
  | cons a l ih => rw [foldM?, List.foldlM_cons]; cases f b a <;> [rfl; exact ih _]

theorem interpolate_eq (x : Nat) (first : Nat × Bytes) (rest : ShareData) (hx : x < 256)
    (hn : ∀ o ∈ first :: rest, o.1 < 256) :
    interpolate x (first :: rest) = some ((first :: rest).foldl
      (fun res sh => List.zipWith (fun y c => c ^^^ mulB (lgOf x (first :: rest) sh.1) y) sh.2 res)
      (List.replicate first.2.length 0)) := by
  unfold interpolate
  rw [sumM_eq _ (fun o : Nat × Bytes => logN (o.1 ^^^ x)) _
    (fun o ho => log2?_eq (xor_lt_256 (hn o ho) hx))]
  simp only
  rw [foldM?_eq_foldlM]
  exact List.foldlM_eq_some_foldl (fun sh hsh acc => interpStep_eq x _ hx hn acc sh (hn sh hsh)) _

/-! ## columns -/

def col (j : Nat) (b : Bytes) : UInt8 := b.getD j 0

theorem col_getElem {j : Nat} {b : Bytes} (h : j < b.length) : col j b = b[j] := by
  rw [col, List.getD_eq_getElem?_getD, List.getElem?_eq_getElem h]; rfl

theorem col_zipWith (g : UInt8 → UInt8 → UInt8) (ys cs : Bytes) (j : Nat) (h1 : j < ys.length)
    (h2 : j < cs.length) : col j (List.zipWith g ys cs) = g (col j ys) (col j cs) := by
  rw [col_getElem (by rw [List.length_zipWith]; omega), col_getElem h1, col_getElem h2, List.getElem_zipWith]

/-! ## into the field -/

def toF (b : UInt8) : GF256 := ⟨b.toNat, b.toNat_lt⟩
def natF (n : Nat) : GF256 := GF256.ofNat n
def gexpF (lg : Nat) : GF256 := ⟨expN (lg % 255), expN_lt (Nat.mod_lt _ (by decide))⟩

theorem toF_zero : toF 0 = 0 := rfl

theorem toF_xor (a b : UInt8) : toF (a ^^^ b) = toF a + toF b := by
  ext; simp [toF, UInt8.toNat_xor]

theorem natF_val {n : Nat} (h : n < 256) : (natF n).val = n := by
  simp [natF, GF256.ofNat, Nat.mod_eq_of_lt h]

theorem natF_xor {a b : Nat} (ha : a < 256) (hb : b < 256) : natF (a ^^^ b) = natF a + natF b := by
  ext; simp [natF_val ha, natF_val hb, natF_val (xor_lt_256 ha hb)]

theorem natF_inj {a b : Nat} (ha : a < 256) (hb : b < 256) (h : natF a = natF b) : a = b := by
  have := congrArg GF256.val h
  rwa [natF_val ha, natF_val hb] at this

theorem gexpF_ne_zero (lg : Nat) : gexpF lg ≠ 0 := by
  intro h
  have := congrArg GF256.val h
  simp only [gexpF, GF256.zero_val] at this
  exact expN_ne_zero (Nat.mod_lt _ (by decide)) this

theorem gexpF_congr {a b : Nat} (h : a % 255 = b % 255) : gexpF a = gexpF b := by
  ext; simp [gexpF, h]

theorem gexpF_zero : gexpF 0 = 1 := by
  ext; simp [gexpF, expN_zero]

theorem gexpF_add (a b : Nat) : gexpF (a + b) = gexpF a * gexpF b := by
  ext
  have ha : a % 255 < 255 := Nat.mod_lt _ (by decide)
  have hb : b % 255 < 255 := Nat.mod_lt _ (by decide)
  have h1 : expN (a % 255) ≠ 0 := expN_ne_zero ha
  have h2 : expN (b % 255) ≠ 0 := expN_ne_zero hb
  simp only [gexpF, GF256.mul_val]
  rw [gmul, if_neg (by simp [h1, h2]), logN_expN ha, logN_expN hb]
  have : (a + b) % 255 = (a % 255 + b % 255) % 255 := by omega
  rw [this]

theorem gexpF_sum {α} (f : α → Nat) (l : List α) : gexpF (l.map f).sum = (l.map fun a => gexpF (f a)).prod := by
  induction l with
  | nil => simp [gexpF_zero]
  | cons a l ih => simp only [List.map_cons, List.sum_cons, List.prod_cons, gexpF_add, ih]

theorem gexpF_logN {a : Nat} (ha : a < 256) (h0 : a ≠ 0) : gexpF (logN a) = natF a := by
  ext
  simp only [gexpF, natF_val ha]
  rw [Nat.mod_eq_of_lt (logN_lt ha h0), expN_logN ha h0]

theorem toF_eq_natF (y : UInt8) : toF y = natF y.toNat := by
  ext; rw [natF_val y.toNat_lt]; rfl

theorem toF_mulB (lg : Nat) (y : UInt8) : toF (mulB lg y) = toF y * gexpF lg := by
  unfold mulB
  by_cases hy : y > 0
  · have hy0 : y.toNat ≠ 0 := Nat.pos_iff_ne_zero.mp (UInt8.lt_iff_toNat_lt.mp hy)
    rw [if_pos hy, toF_eq_natF y, ← gexpF_logN y.toNat_lt hy0, ← gexpF_add]
    ext
    simp only [toF, gexpF, UInt8.toNat_ofNat']
    exact Nat.mod_eq_of_lt (expN_lt (Nat.mod_lt _ (by decide)))
  · have : y = 0 := UInt8.le_antisymm (UInt8.not_lt.mp hy) (UInt8.zero_le)
    rw [if_neg hy, this, toF_zero, zero_mul]

theorem fold_col (f : Nat → Nat) (L : Nat) : ∀ (l : ShareData) (acc : Bytes),
    (∀ sh ∈ l, sh.2.length = L) → acc.length = L →
    (l.foldl (fun res sh => List.zipWith (fun y c => c ^^^ mulB (f sh.1) y) sh.2 res) acc).length = L ∧
    ∀ j, j < L →
      toF (col j (l.foldl (fun res sh => List.zipWith (fun y c => c ^^^ mulB (f sh.1) y) sh.2 res) acc))
        = toF (col j acc) + (l.map fun sh => toF (col j sh.2) * gexpF (f sh.1)).sum := by
  intro l
  induction l with
  | nil => intro acc _ h; exact ⟨h, fun j _ => by simp⟩
  | cons sh l ih =>
    intro acc h hacc
    have hsl := h sh List.mem_cons_self
    obtain ⟨h1, h2⟩ := ih (List.zipWith (fun y c => c ^^^ mulB (f sh.1) y) sh.2 acc)
      (fun o ho => h o (List.mem_cons_of_mem _ ho)) (by rw [List.length_zipWith, hsl, hacc, Nat.min_self])
    refine ⟨h1, fun j hj => ?_⟩
    rw [List.foldl_cons, h2 j hj, col_zipWith _ _ _ j (by rw [hsl]; exact hj) (by rw [hacc]; exact hj),
      toF_xor, toF_mulB, List.map_cons, List.sum_cons, add_assoc]

/-! ## nodes and values in the field -/

open Polynomial in
structure WF (x : Nat) (sd : ShareData) : Prop where
  hx : x < 256
  hn : ∀ o ∈ sd, o.1 < 256
  nodup : (sd.map (·.1)).Nodup
  hxn : ∀ o ∈ sd, o.1 ≠ x

def nodesF (sd : ShareData) : List GF256 := sd.map fun o => natF o.1

theorem nodesF_nodup {sd : ShareData} (hn : ∀ o ∈ sd, o.1 < 256) (nd : (sd.map (·.1)).Nodup) :
    (nodesF sd).Nodup := by
  have : nodesF sd = (sd.map (·.1)).map natF := by
    rw [nodesF, List.map_map]; rfl
  rw [this]
  apply List.Nodup.map_on _ nd
  intro a ha b hb hab
  obtain ⟨o, ho, rfl⟩ := List.mem_map.mp ha
  obtain ⟨o', ho', rfl⟩ := List.mem_map.mp hb
  exact natF_inj (hn o ho) (hn o' ho') hab

theorem mem_nodesF {sd : ShareData} (sh : Nat × Bytes) (hsh : sh ∈ sd) : natF sh.1 ∈ (nodesF sd).toFinset := by
  simp only [List.mem_toFinset, nodesF, List.mem_map]
  exact ⟨sh, hsh, rfl⟩

open Polynomial

/-- the value attached to a node (column `j`), as a function on the field -/
def valF (sd : ShareData) (j : Nat) (a : GF256) : GF256 :=
  match sd.find? (fun o => natF o.1 = a) with
  | some o => toF (col j o.2)
  | none => 0

noncomputable def polyOf (sd : ShareData) (j : Nat) : GF256[X] :=
  Lagrange.interpolate (nodesF sd).toFinset id (valF sd j)

theorem valF_node {sd : ShareData} (hn : ∀ o ∈ sd, o.1 < 256) (nd : (sd.map (·.1)).Nodup) (j : Nat)
    (sh : Nat × Bytes) (hsh : sh ∈ sd) : valF sd j (natF sh.1) = toF (col j sh.2) := by
  unfold valF
  cases hf : sd.find? (fun o => natF o.1 = natF sh.1) with
  | none =>
    rw [List.find?_eq_none] at hf
    have := hf sh hsh
    simp at this
  | some o =>
    have ho := List.mem_of_find?_eq_some hf
    have hp := List.find?_some hf
    simp only [decide_eq_true_eq] at hp
    rw [List.inj_on_of_nodup_map nd ho hsh (natF_inj (hn o ho) (hn sh hsh) hp)]

/-! ## the coefficients are the Lagrange basis polynomials evaluated at `x` -/

theorem gexpF_sum_nodes {sd : ShareData} (hn : ∀ o ∈ sd, o.1 < 256) (nd : (sd.map (·.1)).Nodup)
    (g : Nat → Nat) (G : GF256 → GF256) (h : ∀ o ∈ sd, gexpF (logN (g o.1)) = G (natF o.1)) :
    gexpF ((sd.map fun o => logN (g o.1)).sum) = ∏ b ∈ (nodesF sd).toFinset, G b := by
  rw [gexpF_sum (fun o : Nat × Bytes => logN (g o.1)), List.prod_toFinset _ (nodesF_nodup hn nd),
    nodesF, List.map_map]
  exact congrArg List.prod (List.map_congr_left h)

/-- `exp[log2[a ⊕ b]]` is the difference of the field elements (`log2[0] = 0` gives 1 for `a = b`) -/
theorem gexpF_log_xor {a b : Nat} (ha : a < 256) (hb : b < 256) :
    gexpF (logN (a ^^^ b)) = if natF a = natF b then 1 else natF a - natF b := by
  by_cases h : a = b
  · rw [h, Nat.xor_self, logN_zero, gexpF_zero, if_pos rfl]
  · rw [if_neg (fun h2 => h (natF_inj ha hb h2)), gexpF_logN (xor_lt_256 ha hb) (xor_ne_zero h), natF_xor ha hb,
      GF256.sub_eq_add']

/-- the coefficient `exp[(Σ log(o ⊕ x) − log(s ⊕ x) − Σ log(s ⊕ o)) mod 255]` that `interpolate` gives the share
    `s` is the Lagrange basis polynomial of its node evaluated at `x`, in its first barycentric form
    (`Lagrange.eval_basis_not_at_node`): the first sum is the nodal polynomial at `x`, the second term `x − s`, the
    last sum the inverse of the weight of `s` (`log2[0] = 0` makes its term `o = s` vanish) -/
theorem eval_basis {x : Nat} {sd : ShareData} (wf : WF x sd) (sh : Nat × Bytes) (hsh : sh ∈ sd) :
    eval (natF x) (Lagrange.basis (nodesF sd).toFinset id (natF sh.1)) = gexpF (lgOf x sd sh.1) := by
  have hs := wf.hn sh hsh
  have hne : ∀ o ∈ sd, natF x ≠ natF o.1 := fun o ho h => wf.hxn o ho (natF_inj (wf.hn o ho) wf.hx h.symm)
  have hA := gexpF_sum_nodes wf.hn wf.nodup (· ^^^ x) (natF x - ·) fun o ho => by
    rw [Nat.xor_comm, gexpF_log_xor wf.hx (wf.hn o ho), if_neg (hne o ho)]
  have hB : gexpF (logN (sh.1 ^^^ x)) = natF x - natF sh.1 := by
    rw [Nat.xor_comm, gexpF_log_xor wf.hx hs, if_neg (hne sh hsh)]
  have hC := gexpF_sum_nodes wf.hn wf.nodup (sh.1 ^^^ ·)
    (fun b => if natF sh.1 = b then 1 else natF sh.1 - b) fun o ho => gexpF_log_xor hs (wf.hn o ho)
  rw [← Finset.mul_prod_erase _ _ (mem_nodesF sh hsh), if_pos rfl, one_mul,
    Finset.prod_congr rfl (fun b hb => if_neg (Finset.ne_of_mem_erase hb).symm)] at hC
  have hmain : gexpF (lgOf x sd sh.1) * gexpF (logN (sh.1 ^^^ x)) *
      gexpF ((sd.map fun o => logN (sh.1 ^^^ o.1)).sum) = gexpF ((sd.map fun o => logN (o.1 ^^^ x)).sum) := by
    rw [← gexpF_add, ← gexpF_add]
    apply gexpF_congr
    unfold lgOf
    generalize (sd.map fun o => logN (o.1 ^^^ x)).sum = A
    generalize logN (sh.1 ^^^ x) = B
    generalize (sd.map fun o => logN (sh.1 ^^^ o.1)).sum = C
    omega
  rw [Lagrange.eval_basis_not_at_node (mem_nodesF sh hsh) (hne sh hsh), Lagrange.eval_nodal, Lagrange.nodalWeight,
    Finset.prod_inv_distrib]
  simp only [id]
  rw [← hA, ← hB, ← hC, ← hmain, ← mul_assoc, mul_inv_cancel_right₀ (gexpF_ne_zero _),
    mul_inv_cancel_right₀ (gexpF_ne_zero _)]

theorem interpolate_eq_lagrange {x : Nat} {sd : ShareData} (wf : WF x sd) (hne : sd ≠ []) (L : Nat)
    (hL : ∀ sh ∈ sd, sh.2.length = L) :
    ∃ out, interpolate x sd = some out ∧ out.length = L ∧
      ∀ j, j < L → toF (col j out) = eval (natF x) (polyOf sd j) := by
  cases sd with
  | nil => exact absurd rfl hne
  | cons first rest =>
    obtain ⟨h1, h2⟩ := fold_col (lgOf x (first :: rest)) L (first :: rest) (List.replicate first.2.length 0) hL
      (by rw [List.length_replicate]; exact hL first List.mem_cons_self)
    refine ⟨_, interpolate_eq x first rest wf.hx wf.hn, h1, fun j hj => ?_⟩
    have h0 : col j (List.replicate first.2.length 0) = 0 := by
      rw [col_getElem (by rw [List.length_replicate, hL first List.mem_cons_self]; exact hj),
        List.getElem_replicate]
    rw [h2 j hj, h0, toF_zero, zero_add, polyOf, Lagrange.interpolate_apply, eval_finsetSum,
      List.sum_toFinset _ (nodesF_nodup wf.hn wf.nodup)]
    conv => rhs; rw [nodesF, List.map_map]
    apply congrArg List.sum
    apply List.map_congr_left
    intro sh hsh
    simp only [Function.comp]
    have e := eval_basis wf sh hsh
    rw [nodesF] at e
    rw [eval_mul, eval_C, valF_node wf.hn wf.nodup j sh hsh, e]

/-! ## any `k` points of a polynomial of degree < k determine it -/

theorem toF_inj {a b : UInt8} (h : toF a = toF b) : a = b :=
  UInt8.toNat_inj.mp (congrArg GF256.val h)

def nodes (sd : ShareData) : List Nat := sd.map (·.1)

structure WFset (sd : ShareData) (L : Nat) : Prop where
  hn : ∀ o ∈ sd, o.1 < 256
  nodup : (nodes sd).Nodup
  hL : ∀ o ∈ sd, o.2.length = L

theorem WFset.wf {sd : ShareData} {L : Nat} (h : WFset sd L) (x : Nat) (hx : x < 256) (hxn : x ∉ nodes sd) :
    WF x sd :=
  ⟨hx, h.hn, h.nodup, fun o ho he => hxn (by rw [← he]; exact List.mem_map_of_mem ho)⟩

theorem card_nodesF {sd : ShareData} {L : Nat} (h : WFset sd L) : (nodesF sd).toFinset.card = sd.length := by
  rw [List.toFinset_card_of_nodup (nodesF_nodup h.hn h.nodup), nodesF, List.length_map]

/-- the point `p` lies on the polynomials `P j`, one for each byte position `j < L` -/
def At (P : Nat → GF256[X]) (L : Nat) (p : Nat × Bytes) : Prop :=
  p.2.length = L ∧ ∀ j, j < L → toF (col j p.2) = eval (natF p.1) (P j)

theorem At.unique {P : Nat → GF256[X]} {L x : Nat} {a b : Bytes} (ha : At P L (x, a)) (hb : At P L (x, b)) :
    a = b := by
  have hal : a.length = L := ha.1
  have hbl : b.length = L := hb.1
  apply List.ext_getElem (by rw [hal, hbl])
  intro j h1 h2
  rw [← col_getElem h1, ← col_getElem h2]
  exact toF_inj ((ha.2 j (hal ▸ h1)).trans (hb.2 j (hal ▸ h1)).symm)

theorem at_polyOf {base : ShareData} {L : Nat} (hb : WFset base L) {p : Nat × Bytes} (hp : p ∈ base) :
    At (polyOf base) L p := by
  refine ⟨hb.hL p hp, fun j _ => ?_⟩
  have := Lagrange.eval_interpolate_at_node (valF base j) (s := (nodesF base).toFinset) (v := id)
    (Function.injective_id.injOn) (mem_nodesF p hp)
  simp only [id] at this
  rw [polyOf, this, valF_node hb.hn hb.nodup j p hp]

theorem degree_polyOf {base : ShareData} {L : Nat} (hb : WFset base L) (j : Nat) :
    (polyOf base j).degree < base.length := by
  have h := Lagrange.degree_interpolate_lt (valF base j) (s := (nodesF base).toFinset) (v := id)
    Function.injective_id.injOn
  rwa [card_nodesF hb] at h

theorem polyOf_eq {P : Nat → GF256[X]} {sub : ShareData} {L : Nat} (hs : WFset sub L) (hon : ∀ p ∈ sub, At P L p)
    {j : Nat} (hj : j < L) (hdeg : (P j).degree < sub.length) : polyOf sub j = P j := by
  refine (Lagrange.eq_interpolate_of_eval_eq (valF sub j) Function.injective_id.injOn
    (by rw [card_nodesF hs]; exact hdeg) fun a ha => ?_).symm
  simp only [List.mem_toFinset, nodesF, List.mem_map] at ha
  obtain ⟨sh, hsh, rfl⟩ := ha
  rw [valF_node hs.hn hs.nodup j sh hsh]
  exact ((hon sh hsh).2 j hj).symm

theorem interpolate_at {P : Nat → GF256[X]} {sub : ShareData} {L : Nat} (hs : WFset sub L) (hne : sub ≠ [])
    (hon : ∀ p ∈ sub, At P L p) (hdeg : ∀ j, j < L → (P j).degree < sub.length)
    {x : Nat} {b : Bytes} (hx : x < 256) (hxs : x ∉ nodes sub) (hb : At P L (x, b)) : interpolate x sub = some b := by
  obtain ⟨out, ho, hlen, hcol⟩ := interpolate_eq_lagrange (hs.wf x hx hxs) hne L hs.hL
  rw [ho, At.unique (P := P) ⟨hlen, fun j hj => ?_⟩ hb]
  rw [hcol j hj, polyOf_eq hs hon hj (hdeg j hj)]

theorem at_of_interpolate {base : ShareData} {L : Nat} (hb : WFset base L) (hne : base ≠ []) {sh : Nat × Bytes}
    (h : interpolate sh.1 base = some sh.2) (hx : sh.1 < 256) (hxs : sh.1 ∉ nodes base) :
    At (polyOf base) L sh := by
  obtain ⟨out, ho, hat⟩ := interpolate_eq_lagrange (hb.wf _ hx hxs) hne L hb.hL
  cases h.symm.trans ho
  exact hat

end Buidl.Shamir
