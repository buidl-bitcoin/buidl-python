/-
  The codec law the stream formats are stated with (`RoundTrip`: serialise, then parse with anything following), what
  follows from it alone (prefix-freeness, lists of items); the converse notion for arbitrary bytes (`Post`: whatever an
  `Option` block returns has a property; `Yields`: what a parser returns has a property and what it leaves is a suffix),
  with one rule per construct of a `do` block; and what the primitive readers of Buidl.Model.Bytes (`readVarint`,
  `readVarstr`) do under either.
-/
import Buidl.Proofs.Bytes
namespace Buidl

theorem inj_of_roundtrip {α β} {e : α → Option β} {d : β → Option α} (rt : ∀ a b, e a = some b → d b = some a)
    {a₁ a₂ : α} {b : β} (h₁ : e a₁ = some b) (h₂ : e a₂ = some b) : a₁ = a₂ :=
  Option.some.inj ((rt a₁ b h₁).symm.trans (rt a₂ b h₂))

/-! ### the codec law -/

/-- with `y = x` the value is a fixed point of parse ∘ serialise; with `y` a normal form of `x` this is
    the round trip up to that normal form -/
def RoundTrip {α β} (ser : α → Option Bytes) (par : Bytes → Option (β × Bytes)) (x : α) (y : β) : Prop :=
  ∃ e, ser x = some e ∧ ∀ rest, par (e ++ rest) = some (y, rest)

theorem RoundTrip.parse_eq {α β} {ser : α → Option Bytes} {par : Bytes → Option (β × Bytes)} {x : α} {y : β}
    {e : Bytes} (h : RoundTrip ser par x y) (he : ser x = some e) (rest : Bytes) :
    par (e ++ rest) = some (y, rest) := by
  obtain ⟨e', h1, h2⟩ := h
  cases h1.symm.trans he
  exact h2 rest

theorem RoundTrip.at_rest {α β} {ser : α → Option Bytes} {par : Bytes → Option (β × Bytes)} {x : α} {y : β}
    (h : RoundTrip ser par x y) (rest : Bytes) : ∃ e, ser x = some e ∧ par (e ++ rest) = some (y, rest) :=
  h.imp fun _ he => ⟨he.1, he.2 rest⟩

theorem RoundTrip.prefix_free {α β} {ser : α → Option Bytes} {par : Bytes → Option (β × Bytes)} {x₁ x₂ : α} {y₁ y₂ : β}
    {e₁ e₂ r₁ r₂ : Bytes} (h₁ : RoundTrip ser par x₁ y₁) (h₂ : RoundTrip ser par x₂ y₂)
    (s₁ : ser x₁ = some e₁) (s₂ : ser x₂ = some e₂) (h : e₁ ++ r₁ = e₂ ++ r₂) : y₁ = y₂ ∧ r₁ = r₂ := by
  have p := h₁.parse_eq s₁ r₁
  rw [h, h₂.parse_eq s₂ r₂] at p
  exact Prod.mk.inj (Option.some.inj p.symm)

/-- what the model's `serCmds`, `serItems`, `serIns`, … are -/
def serList {α} (ser : α → Option Bytes) : List α → Option Bytes
  | [] => some []
  | x :: r => do
    let a ← ser x
    let b ← serList ser r
    pure (a ++ b)

/-- what the model's `parseItems`, `parseIns`, `parseOuts` are -/
def parseN {α} (par : Bytes → Option (α × Bytes)) : Nat → Bytes → Option (List α × Bytes)
  | 0, s => some ([], s)
  | n + 1, s => do
    let (x, s) ← par s
    let (r, s) ← parseN par n s
    pure (x :: r, s)

theorem serList_cons_eq_some_iff {α} {ser : α → Option Bytes} {x : α} {r : List α} {e : Bytes} :
    serList ser (x :: r) = some e ↔ ∃ a b, ser x = some a ∧ serList ser r = some b ∧ e = a ++ b := by
  simp only [serList, Option.pure_def, Option.bind_eq_bind, Option.bind_eq_some_iff, Option.some.injEq]
  exact ⟨fun ⟨a, ha, b, hb, e⟩ => ⟨a, b, ha, hb, e.symm⟩, fun ⟨a, b, ha, hb, e⟩ => ⟨a, ha, b, hb, e.symm⟩⟩

theorem serList_mem {α} {ser : α → Option Bytes} {l : List α} {e : Bytes} (h : serList ser l = some e) :
    ∀ x ∈ l, ∃ b, ser x = some b := by
  induction l generalizing e with
  | nil => exact fun _ hx => nomatch hx
  | cons y r ih =>
    obtain ⟨a, b, ha, hb, _⟩ := serList_cons_eq_some_iff.1 h
    exact List.forall_mem_cons.mpr ⟨⟨a, ha⟩, ih hb⟩

theorem serList_map_congr {α β} {ser : α → Option Bytes} {ser' : β → Option Bytes} {f : α → β} {l : List α}
    (h : ∀ x ∈ l, ser' (f x) = ser x) : serList ser' (l.map f) = serList ser l := by
  induction l with
  | nil => rfl
  | cons x r ih =>
    simp only [List.map_cons, serList, h x List.mem_cons_self, ih fun y hy => h y (List.mem_cons_of_mem x hy)]

/-- for the model's loops both equations hold by `rfl` -/
theorem serList_eq_of {α} {ser : α → Option Bytes} {f : List α → Option Bytes} (h0 : f [] = some [])
    (h1 : ∀ x r, f (x :: r) = (ser x).bind fun a => (f r).bind fun b => some (a ++ b)) : f = serList ser := by
  funext l
  induction l with
  | nil => exact h0
  | cons x r ih => rw [h1, ih]; rfl

theorem parseN_eq_of {α} {par : Bytes → Option (α × Bytes)} {f : Nat → Bytes → Option (List α × Bytes)}
    (h0 : ∀ s, f 0 s = some ([], s))
    (h1 : ∀ n s, f (n + 1) s = (par s).bind fun x => (f n x.2).bind fun r => some (x.1 :: r.1, r.2)) :
    f = parseN par := by
  funext n
  induction n with
  | zero => funext s; exact h0 s
  | succ n ih => funext s; rw [h1, ih]; rfl

theorem RoundTrip.list {α β} {ser : α → Option Bytes} {par : Bytes → Option (β × Bytes)} {f : α → β} {l : List α}
    (h : ∀ x ∈ l, RoundTrip ser par x (f x)) : RoundTrip (serList ser) (parseN par l.length) l (l.map f) := by
  induction l with
  | nil => exact ⟨[], rfl, fun _ => rfl⟩
  | cons x r ih =>
    obtain ⟨a, ha, pa⟩ := h x List.mem_cons_self
    obtain ⟨b, hb, pb⟩ := ih fun y hy => h y (List.mem_cons_of_mem x hy)
    refine ⟨a ++ b, serList_cons_eq_some_iff.2 ⟨a, b, ha, hb, rfl⟩, fun rest => ?_⟩
    simp only [List.length_cons, parseN, List.append_assoc, pa, pb, Option.pure_def, Option.bind_eq_bind,
      Option.bind_some, List.map_cons]

/-! ### what a parser returns, whatever the bytes -/

/-- one rule per construct of an `Option`-valued `do` block, so that a proof follows the model's own term -/
def Post {α : Type} (o : Option α) (P : α → Prop) : Prop := ∀ a, o = some a → P a

namespace Post
variable {α β : Type} {P : β → Prop}

theorem none : Post (none : Option β) P := fun _ h => nomatch h

theorem pure {b : β} (h : P b) : Post (pure b : Option β) P := fun _ e => Option.some.inj e ▸ h

/-- the continuation learns what the first step returned -/
theorem bind {x : Option α} {f : α → Option β} (h : ∀ a, x = some a → Post (f a) P) : Post (x >>= f) P :=
  fun b e => let ⟨a, hx, ha⟩ := Option.bind_eq_some_iff.mp e; h a hx b ha

theorem ite {c : Prop} [Decidable c] {a b : Option β} (h1 : c → Post a P) (h2 : ¬ c → Post b P) :
    Post (if c then a else b) P := by
  split
  · exact h1 ‹_›
  · exact h2 ‹_›

end Post

def Yields {α : Type} (s : Bytes) (o : Option (α × Bytes)) (P : α → Prop) : Prop :=
  Post o fun p => P p.1 ∧ p.2 <:+ s

namespace Yields
variable {α β : Type} {s : Bytes} {o : Option (α × Bytes)} {P : α → Prop}

theorem none : Yields s (none : Option (α × Bytes)) P := Post.none

theorem some {y : α} {r : Bytes} (hy : P y) (hr : r <:+ s) : Yields s (some (y, r)) P := Post.pure ⟨hy, hr⟩

/-- the last line of a block returns the stream it was given -/
theorem pure {y : α} (hy : P y) : Yields s (Option.some (y, s)) P := some hy List.suffix_rfl

theorem imp {Q : α → Prop} (h : Yields s o P) (hPQ : ∀ a, P a → Q a) : Yields s o Q :=
  fun p e => ⟨hPQ _ (h p e).1, (h p e).2⟩

/-- the one rule of sequencing: the continuation runs on a suffix -/
theorem bind {k : α × Bytes → Option (β × Bytes)} {Q : β → Prop} (ho : Yields s o P)
    (hk : ∀ y r, P y → Yields r (k (y, r)) Q) : Yields s (o >>= k) Q :=
  Post.bind fun (y, r) e z hz =>
    have ⟨py, hr⟩ := ho _ e
    have ⟨qz, ht⟩ := hk y r py z hz
    ⟨qz, ht.trans hr⟩

/-- after `sread n`: the parser that follows runs on `s.drop n` -/
theorem drop (n : Nat) (h : Yields (s.drop n) o P) : Yields s o P :=
  fun p e => ⟨(h p e).1, (h p e).2.trans (List.drop_suffix n s)⟩

theorem guard {c : Prop} [Decidable c] (h : Yields s o P) : Yields s (if c then Option.none else o) P :=
  Post.ite (fun _ => none) fun _ => h

theorem parseN {par : Bytes → Option (α × Bytes)} (h : ∀ s, Yields s (par s) P) :
    ∀ n s, Yields s (parseN par n s) fun l => l.length = n ∧ ∀ x ∈ l, P x
  | 0, _ => pure ⟨rfl, nofun⟩
  | n + 1, s => (h s).bind fun _ _ hx => (parseN h n _).bind fun _ _ hl =>
      pure ⟨congrArg (· + 1) hl.1, List.forall_mem_cons.mpr ⟨hx, hl.2⟩⟩

end Yields

/-! ### the primitive readers -/

theorem encodeVarint_some {n : Nat} (h : n < 2 ^ 64) : ∃ e, encodeVarint n = some e :=
  Option.isSome_iff_exists.mp ((encodeVarint_isSome_iff n).mpr h)

theorem encodeVarstr_some {r : Bytes} (hl : r.length < 2 ^ 64) : ∃ e, encodeVarstr r = some e := by
  obtain ⟨v, hv⟩ := encodeVarint_some hl
  exact ⟨v ++ r, by rw [encodeVarstr, hv]; rfl⟩

theorem RoundTrip.varint {n : Nat} (h : n < 2 ^ 64) : RoundTrip encodeVarint readVarint n n :=
  (encodeVarint_some h).imp fun e he => ⟨he, fun rest => readVarint_encodeVarint n rest e he⟩

theorem varstr_roundTrip {b : Bytes} (h : b.length < 2 ^ 63) : RoundTrip encodeVarstr readVarstr b b := by
  obtain ⟨e, he⟩ := encodeVarstr_some (by omega : b.length < 2 ^ 64)
  exact ⟨e, he, fun rest => readVarstr_encodeVarstr b rest e h he⟩

theorem leToNat_take_lt (n : Nat) (s : Bytes) : leToNat (s.take n) < 256 ^ n :=
  Nat.lt_of_lt_of_le (leToNat_lt (s.take n)) (Nat.pow_le_pow_right (by omega) (List.length_take_le n s))

theorem readVarint_yields (s : Bytes) : Yields s (readVarint s) (· < 2 ^ 64) := by
  cases s with
  | nil => exact .none
  | cons b t =>
    have hd : ∀ k, t.drop k <:+ b :: t := fun k => (List.drop_suffix k t).trans (List.suffix_cons b t)
    simp only [readVarint, Gen.varintDecM0, Gen.varintDecM1, Gen.varintDecM2, Gen.varintDecW0, Gen.varintDecW1,
      Gen.varintDecW2]
    split
    · exact .some (Nat.lt_trans (leToNat_take_lt 2 t) (by decide)) (hd 2)
    · split
      · exact .some (Nat.lt_trans (leToNat_take_lt 4 t) (by decide)) (hd 4)
      · split
        · exact .some (leToNat_take_lt 8 t) (hd 8)
        · exact .some (Nat.lt_trans b.toNat_lt (by decide)) (List.suffix_cons b t)

theorem readVarstr_yields (s : Bytes) : Yields s (readVarstr s) (·.length < 2 ^ 63) := by
  intro (x, r) h
  unfold readVarstr at h
  split at h
  · cases h
  · next n t hv =>
    split at h
    · next hn =>
      cases h
      exact ⟨Nat.lt_of_le_of_lt (List.length_take_le n t) hn, (List.drop_suffix n t).trans (readVarint_yields s (n, t) hv).2⟩
    · cases h

end Buidl
