/-
  Buidl.Proofs.DescriptorParse — `P2WSHSortedMulti.parse(str(d)) = d`: the two hand-written matchers on the text
  layout the constructor emits, parse_full_key_record on one generated record, what the constructor stores and that
  storing it again changes nothing, and the shape of the checksum characters.  Mathlib-free; relative to the
  Base58Check and SEC round trips (discharged in Buidl.Props.C16 from Buidl.Proofs.HD).
-/
import Buidl.Proofs.Descriptor
import Buidl.Proofs.HDParse
namespace Buidl.Descriptor
open Buidl Buidl.PyStr Buidl.HD

/-! ## the two matchers on generated text -/

theorem wshLiteral_eq :
    wshLiteral = ['w', 's', 'h', '(', 's', 'o', 'r', 't', 'e', 'd', 'm', 'u', 'l', 't', 'i', '('] := by
  unfold wshLiteral
  rw [String.toList_ofList]

theorem lit_length : wshLiteral.length = 16 := by rw [wshLiteral_eq]; rfl

theorem prefix_lit_get {t : Str} (h : wshLiteral.isPrefixOf t = true) : t[15]? = some '(' := by
  obtain ⟨u, rfl⟩ := List.isPrefixOf_iff_prefix.mp h
  rw [wshLiteral_eq]
  rfl

/-- the literal ends with `(`: it does not occur where no `(` comes fifteen characters later -/
theorem matchFromLast_none : ∀ (t : Str), (∀ i, 15 ≤ i → t[i]? ≠ some '(') → matchFromLast t = none
  | [], _ => rfl
  | c :: t, h => by
    unfold matchFromLast
    rw [matchFromLast_none t (fun i hi => h (i + 1) (by omega)),
      if_neg (fun hp => h 15 (Nat.le_refl _) (prefix_lit_get hp))]

theorem matchFromLast_lit (r : Str) (hr : '(' ∉ r) : matchFromLast (wshLiteral ++ r) = matchAfterLiteral r := by
  obtain ⟨c, l, hw⟩ : ∃ c l, wshLiteral = c :: l := ⟨_, _, wshLiteral_eq⟩
  have hl : l.length = 15 := by have := lit_length; rw [hw] at this; simpa using this
  have hcons : wshLiteral ++ r = c :: (l ++ r) := by rw [hw]; rfl
  have hnone : matchFromLast (l ++ r) = none := by
    apply matchFromLast_none
    intro i hi hg
    rw [List.getElem?_append_right (by omega)] at hg
    exact hr (List.mem_of_getElem? hg)
  rw [hcons]
  unfold matchFromLast
  rw [hnone, ← hcons, if_pos (List.isPrefixOf_iff_prefix.mpr ⟨r, rfl⟩), List.drop_left]

theorem splitLastParens_none : ∀ (b : Str), ')' ∉ b → splitLastParens b = none
  | [], _ => rfl
  | c :: r, h => by
    have hr : ')' ∉ r := fun e => h (by simp [e])
    have hc : c ≠ ')' := fun e => h (by simp [e])
    unfold splitLastParens
    rw [splitLastParens_none r hr]
    simp [hc]

theorem splitLastParens_spec : ∀ (a b : Str), ')' ∉ a → ')' ∉ b →
    splitLastParens (a ++ ')' :: ')' :: b) = some (a, b)
  | [], b, _, hb => by
    show splitLastParens (')' :: ')' :: b) = _
    unfold splitLastParens
    have : splitLastParens (')' :: b) = none := by
      unfold splitLastParens
      rw [splitLastParens_none b hb]
      cases b with
      | nil => simp
      | cons x xs =>
        have : x ≠ ')' := fun e => hb (by simp [e])
        simp [this]
    rw [this]
    simp
  | c :: a, b, ha, hb => by
    have ha' : ')' ∉ a := fun e => ha (by simp [e])
    show splitLastParens (c :: (a ++ ')' :: ')' :: b)) = _
    unfold splitLastParens
    rw [splitLastParens_spec a b ha' hb]

/-! ## character classes, and the descriptor matcher on generated text

  The generated text is read back because its variable parts (decimal numbers, hex fingerprints, Base58 xpubs,
  checksum characters) consist of letters and digits, none of which is a delimiter of the syntax. -/

theorem bech32_facts : ∀ c, isBech32Char c = true → isAlnum c = true ∧ isSpace c = false := by
  unfold isBech32Char
  rw [String.toList_ofList]
  simp only [List.contains_iff_mem]
  decide

theorem alphabet_alnum : ∀ c ∈ Base58.alphabet, isAlnum c = true := by
  unfold Base58.alphabet Gen.base58Alphabet
  rw [String.toList_ofList]
  decide

theorem matchDescriptor_generated (m : Nat) (recs cs : Str)
    (hrec : ∀ c ∈ recs, c ≠ '(' ∧ c ≠ ')' ∧ c ≠ '\n') (hcs : ∀ c ∈ cs, isBech32Char c = true) (hlen : cs.length = 8) :
    matchDescriptor (wshLiteral ++ (natStr m ++ ',' :: recs ++ ')' :: ')' :: '#' :: cs)) = some (natStr m, recs, some cs) := by
  have hm : ∀ c ∈ natStr m, c ∉ ['(', '\n'] := avoids_of_class rfl (natStr_digits m)
  have hc : ∀ c ∈ cs, c ∉ ['(', ')', '\n'] :=
    avoids_of_class (P := isAlnum) rfl fun c h => (bech32_facts c (hcs c h)).1
  have hline : '\n' ∉ wshLiteral ++ (natStr m ++ ',' :: recs ++ ')' :: ')' :: '#' :: cs) := by
    rw [wshLiteral_eq]
    simp only [List.mem_append, List.mem_cons, not_or]
    exact ⟨by decide, ⟨fun h => hm _ h (by decide), by decide, fun h => (hrec _ h).2.2 rfl⟩, by decide, by decide,
      by decide, fun h => hc _ h (by decide)⟩
  have hopen : '(' ∉ natStr m ++ ',' :: recs ++ ')' :: ')' :: '#' :: cs := by
    simp only [List.mem_append, List.mem_cons, not_or]
    exact ⟨⟨fun h => hm _ h (by decide), by decide, fun h => (hrec _ h).1 rfl⟩, by decide, by decide, by decide,
      fun h => hc _ h (by decide)⟩
  unfold matchDescriptor
  rw [takeWhile_ne_of_not_mem hline, matchFromLast_lit _ hopen]
  unfold matchAfterLiteral
  have htw : (natStr m ++ ',' :: recs ++ ')' :: ')' :: '#' :: cs).takeWhile Char.isDigit = natStr m := by
    rw [List.append_assoc, List.cons_append, List.takeWhile_append_of_pos (natStr_digits m),
      List.takeWhile_cons_of_neg (by decide), List.append_nil]
  simp only [htw]
  rw [List.append_assoc, List.drop_left, List.cons_append]
  simp only []
  rw [splitLastParens_spec recs ('#' :: cs) (fun h => (hrec _ h).2.1 rfl)
    (List.not_mem_cons_of_ne_of_not_mem (by decide) fun h => hc _ h (by decide))]
  simp [checksumGroup, List.take_of_length_le (Nat.le_of_eq hlen), hlen, List.all_eq_true.mpr hcs]

/-! ## one key record -/

/-- the head of a key record: `[{xfp}{path[1:]}]{xpub}` -/
def recHead (kr : KeyRecord) : Str := '[' :: (kr.xfp ++ (kr.path.drop 1 ++ ']' :: kr.xpubParent))

/-- the text of one key record without its leading comma: `[{xfp}{path[1:]}]{xpub}/{account}/*` -/
def recBody (kr : KeyRecord) : Str := recHead kr ++ '/' :: (intStr kr.accountIndex ++ ['/', '*'])

theorem recordText_eq (kr : KeyRecord) : recordText kr = ',' :: recBody kr := by
  simp [recordText, recBody, recHead]

/-- what the text of a key record must look like for the regular expressions to read it back: a fingerprint of
    eight lower-case hex digits, a path that starts with `m` and contains none of `] , ( ) * \` or a newline, a
    non-empty alphanumeric xpub (always true for the Base58 xpubs the constructor stores) -/
structure RecText (kr : KeyRecord) : Prop where
  xfpLen : kr.xfp.length = 8
  xfpHex : ∀ c ∈ kr.xfp, isHexLower c = true
  pathM : kr.path = 'm' :: kr.path.drop 1
  pathSafe : ∀ c ∈ kr.path.drop 1, c ∉ [']', ',', '(', ')', '\n', '\\', '*']
  xpubNe : kr.xpubParent ≠ []
  xpubChars : ∀ c ∈ kr.xpubParent, isAlnum c = true

theorem lazyBracket_spec : ∀ (rest xpub acc : Str), (∀ c ∈ rest, c ≠ ']') → (∀ x xs, xpub = x :: xs → isAlnum x = true) →
    xpub ≠ [] → lazyBracket (rest ++ ']' :: xpub) acc = some (acc.reverse ++ rest, xpub)
  | [], xpub, acc, _, hx, hne => by
    cases xpub with
    | nil => exact absurd rfl hne
    | cons x xs =>
      show lazyBracket (']' :: x :: xs) acc = _
      unfold lazyBracket
      simp [hx x xs rfl]
  | c :: rest, xpub, acc, hr, hx, hne => by
    have hc : c ≠ ']' := hr c (by simp)
    show lazyBracket (c :: (rest ++ ']' :: xpub)) acc = _
    unfold lazyBracket
    simp only [hc, decide_false, Bool.false_and, Bool.false_eq_true, if_false]
    rw [lazyBracket_spec rest xpub (c :: acc) (fun x hx' => hr x (by simp [hx'])) hx hne]
    simp

theorem matchKeyRecord_generated (kr : KeyRecord) (ht : RecText kr) :
    matchKeyRecord (recHead kr) = some (kr.xfp, kr.path.drop 1, kr.xpubParent) := by
  unfold matchKeyRecord recHead
  simp only []
  have htake : (kr.xfp ++ (kr.path.drop 1 ++ ']' :: kr.xpubParent)).take 8 = kr.xfp := List.take_left' ht.xfpLen
  have hdrop : (kr.xfp ++ (kr.path.drop 1 ++ ']' :: kr.xpubParent)).drop 8 = kr.path.drop 1 ++ ']' :: kr.xpubParent :=
    List.drop_left' ht.xfpLen
  rw [htake, hdrop]
  have hall : kr.xfp.all isHexLower = true := List.all_eq_true.mpr ht.xfpHex
  simp only [ht.xfpLen, hall, ne_eq, not_true_eq_false, or_self, if_false]
  have hstar : dropStar (kr.path.drop 1 ++ ']' :: kr.xpubParent) = kr.path.drop 1 ++ ']' :: kr.xpubParent := by
    cases hp : kr.path.drop 1 with
    | nil => rfl
    | cons a l =>
      have : a ≠ '*' := ne_of_mem_of_not_mem (hp ▸ List.mem_cons_self) fun h => ht.pathSafe _ h (by decide)
      simp only [List.cons_append]
      unfold dropStar
      split
      · next heq => simp at heq; exact absurd heq.1 this
      · rfl
  rw [hstar]
  have hline : '\n' ∉ kr.path.drop 1 ++ ']' :: kr.xpubParent := by
    simp only [List.mem_append, List.mem_cons, not_or]
    exact ⟨fun h => ht.pathSafe _ h (by decide), by decide,
      fun h => avoids_of_class (D := ['\n']) rfl ht.xpubChars _ h (by decide)⟩
  rw [takeWhile_ne_of_not_mem hline, lazyBracket_spec _ _ []
    (fun c hc => ne_of_mem_of_not_mem hc fun h => ht.pathSafe _ h (by decide))
    (fun x xs hx => ht.xpubChars x (by rw [hx]; simp)) ht.xpubNe]
  simp

section
variable (hash256 : Bytes → Bytes) (hmac : Bytes → Bytes → Bytes) (h160 : Bytes → Bytes)

theorem parsePartial_generated (kr : KeyRecord) (ht : RecText kr) (hvalid : isValidBip32Path kr.path = true)
    (pk : HDPub) (hparse : HDPub.parse hash256 kr.xpubParent = some pk) :
    parsePartialKeyRecord hash256 (recHead kr) = some (kr.xfp, kr.path, kr.xpubParent, pk.network) := by
  unfold parsePartialKeyRecord
  rw [matchKeyRecord_generated kr ht]
  simp only [Option.bind_eq_bind, Option.bind_some]
  rw [← ht.pathM]
  simp [hvalid, hparse]

theorem parseFullKeyRecord_generated (kr : KeyRecord) (ht : RecText kr) (hvalid : isValidBip32Path kr.path = true)
    (pk : HDPub) (hparse : HDPub.parse hash256 kr.xpubParent = some pk)
    (hchild : ∃ c x, pk.childI hmac h160 kr.accountIndex = some c ∧ c.xpub hash256 none = some x) :
    parseFullKeyRecord hash256 hmac h160 (recBody kr) = some kr := by
  obtain ⟨c, x, hc, hx⟩ := hchild
  have hnoI : '/' ∉ intStr kr.accountIndex := fun h => intStr_avoids (D := ['/']) rfl (by decide) _ _ h (by decide)
  obtain ⟨ps, hps⟩ : ∃ ps, split '/' (recHead kr) = ps := ⟨_, rfl⟩
  have hjoin : join '/' ps = recHead kr := hps ▸ join_split '/' (recHead kr)
  have hsplit : split '/' (recBody kr) = ps ++ [intStr kr.accountIndex, ['*']] := by
    rw [recBody, split_append, split_append, split_no_sep '/' _ hnoI, split_no_sep '/' ['*'] (by decide), hps]
    rfl
  unfold parseFullKeyRecord
  simp only [hsplit]
  have hlast : (ps ++ [intStr kr.accountIndex, ['*']]).getLast? = some ['*'] := by
    simp [List.getLast?_append]
  have hlen : (ps ++ [intStr kr.accountIndex, ['*']]).length = ps.length + 2 := by
    simp
  have hget : (ps ++ [intStr kr.accountIndex, ['*']]).getD (ps.length + 2 - 2) [] = intStr kr.accountIndex := by
    simp [List.getD]
  have htake : (ps ++ [intStr kr.accountIndex, ['*']]).take (ps.length + 2 - 2) = ps := by
    simp
  have hn2 : ¬ (ps.length + 2 < 2) := by omega
  simp only [hlast, hlen, hget, htake, hjoin, ne_eq, not_true_eq_false, if_false, isIntable, pyInt_intStr,
    Option.isSome_some, hn2, Option.bind_some, Option.map_some,
    parsePartial_generated hash256 kr ht hvalid pk hparse, hparse, hc, hx]

end

/-! ## the checksum characters -/

theorem ccOutput_spec {c : Nat} {cs : Str} (h : ccOutput c = some cs) :
    cs.length = 8 ∧ ∀ ch ∈ cs, isBech32Char ch = true := by
  unfold ccOutput at h
  refine ⟨by rw [List.mapM_some_length h]; simp [Gen.ccOutLen], fun ch hch => ?_⟩
  obtain ⟨j, -, hj⟩ := List.mapM_some_mem_right h hch
  split at hj
  · cases hj
  · exact List.contains_iff_mem.mpr (List.mem_of_getElem? hj)

theorem calcCoreChecksum_spec {t cs : Str} (h : calcCoreChecksum t = some cs) :
    cs.length = 8 ∧ ∀ ch ∈ cs, isBech32Char ch = true := by
  unfold calcCoreChecksum at h
  simp only [Option.bind_eq_bind, Option.bind_eq_some_iff] at h
  obtain ⟨_, _, h⟩ := h
  exact ccOutput_spec h

/-! ## what the constructor stores, and that storing it again changes nothing -/

section
variable (hash256 : Bytes → Bytes)

structure SavedRec (kr : KeyRecord) (n : String) : Prop where
  path : isValidBip32Path kr.path = true
  xfp : isValidXfpHex kr.xfp = true
  key : ∃ norm, HDPub.parse hash256 kr.xpubParent = some norm ∧ norm.network = n ∧ normPub norm = some norm ∧
          norm.xpub hash256 none = some kr.xpubParent

theorem checkRecord_saved (hb : B58RoundTrip hash256) (hsec : ∀ b Q, EC.parsePoint b = some Q → SecOK Q)
    {kr kr' : KeyRecord} {n : String} (h : checkRecord hash256 kr = some (kr', n)) :
    SavedRec hash256 kr' n := by
  unfold checkRecord at h
  by_cases hp : isValidBip32Path kr.path = true
  · by_cases hx : isValidXfpHex kr.xfp = true
    · rw [if_neg (by simp [hp]), if_neg (by simp [hx])] at h
      simp only [Option.bind_eq_some_iff, Option.map_eq_some_iff, Prod.mk.injEq] at h
      obtain ⟨pk, hpk, norm, hnorm, x, hxp, hkr, hn⟩ := h
      subst hkr; subst hn
      obtain ⟨h1, h2, h3⟩ := norm_xpub_idempotent hash256 hb hsec hpk hnorm hxp
      exact ⟨hp, hx, norm, h1, h2, h3, hxp⟩
    · rw [if_neg (by simp [hp]), if_pos (by simp [hx])] at h; cases h
  · rw [if_pos (by simp [hp])] at h; cases h

theorem savedRec_check {kr : KeyRecord} {n : String} (hs : SavedRec hash256 kr n) :
    checkRecord hash256 kr = some (kr, n) := by
  obtain ⟨norm, h1, h2, h3, h4⟩ := hs.key
  subst h2
  unfold checkRecord
  have h3' : mkPub norm.point norm.chainCode norm.depth norm.parentFp norm.childNumber norm.network none = some norm := h3
  rw [if_neg (by simp [hs.path]), if_neg (by simp [hs.xfp]), h1]
  simp only [Option.bind_some, h3', h4, Option.map_some]

theorem checkRecords_spec (hb : B58RoundTrip hash256) (hsec : ∀ b Q, EC.parsePoint b = some Q → SecOK Q) :
    ∀ (krs : List KeyRecord) (net0 : Option String) (saved : List KeyRecord) (netF : Option String),
      checkRecords hash256 krs net0 = some (saved, netF) →
      (∀ n0, net0 = some n0 → netF = some n0) ∧ (∀ kr' ∈ saved, ∃ n, netF = some n ∧ SavedRec hash256 kr' n) ∧
      saved.length = krs.length
  | [], net0, saved, netF, h => by
    simp [checkRecords] at h
    obtain ⟨rfl, rfl⟩ := h
    exact ⟨fun _ h => h, fun _ h => (nomatch h), rfl⟩
  | kr :: rest, net0, saved, netF, h => by
    simp only [checkRecords, Option.bind_eq_some_iff, Option.map_eq_some_iff, Prod.mk.injEq] at h
    obtain ⟨⟨s1, n⟩, hcr, net', hnet', ⟨more, nF⟩, hrest, hsaved, hnF⟩ := h
    simp only [] at hsaved hnF
    subst hsaved; subst hnF
    obtain ⟨i1, i2, i3⟩ := checkRecords_spec hb hsec rest (some net') more nF hrest
    have hnF : nF = some net' := i1 net' rfl
    have hn : n = net' ∧ ∀ n0, net0 = some n0 → net' = n0 := by
      unfold mergeNet at hnet'
      cases net0 with
      | none => simp at hnet'; exact ⟨hnet', fun _ h => by cases h⟩
      | some n0 =>
        simp only [] at hnet'
        by_cases e : n = n0
        · simp [e] at hnet'; subst hnet'; exact ⟨e, fun _ h => by cases h; rfl⟩
        · simp [e] at hnet'
    refine ⟨fun n0 h0 => by rw [hnF, hn.2 n0 h0], ?_, by simp [i3]⟩
    intro kr' hkr'
    rcases List.mem_cons.mp hkr' with rfl | hkr'
    · exact ⟨net', hnF, hn.1 ▸ checkRecord_saved hash256 hb hsec hcr⟩
    · exact i2 kr' hkr'

theorem checkRecords_saved (n : String) : ∀ (l : List KeyRecord) (net0 : Option String),
    (net0 = none ∨ net0 = some n) → (∀ kr ∈ l, SavedRec hash256 kr n) →
    checkRecords hash256 l net0 = some (l, if l = [] then net0 else some n)
  | [], net0, _, _ => by simp [checkRecords]
  | kr :: rest, net0, h0, hl => by
    have hk := savedRec_check hash256 (hl kr (by simp))
    have ih := checkRecords_saved n rest (some n) (Or.inr rfl) (fun x hx => hl x (by simp [hx]))
    have hnet : mergeNet net0 n = some n := by
      rcases h0 with rfl | rfl <;> simp [mergeNet]
    simp only [checkRecords, hk, Option.bind_some, hnet, ih, Option.map_some]
    by_cases hr : rest = []
    · simp [hr]
    · simp [hr]

end

/-! ## parse (str d) = d: the parts (put together in Props/C16, `parse_str_roundtrip`) -/

/-- the text of the constructor in the form the regular expression is read on: the records, without their leading
    commas, joined by commas -/
theorem descriptorText_join (m : Nat) {krs : List KeyRecord} (hne : krs ≠ []) :
    descriptorText m krs = wshLiteral ++ (natStr m ++ ',' :: join ',' (krs.map recBody) ++ [')', ')']) := by
  obtain ⟨kr, ks, rfl⟩ := List.exists_cons_of_ne_nil hne
  unfold descriptorText wshLiteral
  generalize "wsh(sortedmulti(".toList = L
  rw [List.map_cons (f := recBody), join_cons, List.map_map, show (',' :: ·) ∘ recBody = recordText from (funext recordText_eq).symm,
    List.map_cons, List.flatten_cons, recordText_eq]
  simp only [List.append_assoc, List.cons_append]

theorem recBody_safe {kr : KeyRecord} (ht : RecText kr) : ∀ c ∈ recBody kr, c ∉ [',', '(', ')', '\n', '\\'] := by
  have hpath : ∀ c ∈ kr.path.drop 1, c ∉ [',', '(', ')', '\n', '\\'] := fun c hc hd =>
    ht.pathSafe c hc (List.mem_cons_of_mem _ (List.mem_append_left ['*'] hd))
  simp only [recBody, recHead, List.forall_mem_append, List.forall_mem_cons]
  exact ⟨⟨by decide, avoids_of_class rfl ht.xfpHex, hpath, by decide, avoids_of_class rfl ht.xpubChars⟩, by decide,
    intStr_avoids rfl (by decide) _, by decide, by decide, fun _ h => nomatch h⟩

section
variable (hash256 : Bytes → Bytes) (hmac : Bytes → Bytes → Bytes) (h160 : Bytes → Bytes)

theorem constructCore_records (hb : B58RoundTrip hash256) (hsec : ∀ b Q, EC.parsePoint b = some Q → SecOK Q)
    {m : Int} {krs : List KeyRecord} {srt : Bool} {d : Desc} (h : constructCore hash256 m krs srt = some d) :
    d.keyRecords ≠ [] ∧ ∀ kr ∈ d.keyRecords, SavedRec hash256 kr d.network := by
  obtain ⟨-, hkne, -, ⟨saved, hcr, hkr⟩, -, -⟩ := (constructCore_eq_some_iff hash256).mp h
  obtain ⟨-, hsaved, hlen⟩ := checkRecords_spec hash256 hb hsec krs none saved _ hcr
  have hperm : d.keyRecords.Perm saved := by
    rw [hkr]
    split
    · exact List.mergeSort_perm saved _
    · exact List.Perm.refl _
  refine ⟨fun e => hkne (List.length_eq_zero_iff.mp ?_), fun kr hk => ?_⟩
  · rw [← hlen, ← hperm.length_eq, e]
    rfl
  · obtain ⟨n, hn, hs⟩ := hsaved kr (hperm.subset hk)
    cases hn
    exact hs

theorem construct_saved {d : Desc} (hm : 1 ≤ d.m) (hne : d.keyRecords ≠ [])
    (hS : ∀ kr ∈ d.keyRecords, SavedRec hash256 kr d.network) (htext : d.text = descriptorText d.m d.keyRecords)
    (hc : calcCoreChecksum d.text = some d.checksum) :
    construct hash256 (d.m : Int) d.keyRecords d.checksum false = some d := by
  have hcr := checkRecords_saved hash256 d.network d.keyRecords none (Or.inl rfl) hS
  rw [if_neg hne] at hcr
  exact (construct_eq_some_iff hash256).mpr ⟨(constructCore_eq_some_iff hash256).mpr
    ⟨by omega, hne, (Int.toNat_natCast _).symm, ⟨_, hcr, rfl⟩, htext, hc⟩, fun _ => rfl⟩

/-- `parse` on the text the constructor emits: strip and the `\/` replacement leave it alone, the matchers find
    threshold, records and checksum again, and what remains is the constructor call on them -/
theorem parse_generated (m : Nat) (krs : List KeyRecord) (cs : Str) (hne : krs ≠ []) (hT : ∀ kr ∈ krs, RecText kr)
    (hcs : ∀ c ∈ cs, isBech32Char c = true) (hlen : cs.length = 8)
    (hP : ∀ kr ∈ krs, parseFullKeyRecord hash256 hmac h160 (recBody kr) = some kr) (hq : m ≤ krs.length) :
    parse hash256 hmac h160 (descriptorText m krs ++ '#' :: cs) = construct hash256 m krs cs false := by
  obtain ⟨recs, hrecs⟩ : ∃ recs, join ',' (krs.map recBody) = recs := ⟨_, rfl⟩
  have hsafe : ∀ c ∈ recs, c ∉ ['(', ')', '\n', '\\'] :=
    hrecs ▸ forall_mem_join (by decide) (List.forall_mem_map.mpr fun kr hk c hc hd =>
      recBody_safe (hT kr hk) c hc (List.mem_cons_of_mem _ hd))
  have htxt : descriptorText m krs ++ '#' :: cs = wshLiteral ++ (natStr m ++ ',' :: recs ++ ')' :: ')' :: '#' :: cs) := by
    rw [descriptorText_join m hne, hrecs]
    generalize wshLiteral = L
    simp only [List.append_assoc, List.cons_append, List.nil_append]
  have hstrip : strip (descriptorText m krs ++ '#' :: cs) = descriptorText m krs ++ '#' :: cs := by
    apply strip_eq_self
    · intro c hc
      rw [htxt, wshLiteral_eq] at hc
      cases hc
      rfl
    · intro c hc
      rcases List.mem_cons.mp (mem_of_getLast?_append (List.cons_ne_nil _ _) hc) with rfl | hc
      · rfl
      · exact (bech32_facts c (hcs c hc)).2
  have hbs : '\\' ∉ descriptorText m krs ++ '#' :: cs := by
    rw [htxt, wshLiteral_eq]
    simp only [List.mem_append, List.mem_cons, not_or]
    exact ⟨by decide, ⟨fun h => avoids_of_class (D := ['\\']) rfl (natStr_digits m) _ h (by decide), by decide,
      fun h => hsafe _ h (by decide)⟩, by decide, by decide, by decide,
      fun h => avoids_of_class (D := ['\\']) rfl (fun c hc => (bech32_facts c (hcs c hc)).1) _ h (by decide)⟩
  have hmatch : matchDescriptor (descriptorText m krs ++ '#' :: cs) = some (natStr m, recs, some cs) :=
    htxt ▸ matchDescriptor_generated m recs cs
      (fun c hc => ⟨ne_of_mem_of_not_mem hc fun h => hsafe _ h (by decide),
        ne_of_mem_of_not_mem hc fun h => hsafe _ h (by decide), ne_of_mem_of_not_mem hc fun h => hsafe _ h (by decide)⟩)
      hcs hlen
  have hkrs : (split ',' recs).mapM (parseFullKeyRecord hash256 hmac h160) = some krs := by
    rw [← hrecs, split_join ',' _ (by simpa using hne), List.mapM_eq_some_iff_map, List.map_map]
    · exact List.map_congr_left hP
    · intro p hp
      obtain ⟨kr, hk, rfl⟩ := List.mem_map.mp hp
      exact fun h => recBody_safe (hT kr hk) _ h (by decide)
  have hhash : (descriptorText m krs ++ '#' :: cs).contains '#' = true := by simp
  have hq' : ¬ ((m : Int) > (krs.length : Int)) := by omega
  unfold parse
  simp only [hstrip, unescapeSlashes_id _ hbs, hmatch, Option.bind_some, hhash, if_true, pyInt_natStr, hkrs, hq', if_false]

/-- what `parse` needs beyond what the constructor checks -/
structure ReprWF (d : Desc) : Prop where
  /-- parse refuses m > n (the constructor does not) -/
  quorum : d.m ≤ d.keyRecords.length
  /-- four fields: fingerprints of eight lower-case hex digits, paths `m…` without `] , ( ) * \` or newline -/
  xfpLen : ∀ kr ∈ d.keyRecords, kr.xfp.length = 8
  xfpHex : ∀ kr ∈ d.keyRecords, ∀ c ∈ kr.xfp, isHexLower c = true
  pathM : ∀ kr ∈ d.keyRecords, kr.path = 'm' :: kr.path.drop 1
  pathSafe : ∀ kr ∈ d.keyRecords, ∀ c ∈ kr.path.drop 1,
    c ≠ ']' ∧ c ≠ ',' ∧ c ≠ '(' ∧ c ≠ ')' ∧ c ≠ '\n' ∧ c ≠ '\\' ∧ c ≠ '*'
  /-- parse_full_key_record also derives and serialises the account child of every cosigner -/
  child : ∀ kr ∈ d.keyRecords, ∀ pk, HDPub.parse hash256 kr.xpubParent = some pk →
    ∃ c x, pk.childI hmac h160 kr.accountIndex = some c ∧ c.xpub hash256 none = some x

theorem repr_checksum {d : Desc} {body cs : Str} (hd : calcCoreChecksum d.text = some d.checksum) (hlen : cs.length = 8)
    (h : d.repr = body ++ '#' :: cs) : calcCoreChecksum body = some cs := by
  obtain ⟨h1, h2⟩ := List.append_inj' h (by simp [(calcCoreChecksum_spec hd).1, hlen])
  rw [← h1, ← List.tail_cons (a := '#') (as := cs), ← h2]
  exact hd

end

end Buidl.Descriptor
