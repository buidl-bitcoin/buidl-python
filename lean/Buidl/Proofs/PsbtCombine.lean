/-
  PSBT.combine (Buidl.Model.PsbtFlow) is commutative, associative and idempotent UP TO SERIALISATION
  for operands that agree on their common keys.  All of it comes from one statement about combine
  trees (`CTree`): a dict field / optional field of a folded history is characterised by the leaves
  (`CTree.fold_dict`, `CTree.fold_opt`), so two histories over the same SET of pairwise compatible
  leaves cannot be told apart by the serialiser (`foldIn_serEq`, `foldOut_serEq`,
  `combine_tree_bytes_independent`); the algebraic laws are the histories with two and three leaves.
  What the serialiser reads of an input map is its normal form (`normIn` of Proofs/PsbtCodec): maps it
  cannot tell apart have the same one (`InSerEq.normIn_eq`).

  Agreement of the optional fields is on the RAW values (`OAgree`), not on the effective ones:
  PSBTIn.combine tests `self.hash_type is None`, so `self.hash_type = 0`, `other.hash_type = 1` keeps 0
  (serialised: nothing) while the other order keeps 1 (serialised).  Such a pair is excluded by
  `OAgree (some 0) (some 1)` being false; it is not excluded by agreement of the effective values, for
  which commutativity is indeed false.
-/
import Buidl.Model.PsbtFlow
import Buidl.Proofs.PsbtCodec
namespace Buidl.Psbt
open Buidl Buidl.Script

variable {Tx : Type}

def DAgree {β : Type} (a b : Dict β) : Prop :=
  ∀ k va vb, dget a k = some va → dget b k = some vb → va = vb

def OAgree {α : Type} (x y : Option α) : Prop :=
  ∀ u v, x = some u → y = some v → u = v

/-- the value of an optional field as seen by a Python truthiness test `if self.x:` -/
def eff {α : Type} (t : α → Bool) (x : Option α) : Option α := x.filter t

/-- truthiness of `hash_type` (an int) -/
abbrev htT : Nat → Bool := (· ≠ 0)
/-- truthiness of a `Witness` (`__len__`) -/
abbrev witT : List Bytes → Bool := (· ≠ [])
/-- fields tested with `is None` only -/
abbrev anyT {α : Type} : α → Bool := fun _ => true

theorem dagree_of_forall_mem {β : Type} {a b : Dict β}
    (h : ∀ e, e ∈ a → ∀ e', e' ∈ b → e.1 = e'.1 → e.2 = e'.2) : DAgree a b :=
  fun _ _ _ h1 h2 => h _ (dget_some_mem h1) _ (dget_some_mem h2) rfl

theorem OAgree.symm {α : Type} {x y : Option α} (h : OAgree x y) : OAgree y x :=
  fun u v h1 h2 => (h v u h2 h1).symm

theorem OAgree.refl {α : Type} (x : Option α) : OAgree x x :=
  fun u v h1 h2 => by rw [h1] at h2; exact Option.some.inj h2

/-- `DAgree a b` unfolds to `∀ k, OAgree (dget a k) (dget b k)` -/
theorem DAgree.symm {β : Type} {a b : Dict β} (h : DAgree a b) : DAgree b a := fun k => OAgree.symm (h k)

theorem DAgree.refl {β : Type} (a : Dict β) : DAgree a a := fun k => OAgree.refl (dget a k)

theorem OAgree.none_left {α : Type} (y : Option α) : OAgree none y := fun _ _ h => by cases h

theorem OAgree.none_right {α : Type} (x : Option α) : OAgree x none := fun _ _ _ h => by cases h

theorem eff_eq_some_iff {α : Type} {t : α → Bool} {x : Option α} {v : α} :
    eff t x = some v ↔ x = some v ∧ t v = true := Option.filter_eq_some_iff

theorem eff_anyT {α : Type} (x : Option α) : eff anyT x = x := by
  cases x <;> rfl

/-- what `normIn` keeps of `hashType` and `witness` is the effective value -/
theorem hashType_eff (x : Option Nat) : (if hashTypeTruthy x then x else none) = eff htT x := by
  cases x with
  | none => rfl
  | some n => cases n <;> rfl

theorem witness_eff (x : Option (List Bytes)) : (if witnessTruthy x then x else none) = eff witT x := by
  cases x with
  | none => rfl
  | some w => cases w <;> rfl

theorem orOther_eq_some {α : Type} {t : α → Bool} {x y : Option α} {v : α} (h : orOther t x y = some v) :
    x = some v ∨ y = some v := by
  cases x with
  | some a => exact Or.inl h
  | none =>
    cases y with
    | none => cases h
    | some b =>
      by_cases hb : t b = true
      · rw [orOther, if_pos hb] at h; exact Or.inr h
      · rw [orOther, if_neg hb] at h; cases h

/-- the one law behind every combined field, dict lookups (`dget_dunion_agree`) and optional fields
    (`eff_orOther_iff`) alike -/
theorem or_eq_some_of_agree {α : Type} {x y : Option α} (h : OAgree x y) (v : α) :
    x.or y = some v ↔ x = some v ∨ y = some v := by
  cases x with
  | none => exact ⟨Or.inr, fun h' => h'.elim nofun id⟩
  | some a => exact ⟨Or.inl, fun h' => h'.elim id fun hy => congrArg some (h a v rfl hy)⟩

/-- PSBTIn.combine on one optional field, seen through the truthiness test -/
theorem eff_orOther {α : Type} {t : α → Bool} {x y : Option α} (h : OAgree x y) :
    eff t (orOther t x y) = (eff t x).or (eff t y) := by
  cases x with
  | none =>
    cases y with
    | none => rfl
    | some b => cases hb : t b <;> simp [orOther, eff, Option.filter_some, hb]
  | some a =>
    cases y with
    | none => simp [orOther, eff]
    | some b =>
      -- both set: they are the same value by agreement of the RAW fields
      cases h a b rfl rfl
      cases ha : t a <;> simp [orOther, eff, Option.filter_some, ha]

theorem eff_orOther_iff {α : Type} {t : α → Bool} {x y : Option α} (h : OAgree x y) (v : α) :
    eff t (orOther t x y) = some v ↔ eff t x = some v ∨ eff t y = some v := by
  rw [eff_orOther h]
  exact or_eq_some_of_agree
    (fun u w h1 h2 => h u w (eff_eq_some_iff.mp h1).1 (eff_eq_some_iff.mp h2).1) v

theorem dget_dunion_agree {β : Type} {a b : Dict β} (hb : DNodup b) (hab : DAgree a b) (k : Bytes) (v : β) :
    dget (dunion a b) k = some v ↔ dget a k = some v ∨ dget b k = some v := by
  rw [dget_dunion a hb, or_eq_some_of_agree (OAgree.symm (hab k))]
  exact Or.comm

theorem exists_mem_singleton_iff {α : Type} {P : α → Prop} {a : α} : (∃ x, x ∈ [a] ∧ P x) ↔ P a :=
  ⟨fun ⟨_, hx, h⟩ => List.mem_singleton.mp hx ▸ h, fun h => ⟨a, List.mem_singleton_self a, h⟩⟩

theorem exists_mem_append_iff {α : Type} {P : α → Prop} {l1 l2 : List α} :
    (∃ x, x ∈ l1 ++ l2 ∧ P x) ↔ (∃ x, x ∈ l1 ∧ P x) ∨ (∃ x, x ∈ l2 ∧ P x) := by
  simp only [List.mem_append, or_and_right, exists_or]

/-- all three dicts of an input map are Python dicts (no key twice) -/
structure InWF (p : PIn Tx) : Prop where
  sigs : DNodup p.sigs
  named : DNodup p.namedPubs
  extra : DNodup p.extra

/-- two input maps that `PSBTIn.serialize` cannot tell apart: same lookup functions of the three
    dicts (their insertion order may differ), same UTXOs and scripts, same EFFECTIVE sighash type and
    final witness (`some 0` / `some []` are written like `none`); `value` is not serialised -/
structure InSerEq (p q : PIn Tx) : Prop where
  wf_l : InWF p
  wf_r : InWF q
  sigs : ∀ k, dget p.sigs k = dget q.sigs k
  named : ∀ k, dget p.namedPubs k = dget q.namedPubs k
  extra : ∀ k, dget p.extra k = dget q.extra k
  prevTx : p.prevTx = q.prevTx
  prevOut : p.prevOut = q.prevOut
  hashType : eff htT p.hashType = eff htT q.hashType
  redeem : p.redeem = q.redeem
  witnessScript : p.witnessScript = q.witnessScript
  scriptSig : p.scriptSig = q.scriptSig
  witness : eff witT p.witness = eff witT q.witness

theorem sigKeyOrder_congr {p q : PIn Tx} (ndp : DNodup p.sigs) (ndq : DNodup q.sigs)
    (hs : ∀ k, dget p.sigs k = dget q.sigs k) (hw : p.witnessScript = q.witnessScript)
    (hr : p.redeem = q.redeem) : sigKeyOrder p = sigKeyOrder q := by
  have hk : sortKeys (dkeys p.sigs) = sortKeys (dkeys q.sigs) :=
    sortKeys_eq_of_perm (dkeys_perm_of_dget_eq ndp ndq hs)
  have ht : ∀ k, dtruthy p.sigs k = dtruthy q.sigs k := fun k => dtruthy_congr (hs k)
  unfold sigKeyOrder
  simp only [hw, hr, hk, ht]

theorem InSerEq.normIn_eq {p q : PIn Tx} (h : InSerEq p q) (C : TxCodec Tx) (idx : Nat) :
    normIn C idx p = normIn C idx q := by
  simp only [normIn, sigsWritten, hashType_eff, witness_eff,
    sigKeyOrder_congr h.wf_l.sigs h.wf_r.sigs h.sigs h.witnessScript h.redeem, h.sigs,
    sortedItems_ext h.wf_l.named h.wf_r.named h.named, sortedItems_ext h.wf_l.extra h.wf_r.extra h.extra,
    h.prevTx, h.prevOut, h.redeem, h.witnessScript, h.scriptSig, h.hashType, h.witness]

theorem InSerEq.entries_eq {p q : PIn Tx} (h : InSerEq p q) (C : TxCodec Tx) : p.entries C = q.entries C := by
  rw [← normIn_entries C 0 p, ← normIn_entries C 0 q, h.normIn_eq]

theorem InSerEq.serialize_eq {p q : PIn Tx} (h : InSerEq p q) (C : TxCodec Tx) : p.serialize C = q.serialize C := by
  unfold PIn.serialize
  rw [h.entries_eq C]

structure OutWF (p : POut) : Prop where
  named : DNodup p.namedPubs
  extra : DNodup p.extra

/-- two output maps that `PSBTOut.serialize` cannot tell apart -/
structure OutSerEq (p q : POut) : Prop where
  wf_l : OutWF p
  wf_r : OutWF q
  named : ∀ k, dget p.namedPubs k = dget q.namedPubs k
  extra : ∀ k, dget p.extra k = dget q.extra k
  redeem : p.redeem = q.redeem
  witnessScript : p.witnessScript = q.witnessScript

theorem OutSerEq.entries_eq {p q : POut} (h : OutSerEq p q) : p.entries = q.entries := by
  unfold POut.entries
  rw [sortedItems_ext h.wf_l.named h.wf_r.named h.named, sortedItems_ext h.wf_l.extra h.wf_r.extra h.extra,
    h.redeem, h.witnessScript]

theorem OutSerEq.serialize_eq {p q : POut} (h : OutSerEq p q) : p.serialize = q.serialize := by
  unfold POut.serialize
  rw [h.entries_eq]

/-- a history of pairwise combinations: who was combined with whom, in which order -/
inductive CTree (α : Type) where
  | leaf : α → CTree α
  | node : CTree α → CTree α → CTree α

def CTree.leaves {α : Type} : CTree α → List α
  | .leaf a => [a]
  | .node l r => l.leaves ++ r.leaves

def CTree.fold {α : Type} (f : α → α → α) : CTree α → α
  | .leaf a => a
  | .node l r => f (l.fold f) (r.fold f)

theorem CTree.mem_leaves_left {α : Type} {l r : CTree α} {x : α} (h : x ∈ l.leaves) :
    x ∈ (CTree.node l r).leaves := List.mem_append.mpr (Or.inl h)

theorem CTree.mem_leaves_right {α : Type} {l r : CTree α} {x : α} (h : x ∈ r.leaves) :
    x ∈ (CTree.node l r).leaves := List.mem_append.mpr (Or.inr h)

theorem CTree.exists_leaf {α : Type} (t : CTree α) : ∃ l, l ∈ t.leaves := by
  induction t with
  | leaf a => exact ⟨a, List.mem_singleton_self a⟩
  | node l r ihl _ => exact ihl.imp fun _ => CTree.mem_leaves_left

/-! Commutativity, associativity and idempotence of a combination `f` up to a relation `S` are the
    statement "two histories over the same set of pairwise `R`-related leaves are `S`-related" for the
    histories with two and three leaves. -/
section laws
variable {α : Type} {f : α → α → α} {R S : α → α → Prop}

theorem pairwise_triple (symm : ∀ {a b}, R a b → R b a) (self : ∀ {a b}, R a b → R a a) {a b c : α}
    (hab : R a b) (hac : R a c) (hbc : R b c) :
    ∀ l, l ∈ [a, b, c] → ∀ l', l' ∈ [a, b, c] → R l l' := by
  simp only [List.forall_mem_cons, List.not_mem_nil, false_imp_iff, implies_true, and_true]
  exact ⟨⟨self hab, hab, hac⟩, ⟨symm hab, self hbc, hbc⟩, symm hac, symm hbc, self (symm hbc)⟩

variable (T : ∀ t1 t2 : CTree α, (∀ l, l ∈ t1.leaves → ∀ l', l' ∈ t1.leaves → R l l') →
  (∀ l, l ∈ t1.leaves ↔ l ∈ t2.leaves) → S (t1.fold f) (t2.fold f))
include T

theorem CTree.comm_of_fold (symm : ∀ {a b}, R a b → R b a) (self : ∀ {a b}, R a b → R a a) {a b : α}
    (h : R a b) : S (f a b) (f b a) := by
  refine T (.node (.leaf a) (.leaf b)) (.node (.leaf b) (.leaf a)) ?_ fun l => ?_
  · show ∀ l, l ∈ [a, b] → ∀ l', l' ∈ [a, b] → R l l'
    simp only [List.forall_mem_cons, List.not_mem_nil, false_imp_iff, implies_true, and_true]
    exact ⟨⟨self h, h⟩, symm h, self (symm h)⟩
  · show l ∈ [a, b] ↔ l ∈ [b, a]
    simp only [List.mem_cons, List.not_mem_nil, or_false]
    exact Or.comm

theorem CTree.assoc_of_fold (symm : ∀ {a b}, R a b → R b a) (self : ∀ {a b}, R a b → R a a) {a b c : α}
    (hab : R a b) (hac : R a c) (hbc : R b c) : S (f (f a b) c) (f a (f b c)) :=
  T (.node (.node (.leaf a) (.leaf b)) (.leaf c)) (.node (.leaf a) (.node (.leaf b) (.leaf c)))
    (pairwise_triple (R := R) symm self hab hac hbc) fun _ => Iff.rfl

theorem CTree.idem_of_fold {a : α} (h : R a a) : S (f a a) a := by
  refine T (.node (.leaf a) (.leaf a)) (.leaf a) ?_ fun l => ?_
  · show ∀ l, l ∈ [a, a] → ∀ l', l' ∈ [a, a] → R l l'
    simp only [List.forall_mem_cons, List.not_mem_nil, false_imp_iff, implies_true, and_true]
    exact ⟨⟨h, h⟩, h, h⟩
  · show l ∈ [a, a] ↔ l ∈ [a]
    simp only [List.mem_cons, List.not_mem_nil, or_false, or_self]

end laws

section generic
variable {A : Type} {f : A → A → A}

/-- `hg`: a dict field that the combination unions, in either direction (`sigs` is
    `{**self.sigs, **other.sigs}`, the other dicts are `{**other.x, **self.x}`) -/
theorem CTree.fold_dict {β : Type} (g : A → Dict β)
    (hg : ∀ a b, g (f a b) = dunion (g a) (g b) ∨ g (f a b) = dunion (g b) (g a))
    (t : CTree A) (hnd : ∀ l, l ∈ t.leaves → DNodup (g l))
    (hag : ∀ l, l ∈ t.leaves → ∀ l', l' ∈ t.leaves → DAgree (g l) (g l')) :
    DNodup (g (t.fold f)) ∧
      ∀ k v, dget (g (t.fold f)) k = some v ↔ ∃ l, l ∈ t.leaves ∧ dget (g l) k = some v := by
  induction t with
  | leaf a =>
    exact ⟨hnd a (List.mem_singleton_self a), fun k v =>
      (exists_mem_singleton_iff (P := fun l => dget (g l) k = some v)).symm⟩
  | node l r ihl ihr =>
    obtain ⟨ndl, cl⟩ := ihl (fun x hx => hnd x (CTree.mem_leaves_left hx))
      (fun x hx y hy => hag x (CTree.mem_leaves_left hx) y (CTree.mem_leaves_left hy))
    obtain ⟨ndr, cr⟩ := ihr (fun x hx => hnd x (CTree.mem_leaves_right hx))
      (fun x hx y hy => hag x (CTree.mem_leaves_right hx) y (CTree.mem_leaves_right hy))
    have hagree : DAgree (g (l.fold f)) (g (r.fold f)) := by
      intro k va vb h1 h2
      obtain ⟨x, hx, h1'⟩ := (cl k va).mp h1
      obtain ⟨y, hy, h2'⟩ := (cr k vb).mp h2
      exact hag x (CTree.mem_leaves_left hx) y (CTree.mem_leaves_right hy) k va vb h1' h2'
    have key : DNodup (g (f (l.fold f) (r.fold f))) ∧
        ∀ k v, dget (g (f (l.fold f) (r.fold f))) k = some v ↔
          dget (g (l.fold f)) k = some v ∨ dget (g (r.fold f)) k = some v := by
      rcases hg (l.fold f) (r.fold f) with e | e
      · rw [e]; exact ⟨dnodup_dunion ndl _, fun k v => dget_dunion_agree ndr hagree k v⟩
      · rw [e]
        exact ⟨dnodup_dunion ndr _, fun k v => (dget_dunion_agree ndl hagree.symm k v).trans Or.comm⟩
    refine ⟨key.1, fun k v => ?_⟩
    show dget (g (f (l.fold f) (r.fold f))) k = some v ↔ ∃ x, x ∈ l.leaves ++ r.leaves ∧ _
    rw [key.2, cl, cr, exists_mem_append_iff]

/-- an optional field combined by `if self.x is None and other.x: self.x = other.x`.  The first
    conjunct (the raw value of the result is the raw value of some leaf) is what carries the agreement
    of the raw values through the induction. -/
theorem CTree.fold_opt {γ : Type} (g : A → Option γ) (tr : γ → Bool)
    (hg : ∀ a b, g (f a b) = orOther tr (g a) (g b))
    (t : CTree A) (hag : ∀ l, l ∈ t.leaves → ∀ l', l' ∈ t.leaves → OAgree (g l) (g l')) :
    (∀ v, g (t.fold f) = some v → ∃ l, l ∈ t.leaves ∧ g l = some v) ∧
      ∀ v, eff tr (g (t.fold f)) = some v ↔ ∃ l, l ∈ t.leaves ∧ eff tr (g l) = some v := by
  induction t with
  | leaf a =>
    exact ⟨fun v h => ⟨a, List.mem_singleton_self a, h⟩, fun v =>
      (exists_mem_singleton_iff (P := fun l => eff tr (g l) = some v)).symm⟩
  | node l r ihl ihr =>
    obtain ⟨rl, cl⟩ := ihl (fun x hx y hy => hag x (CTree.mem_leaves_left hx) y (CTree.mem_leaves_left hy))
    obtain ⟨rr, cr⟩ := ihr (fun x hx y hy => hag x (CTree.mem_leaves_right hx) y (CTree.mem_leaves_right hy))
    have hagree : OAgree (g (l.fold f)) (g (r.fold f)) := by
      intro u v h1 h2
      obtain ⟨x, hx, h1'⟩ := rl u h1
      obtain ⟨y, hy, h2'⟩ := rr v h2
      exact hag x (CTree.mem_leaves_left hx) y (CTree.mem_leaves_right hy) u v h1' h2'
    have e : g ((CTree.node l r).fold f) = orOther tr (g (l.fold f)) (g (r.fold f)) := hg _ _
    constructor
    · intro v h
      rw [e] at h
      rcases orOther_eq_some h with h | h
      · obtain ⟨x, hx, hx'⟩ := rl v h
        exact ⟨x, CTree.mem_leaves_left hx, hx'⟩
      · obtain ⟨x, hx, hx'⟩ := rr v h
        exact ⟨x, CTree.mem_leaves_right hx, hx'⟩
    · intro v
      rw [e, eff_orOther_iff hagree, cl, cr]
      exact exists_mem_append_iff.symm

theorem CTree.fold_dict_eq {β : Type} (g : A → Dict β) {R : A → A → Prop}
    (hg : ∀ a b, g (f a b) = dunion (g a) (g b) ∨ g (f a b) = dunion (g b) (g a))
    (hR : ∀ {a b}, R a b → DNodup (g a) ∧ DAgree (g a) (g b))
    (t1 t2 : CTree A) (hc : ∀ l, l ∈ t1.leaves → ∀ l', l' ∈ t1.leaves → R l l')
    (hs : ∀ l, l ∈ t1.leaves ↔ l ∈ t2.leaves) :
    DNodup (g (t1.fold f)) ∧ DNodup (g (t2.fold f)) ∧ ∀ k, dget (g (t1.fold f)) k = dget (g (t2.fold f)) k := by
  obtain ⟨n1, c1⟩ := CTree.fold_dict g hg t1 (fun x hx => (hR (hc x hx x hx)).1)
    (fun x hx y hy => (hR (hc x hx y hy)).2)
  obtain ⟨n2, c2⟩ := CTree.fold_dict g hg t2 (fun x hx => (hR (hc x ((hs x).mpr hx) x ((hs x).mpr hx))).1)
    (fun x hx y hy => (hR (hc x ((hs x).mpr hx) y ((hs y).mpr hy))).2)
  refine ⟨n1, n2, fun k => Option.ext fun v => ?_⟩
  rw [c1, c2]
  exact exists_congr fun x => and_congr_left fun _ => hs x

theorem CTree.fold_opt_eq {γ : Type} (g : A → Option γ) (tr : γ → Bool) {R : A → A → Prop}
    (hg : ∀ a b, g (f a b) = orOther tr (g a) (g b))
    (hR : ∀ {a b}, R a b → OAgree (g a) (g b))
    (t1 t2 : CTree A) (hc : ∀ l, l ∈ t1.leaves → ∀ l', l' ∈ t1.leaves → R l l')
    (hs : ∀ l, l ∈ t1.leaves ↔ l ∈ t2.leaves) :
    eff tr (g (t1.fold f)) = eff tr (g (t2.fold f)) := by
  obtain ⟨_, c1⟩ := CTree.fold_opt g tr hg t1 (fun x hx y hy => hR (hc x hx y hy))
  obtain ⟨_, c2⟩ := CTree.fold_opt g tr hg t2 (fun x hx y hy => hR (hc x ((hs x).mpr hx) y ((hs y).mpr hy)))
  refine Option.ext fun v => ?_
  rw [c1, c2]
  exact exists_congr fun x => and_congr_left fun _ => hs x

end generic

/-! A projection (the i-th input map of a PSBT) turns a history into the history of the projections. -/

def CTree.map {α β : Type} (π : α → β) : CTree α → CTree β
  | .leaf a => .leaf (π a)
  | .node l r => .node (l.map π) (r.map π)

theorem CTree.leaves_map {α β : Type} (π : α → β) (t : CTree α) : (t.map π).leaves = t.leaves.map π := by
  induction t with
  | leaf a => rfl
  | node l r ihl ihr => simp only [CTree.map, CTree.leaves, ihl, ihr, List.map_append]

theorem CTree.pairwise_map {α β : Type} {R : α → α → Prop} {R' : β → β → Prop} (π : α → β)
    (h : ∀ {a b}, R a b → R' (π a) (π b)) {t : CTree α}
    (hc : ∀ l, l ∈ t.leaves → ∀ l', l' ∈ t.leaves → R l l') :
    ∀ l, l ∈ (t.map π).leaves → ∀ l', l' ∈ (t.map π).leaves → R' l l' := by
  rw [CTree.leaves_map]
  intro l hl l' hl'
  obtain ⟨x, hx, rfl⟩ := List.mem_map.mp hl
  obtain ⟨y, hy, rfl⟩ := List.mem_map.mp hl'
  exact h (hc x hx y hy)

theorem CTree.same_leaves_map {α β : Type} (π : α → β) {t1 t2 : CTree α}
    (hs : ∀ l, l ∈ t1.leaves ↔ l ∈ t2.leaves) (l : β) : l ∈ (t1.map π).leaves ↔ l ∈ (t2.map π).leaves := by
  simp only [CTree.leaves_map, List.mem_map, hs]

section projection
variable {A B : Type} {f : A → A → A} {f' : B → B → B} {Inv : A → Prop}

theorem CTree.fold_inv (hInv : ∀ a b, Inv a → Inv b → Inv (f a b)) (t : CTree A)
    (hl : ∀ l, l ∈ t.leaves → Inv l) : Inv (t.fold f) := by
  induction t with
  | leaf a => exact hl a (List.mem_singleton_self a)
  | node l r ihl ihr =>
    exact hInv _ _ (ihl fun x hx => hl x (CTree.mem_leaves_left hx)) (ihr fun x hx => hl x (CTree.mem_leaves_right hx))

/-- `π` needs to commute with the combination only on values with an invariant that the combination
    preserves (PSBTs with the same number of maps) -/
theorem CTree.fold_map (π : A → B) (hInv : ∀ a b, Inv a → Inv b → Inv (f a b))
    (hπ : ∀ a b, Inv a → Inv b → π (f a b) = f' (π a) (π b))
    (t : CTree A) (hl : ∀ l, l ∈ t.leaves → Inv l) : π (t.fold f) = (t.map π).fold f' := by
  induction t with
  | leaf a => rfl
  | node l r ihl ihr =>
    have hll : ∀ x, x ∈ l.leaves → Inv x := fun x hx => hl x (CTree.mem_leaves_left hx)
    have hlr : ∀ x, x ∈ r.leaves → Inv x := fun x hx => hl x (CTree.mem_leaves_right hx)
    show π (f (l.fold f) (r.fold f)) = f' ((l.map π).fold f') ((r.map π).fold f')
    rw [hπ _ _ (CTree.fold_inv hInv l hll) (CTree.fold_inv hInv r hlr), ihl hll, ihr hlr]

end projection

/-- two input maps that can be combined in either order: they are dicts, agree on the keys they share
    and on the optional fields both have set (RAW values, see the header) -/
structure InCompat (a b : PIn Tx) : Prop where
  wf_l : InWF a
  wf_r : InWF b
  sigs : DAgree a.sigs b.sigs
  named : DAgree a.namedPubs b.namedPubs
  extra : DAgree a.extra b.extra
  prevTx : OAgree a.prevTx b.prevTx
  prevOut : OAgree a.prevOut b.prevOut
  hashType : OAgree a.hashType b.hashType
  redeem : OAgree a.redeem b.redeem
  witnessScript : OAgree a.witnessScript b.witnessScript
  scriptSig : OAgree a.scriptSig b.scriptSig
  witness : OAgree a.witness b.witness

theorem InCompat.symm {a b : PIn Tx} (h : InCompat a b) : InCompat b a :=
  ⟨h.wf_r, h.wf_l, h.sigs.symm, h.named.symm, h.extra.symm, h.prevTx.symm, h.prevOut.symm, h.hashType.symm,
    h.redeem.symm, h.witnessScript.symm, h.scriptSig.symm, h.witness.symm⟩

theorem InCompat.of_wf {a : PIn Tx} (h : InWF a) : InCompat a a :=
  ⟨h, h, DAgree.refl _, DAgree.refl _, DAgree.refl _, OAgree.refl _, OAgree.refl _, OAgree.refl _,
    OAgree.refl _, OAgree.refl _, OAgree.refl _, OAgree.refl _⟩

theorem InCompat.self_left {a b : PIn Tx} (h : InCompat a b) : InCompat a a := InCompat.of_wf h.wf_l

structure OutCompat (a b : POut) : Prop where
  wf_l : OutWF a
  wf_r : OutWF b
  named : DAgree a.namedPubs b.namedPubs
  extra : DAgree a.extra b.extra
  redeem : OAgree a.redeem b.redeem
  witnessScript : OAgree a.witnessScript b.witnessScript

theorem OutCompat.symm {a b : POut} (h : OutCompat a b) : OutCompat b a :=
  ⟨h.wf_r, h.wf_l, h.named.symm, h.extra.symm, h.redeem.symm, h.witnessScript.symm⟩

theorem OutCompat.of_wf {a : POut} (h : OutWF a) : OutCompat a a :=
  ⟨h, h, DAgree.refl _, DAgree.refl _, OAgree.refl _, OAgree.refl _⟩

theorem OutCompat.self_left {a b : POut} (h : OutCompat a b) : OutCompat a a := OutCompat.of_wf h.wf_l

def CTree.foldIn (t : CTree (PIn Tx)) : PIn Tx := t.fold combineIn

def CTree.foldOut (t : CTree POut) : POut := t.fold combineOut

/-- pairwise compatibility is asked of the leaves of `t1` only; those of `t2` are the same set -/
theorem foldIn_serEq (t1 t2 : CTree (PIn Tx))
    (hc : ∀ l, l ∈ t1.leaves → ∀ l', l' ∈ t1.leaves → InCompat l l')
    (hs : ∀ l, l ∈ t1.leaves ↔ l ∈ t2.leaves) : InSerEq t1.foldIn t2.foldIn := by
  have dsigs := CTree.fold_dict_eq (f := combineIn) PIn.sigs (fun _ _ => .inl rfl)
    (fun h => ⟨h.wf_l.sigs, h.sigs⟩) t1 t2 hc hs
  have dnamed := CTree.fold_dict_eq (f := combineIn) PIn.namedPubs (fun _ _ => .inr rfl)
    (fun h => ⟨h.wf_l.named, h.named⟩) t1 t2 hc hs
  have dextra := CTree.fold_dict_eq (f := combineIn) PIn.extra (fun _ _ => .inr rfl)
    (fun h => ⟨h.wf_l.extra, h.extra⟩) t1 t2 hc hs
  have opt {γ : Type} (g : PIn Tx → Option γ) (hg : ∀ a b, g (combineIn a b) = orOther anyT (g a) (g b))
      (hR : ∀ {a b}, InCompat a b → OAgree (g a) (g b)) : g t1.foldIn = g t2.foldIn := by
    have := CTree.fold_opt_eq g anyT hg hR t1 t2 hc hs
    rwa [eff_anyT, eff_anyT] at this
  exact
    { wf_l := ⟨dsigs.1, dnamed.1, dextra.1⟩
      wf_r := ⟨dsigs.2.1, dnamed.2.1, dextra.2.1⟩
      sigs := dsigs.2.2
      named := dnamed.2.2
      extra := dextra.2.2
      prevTx := opt PIn.prevTx (fun _ _ => rfl) InCompat.prevTx
      prevOut := opt PIn.prevOut (fun _ _ => rfl) InCompat.prevOut
      hashType := CTree.fold_opt_eq PIn.hashType htT (fun _ _ => rfl) InCompat.hashType t1 t2 hc hs
      redeem := opt PIn.redeem (fun _ _ => rfl) InCompat.redeem
      witnessScript := opt PIn.witnessScript (fun _ _ => rfl) InCompat.witnessScript
      scriptSig := opt PIn.scriptSig (fun _ _ => rfl) InCompat.scriptSig
      witness := CTree.fold_opt_eq PIn.witness witT (fun _ _ => rfl) InCompat.witness t1 t2 hc hs }

theorem foldOut_serEq (t1 t2 : CTree POut)
    (hc : ∀ l, l ∈ t1.leaves → ∀ l', l' ∈ t1.leaves → OutCompat l l')
    (hs : ∀ l, l ∈ t1.leaves ↔ l ∈ t2.leaves) : OutSerEq t1.foldOut t2.foldOut := by
  have dnamed := CTree.fold_dict_eq (f := combineOut) POut.namedPubs (fun _ _ => .inr rfl)
    (fun h => ⟨h.wf_l.named, h.named⟩) t1 t2 hc hs
  have dextra := CTree.fold_dict_eq (f := combineOut) POut.extra (fun _ _ => .inr rfl)
    (fun h => ⟨h.wf_l.extra, h.extra⟩) t1 t2 hc hs
  have oredeem := CTree.fold_opt_eq (f := combineOut) POut.redeem anyT (fun _ _ => rfl) OutCompat.redeem t1 t2 hc hs
  have owitnessScript := CTree.fold_opt_eq (f := combineOut) POut.witnessScript anyT (fun _ _ => rfl)
    OutCompat.witnessScript t1 t2 hc hs
  rw [eff_anyT, eff_anyT] at oredeem owitnessScript
  exact ⟨⟨dnamed.1, dextra.1⟩, ⟨dnamed.2.1, dextra.2.1⟩, dnamed.2.2, dextra.2.2, oredeem, owitnessScript⟩

theorem foldIn_namedPubs_iff (t : CTree (PIn Tx))
    (hc : ∀ l, l ∈ t.leaves → ∀ l', l' ∈ t.leaves → InCompat l l') (k v : Bytes) :
    dget t.foldIn.namedPubs k = some v ↔ ∃ l, l ∈ t.leaves ∧ dget l.namedPubs k = some v :=
  (CTree.fold_dict (f := combineIn) PIn.namedPubs (fun _ _ => .inr rfl) t (fun l h => (hc l h l h).wf_l.named)
    (fun l h l' h' => (hc l h l' h').named)).2 k v

theorem foldIn_extra_iff (t : CTree (PIn Tx))
    (hc : ∀ l, l ∈ t.leaves → ∀ l', l' ∈ t.leaves → InCompat l l') (k v : Bytes) :
    dget t.foldIn.extra k = some v ↔ ∃ l, l ∈ t.leaves ∧ dget l.extra k = some v :=
  (CTree.fold_dict (f := combineIn) PIn.extra (fun _ _ => .inr rfl) t (fun l h => (hc l h l h).wf_l.extra)
    (fun l h l' h' => (hc l h l' h').extra)).2 k v

theorem foldIn_hashType_iff (t : CTree (PIn Tx))
    (hc : ∀ l, l ∈ t.leaves → ∀ l', l' ∈ t.leaves → InCompat l l') (v : Nat) :
    eff htT t.foldIn.hashType = some v ↔ ∃ l, l ∈ t.leaves ∧ eff htT l.hashType = some v :=
  (CTree.fold_opt (f := combineIn) PIn.hashType htT (fun _ _ => rfl) t
    (fun l h l' h' => (hc l h l' h').hashType)).2 v

theorem foldIn_witness_iff (t : CTree (PIn Tx))
    (hc : ∀ l, l ∈ t.leaves → ∀ l', l' ∈ t.leaves → InCompat l l') (v : List Bytes) :
    eff witT t.foldIn.witness = some v ↔ ∃ l, l ∈ t.leaves ∧ eff witT l.witness = some v :=
  (CTree.fold_opt (f := combineIn) PIn.witness witT (fun _ _ => rfl) t
    (fun l h l' h' => (hc l h l' h').witness)).2 v

theorem foldIn_entries_independent (C : TxCodec Tx) (t1 t2 : CTree (PIn Tx))
    (hc : ∀ l, l ∈ t1.leaves → ∀ l', l' ∈ t1.leaves → InCompat l l')
    (hs : ∀ l, l ∈ t1.leaves ↔ l ∈ t2.leaves) : t1.foldIn.entries C = t2.foldIn.entries C :=
  (foldIn_serEq t1 t2 hc hs).entries_eq C

theorem foldOut_entries_independent (t1 t2 : CTree POut)
    (hc : ∀ l, l ∈ t1.leaves → ∀ l', l' ∈ t1.leaves → OutCompat l l')
    (hs : ∀ l, l ∈ t1.leaves ↔ l ∈ t2.leaves) : t1.foldOut.entries = t2.foldOut.entries :=
  (foldOut_serEq t1 t2 hc hs).entries_eq

theorem combineIn_comm_ser (C : TxCodec Tx) {a b : PIn Tx} (h : InCompat a b) :
    (combineIn a b).entries C = (combineIn b a).entries C :=
  CTree.comm_of_fold (f := combineIn) (R := InCompat) (S := fun x y => x.entries C = y.entries C)
    (foldIn_entries_independent C) InCompat.symm InCompat.self_left h

theorem combineIn_assoc_ser (C : TxCodec Tx) {a b c : PIn Tx}
    (hab : InCompat a b) (hac : InCompat a c) (hbc : InCompat b c) :
    (combineIn (combineIn a b) c).entries C = (combineIn a (combineIn b c)).entries C :=
  CTree.assoc_of_fold (f := combineIn) (R := InCompat) (S := fun x y => x.entries C = y.entries C)
    (foldIn_entries_independent C) InCompat.symm InCompat.self_left hab hac hbc

theorem combineIn_idem_ser (C : TxCodec Tx) {a : PIn Tx} (h : InWF a) :
    (combineIn a a).entries C = a.entries C :=
  CTree.idem_of_fold (f := combineIn) (R := InCompat) (S := fun x y => x.entries C = y.entries C)
    (foldIn_entries_independent C) (InCompat.of_wf h)

theorem combineOut_comm_ser {a b : POut} (h : OutCompat a b) :
    (combineOut a b).entries = (combineOut b a).entries :=
  CTree.comm_of_fold (f := combineOut) (R := OutCompat) (S := fun x y => x.entries = y.entries)
    foldOut_entries_independent OutCompat.symm OutCompat.self_left h

theorem combineOut_assoc_ser {a b c : POut} (hab : OutCompat a b) (hac : OutCompat a c) (hbc : OutCompat b c) :
    (combineOut (combineOut a b) c).entries = (combineOut a (combineOut b c)).entries :=
  CTree.assoc_of_fold (f := combineOut) (R := OutCompat) (S := fun x y => x.entries = y.entries)
    foldOut_entries_independent OutCompat.symm OutCompat.self_left hab hac hbc

theorem combineOut_idem_ser {a : POut} (h : OutWF a) : (combineOut a a).entries = a.entries :=
  CTree.idem_of_fold (f := combineOut) (R := OutCompat) (S := fun x y => x.entries = y.entries)
    foldOut_entries_independent (OutCompat.of_wf h)

theorem zipCombine_length {α : Type} (f : α → α → α) (as bs : List α) :
    (zipCombine f as bs).length = as.length := by
  induction as generalizing bs with
  | nil => cases bs <;> rfl
  | cons a as ih =>
    cases bs with
    | nil => rfl
    | cons b bs => exact congrArg (· + 1) (ih bs)

/-- `getD` with a default that combines with itself to itself needs no bound on `i`: beyond the end
    both sides read `d` -/
theorem zipCombine_getD {α : Type} (f : α → α → α) {d : α} (hd : f d d = d) {as bs : List α}
    (hlen : as.length = bs.length) (i : Nat) :
    (zipCombine f as bs).getD i d = f (as.getD i d) (bs.getD i d) := by
  induction as generalizing bs i with
  | nil =>
    cases bs with
    | nil => exact hd.symm
    | cons b bs => cases hlen
  | cons a as ih =>
    cases bs with
    | nil => cases hlen
    | cons b bs =>
      cases i with
      | zero => rfl
      | succ i => exact ih (Nat.succ.inj hlen) i

theorem serializeAll_congr {α : Type} (f : α → Option Bytes) (d : α) {as bs : List α}
    (hlen : as.length = bs.length) (h : ∀ i, f (as.getD i d) = f (bs.getD i d)) :
    serializeAll f as = serializeAll f bs := by
  induction as generalizing bs with
  | nil =>
    cases bs with
    | nil => rfl
    | cons b bs => cases hlen
  | cons a as ih =>
    cases bs with
    | nil => cases hlen
    | cons b bs =>
      have h0 : f a = f b := h 0
      have ht : serializeAll f as = serializeAll f bs := ih (Nat.succ.inj hlen) fun i => h (i + 1)
      simp only [serializeAll, h0, ht]

theorem rel_getD {α : Type} {R : α → α → Prop} {d : α} (hd : R d d) {as bs : List α}
    (hlen : as.length = bs.length)
    (h : ∀ (i : Nat) p q, as[i]? = some p → bs[i]? = some q → R p q) (i : Nat) : R (as.getD i d) (bs.getD i d) := by
  rw [List.getD_eq_getElem?_getD, List.getD_eq_getElem?_getD]
  by_cases hi : i < as.length
  · have hi' : i < bs.length := hlen ▸ hi
    rw [List.getElem?_eq_getElem hi, List.getElem?_eq_getElem hi']
    exact h i _ _ (List.getElem?_eq_getElem hi) (List.getElem?_eq_getElem hi')
  · have hi' : ¬ i < bs.length := hlen ▸ hi
    rw [List.getElem?_eq_none (Nat.le_of_not_lt hi), List.getElem?_eq_none (Nat.le_of_not_lt hi')]
    exact hd

/-- what PSBT.combine returns when the transaction hashes agree -/
def combineCore (a b : Psbt Tx) : Psbt Tx :=
  { a with
    hdPubs := dunion b.hdPubs a.hdPubs
    extra := dunion b.extra a.extra
    ins := zipCombine combineIn a.ins b.ins
    outs := zipCombine combineOut a.outs b.outs }

theorem combine_eq_core (C : TxCodec Tx) {a b : Psbt Tx} {h : Bytes} (hh : C.hash a.tx = some h)
    (e : b.tx = a.tx) : combine C a b = some (combineCore a b) := by
  unfold combine
  rw [e, hh]
  simp [req, combineCore]

/-- a history of PSBT.combine calls; a refusal anywhere makes the whole history fail -/
def CTree.evalP (C : TxCodec Tx) : CTree (Psbt Tx) → Option (Psbt Tx)
  | .leaf p => some p
  | .node l r => do
    let x ← l.evalP C
    let y ← r.evalP C
    combine C x y

theorem CTree.evalP_eq_fold (C : TxCodec Tx) {tx0 : Tx} {h : Bytes} (hh : C.hash tx0 = some h)
    (t : CTree (Psbt Tx)) (hl : ∀ l, l ∈ t.leaves → l.tx = tx0) :
    t.evalP C = some (t.fold combineCore) ∧ (t.fold combineCore).tx = tx0 := by
  induction t with
  | leaf a => exact ⟨rfl, hl a (List.mem_singleton_self a)⟩
  | node l r ihl ihr =>
    obtain ⟨e1, t1⟩ := ihl fun x hx => hl x (CTree.mem_leaves_left hx)
    obtain ⟨e2, t2⟩ := ihr fun x hx => hl x (CTree.mem_leaves_right hx)
    refine ⟨?_, t1⟩
    show (do let x ← l.evalP C; let y ← r.evalP C; combine C x y) = _
    rw [e1, e2]
    exact combine_eq_core C (by rw [t1]; exact hh) (t2.trans t1.symm)

structure PsbtWF (a : Psbt Tx) : Prop where
  hd : DNodup a.hdPubs
  extra : DNodup a.extra
  ins : ∀ p, p ∈ a.ins → InWF p
  outs : ∀ p, p ∈ a.outs → OutWF p

/-- two PSBTs of the same transaction whose maps are compatible position by position.  (`network` is
    not serialised and need not agree; the global xpub records are written from the VALUES of
    `hdPubs`, so agreement of the values on common keys is what is asked.) -/
structure PsbtCompat (a b : Psbt Tx) : Prop where
  tx : a.tx = b.tx
  ins_len : a.ins.length = b.ins.length
  outs_len : a.outs.length = b.outs.length
  ins : ∀ (i : Nat) p q, a.ins[i]? = some p → b.ins[i]? = some q → InCompat p q
  outs : ∀ (i : Nat) p q, a.outs[i]? = some p → b.outs[i]? = some q → OutCompat p q
  hd_l : DNodup a.hdPubs
  hd_r : DNodup b.hdPubs
  extra_l : DNodup a.extra
  extra_r : DNodup b.extra
  hd : DAgree a.hdPubs b.hdPubs
  extra : DAgree a.extra b.extra

theorem PsbtCompat.symm {a b : Psbt Tx} (h : PsbtCompat a b) : PsbtCompat b a :=
  { tx := h.tx.symm
    ins_len := h.ins_len.symm
    outs_len := h.outs_len.symm
    ins := fun i p q hp hq => (h.ins i q p hq hp).symm
    outs := fun i p q hp hq => (h.outs i q p hq hp).symm
    hd_l := h.hd_r
    hd_r := h.hd_l
    extra_l := h.extra_r
    extra_r := h.extra_l
    hd := h.hd.symm
    extra := h.extra.symm }

theorem PsbtCompat.of_wf {a : Psbt Tx} (h : PsbtWF a) : PsbtCompat a a :=
  { tx := rfl
    ins_len := rfl
    outs_len := rfl
    ins := fun i p q hp hq => by
      rw [hp] at hq; cases hq
      exact InCompat.of_wf (h.ins p (List.mem_of_getElem? hp))
    outs := fun i p q hp hq => by
      rw [hp] at hq; cases hq
      exact OutCompat.of_wf (h.outs p (List.mem_of_getElem? hp))
    hd_l := h.hd
    hd_r := h.hd
    extra_l := h.extra
    extra_r := h.extra
    hd := DAgree.refl _
    extra := DAgree.refl _ }

theorem PsbtCompat.wf_left {a b : Psbt Tx} (h : PsbtCompat a b) : PsbtWF a :=
  { hd := h.hd_l
    extra := h.extra_l
    ins := fun p hp => by
      obtain ⟨i, hi, e⟩ := List.getElem_of_mem hp
      have hi' : i < b.ins.length := h.ins_len ▸ hi
      exact (h.ins i p _ (by rw [List.getElem?_eq_getElem hi, e]) (List.getElem?_eq_getElem hi')).wf_l
    outs := fun p hp => by
      obtain ⟨i, hi, e⟩ := List.getElem_of_mem hp
      have hi' : i < b.outs.length := h.outs_len ▸ hi
      exact (h.outs i p _ (by rw [List.getElem?_eq_getElem hi, e]) (List.getElem?_eq_getElem hi')).wf_l }

theorem PsbtCompat.self_left {a b : Psbt Tx} (h : PsbtCompat a b) : PsbtCompat a a :=
  PsbtCompat.of_wf h.wf_left

theorem inWF_empty : InWF ({} : PIn Tx) := ⟨List.nodup_nil, List.nodup_nil, List.nodup_nil⟩
theorem outWF_empty : OutWF ({} : POut) := ⟨List.nodup_nil, List.nodup_nil⟩

def inAt (i : Nat) (p : Psbt Tx) : PIn Tx := p.ins.getD i {}
def outAt (i : Nat) (p : Psbt Tx) : POut := p.outs.getD i {}

def PInv (tx0 : Tx) (n m : Nat) (p : Psbt Tx) : Prop := p.tx = tx0 ∧ p.ins.length = n ∧ p.outs.length = m

theorem combineCore_inv {tx0 : Tx} {n m : Nat} (a b : Psbt Tx) (ha : PInv tx0 n m a) (_hb : PInv tx0 n m b) :
    PInv tx0 n m (combineCore a b) :=
  ⟨ha.1, (zipCombine_length _ _ _).trans ha.2.1, (zipCombine_length _ _ _).trans ha.2.2⟩

theorem inAt_combineCore {tx0 : Tx} {n m : Nat} (i : Nat) (a b : Psbt Tx) (ha : PInv tx0 n m a)
    (hb : PInv tx0 n m b) : inAt i (combineCore a b) = combineIn (inAt i a) (inAt i b) :=
  zipCombine_getD combineIn rfl (ha.2.1.trans hb.2.1.symm) i

theorem outAt_combineCore {tx0 : Tx} {n m : Nat} (i : Nat) (a b : Psbt Tx) (ha : PInv tx0 n m a)
    (hb : PInv tx0 n m b) : outAt i (combineCore a b) = combineOut (outAt i a) (outAt i b) :=
  zipCombine_getD combineOut rfl (ha.2.2.trans hb.2.2.symm) i

theorem PsbtCompat.inAt {a b : Psbt Tx} (h : PsbtCompat a b) (i : Nat) : InCompat (inAt i a) (inAt i b) :=
  rel_getD (InCompat.of_wf inWF_empty) h.ins_len h.ins i

theorem PsbtCompat.outAt {a b : Psbt Tx} (h : PsbtCompat a b) (i : Nat) : OutCompat (outAt i a) (outAt i b) :=
  rel_getD (OutCompat.of_wf outWF_empty) h.outs_len h.outs i

theorem Psbt.serialize_congr (C : TxCodec Tx) {x y : Psbt Tx} (htx : x.tx = y.tx)
    (hhd : sortedItems x.hdPubs = sortedItems y.hdPubs) (hex : sortedItems x.extra = sortedItems y.extra)
    (hins : serializeAll (PIn.serialize C) x.ins = serializeAll (PIn.serialize C) y.ins)
    (houts : serializeAll POut.serialize x.outs = serializeAll POut.serialize y.outs) :
    x.serialize C = y.serialize C := by
  unfold Psbt.serialize Psbt.globalEntries
  rw [htx, hhd, hex, hins, houts]

/-- `combine_tree_bytes_independent` with the hash test taken as passed -/
theorem fold_combineCore_serialize (C : TxCodec Tx) (t1 t2 : CTree (Psbt Tx))
    (hc : ∀ l, l ∈ t1.leaves → ∀ l', l' ∈ t1.leaves → PsbtCompat l l')
    (hs : ∀ l, l ∈ t1.leaves ↔ l ∈ t2.leaves) :
    (t1.fold combineCore).serialize C = (t2.fold combineCore).serialize C := by
  obtain ⟨l0, hl0⟩ := t1.exists_leaf
  have hl : ∀ l, l ∈ t1.leaves → PInv l0.tx l0.ins.length l0.outs.length l := fun l h =>
    ⟨(hc l0 hl0 l h).tx.symm, (hc l0 hl0 l h).ins_len.symm, (hc l0 hl0 l h).outs_len.symm⟩
  have hl' : ∀ l, l ∈ t2.leaves → PInv l0.tx l0.ins.length l0.outs.length l := fun l h => hl l ((hs l).mpr h)
  have i1 := CTree.fold_inv (f := combineCore) combineCore_inv t1 hl
  have i2 := CTree.fold_inv (f := combineCore) combineCore_inv t2 hl'
  have dhd := CTree.fold_dict_eq (f := combineCore) Psbt.hdPubs (fun _ _ => .inr rfl)
    (fun h => ⟨h.hd_l, h.hd⟩) t1 t2 hc hs
  have dex := CTree.fold_dict_eq (f := combineCore) Psbt.extra (fun _ _ => .inr rfl)
    (fun h => ⟨h.extra_l, h.extra⟩) t1 t2 hc hs
  apply Psbt.serialize_congr
  · exact i1.1.trans i2.1.symm
  · exact sortedItems_ext dhd.1 dhd.2.1 dhd.2.2
  · exact sortedItems_ext dex.1 dex.2.1 dex.2.2
  · refine serializeAll_congr _ {} (i1.2.1.trans i2.2.1.symm) fun i => ?_
    show (inAt i _).serialize C = (inAt i _).serialize C
    rw [CTree.fold_map (inAt i) combineCore_inv (inAt_combineCore i) t1 hl,
      CTree.fold_map (inAt i) combineCore_inv (inAt_combineCore i) t2 hl']
    exact (foldIn_serEq _ _ (CTree.pairwise_map _ (fun h => h.inAt i) hc)
      (CTree.same_leaves_map _ hs)).serialize_eq C
  · refine serializeAll_congr _ {} (i1.2.2.trans i2.2.2.symm) fun i => ?_
    show (outAt i _).serialize = (outAt i _).serialize
    rw [CTree.fold_map (outAt i) combineCore_inv (outAt_combineCore i) t1 hl,
      CTree.fold_map (outAt i) combineCore_inv (outAt_combineCore i) t2 hl']
    exact (foldOut_serEq _ _ (CTree.pairwise_map _ (fun h => h.outAt i) hc)
      (CTree.same_leaves_map _ hs)).serialize_eq

/-- Two histories of PSBT.combine over the same SET of pairwise compatible PSBTs
    of a hashable transaction both succeed and serialise to the same bytes: neither the order of the
    operands, nor the bracketing, nor repetitions matter.  (Pairwise compatibility and hashability are
    asked of the leaves of `t1`; those of `t2` are the same set.) -/
theorem combine_tree_bytes_independent (C : TxCodec Tx) (t1 t2 : CTree (Psbt Tx))
    (hc : ∀ l, l ∈ t1.leaves → ∀ l', l' ∈ t1.leaves → PsbtCompat l l')
    (hh : ∀ l, l ∈ t1.leaves → (C.hash l.tx).isSome = true)
    (hs : ∀ l, l ∈ t1.leaves ↔ l ∈ t2.leaves) :
    ∃ x y, t1.evalP C = some x ∧ t2.evalP C = some y ∧ x.serialize C = y.serialize C := by
  obtain ⟨l0, hl0⟩ := t1.exists_leaf
  obtain ⟨h, hh0⟩ := Option.isSome_iff_exists.mp (hh l0 hl0)
  have e1 := CTree.evalP_eq_fold C hh0 t1 fun l hl => (hc l0 hl0 l hl).tx.symm
  have e2 := CTree.evalP_eq_fold C hh0 t2 fun l hl => (hc l0 hl0 l ((hs l).mpr hl)).tx.symm
  exact ⟨_, _, e1.1, e2.1, fold_combineCore_serialize C t1 t2 hc hs⟩

theorem combine_comm_ser (C : TxCodec Tx) {a b : Psbt Tx} {h : Bytes} (hc : PsbtCompat a b)
    (hh : C.hash a.tx = some h) :
    ∃ x y, combine C a b = some x ∧ combine C b a = some y ∧ x.serialize C = y.serialize C := by
  refine ⟨_, _, combine_eq_core C hh hc.tx.symm, combine_eq_core C (hc.tx ▸ hh) hc.tx, ?_⟩
  exact CTree.comm_of_fold (f := combineCore) (R := PsbtCompat) (S := fun x y => x.serialize C = y.serialize C)
    (fold_combineCore_serialize C) PsbtCompat.symm PsbtCompat.self_left hc

theorem combine_assoc_ser (C : TxCodec Tx) {a b c : Psbt Tx} {h : Bytes}
    (hab : PsbtCompat a b) (hac : PsbtCompat a c) (hbc : PsbtCompat b c) (hh : C.hash a.tx = some h) :
    ∃ ab bc x y, combine C a b = some ab ∧ combine C ab c = some x ∧
      combine C b c = some bc ∧ combine C a bc = some y ∧ x.serialize C = y.serialize C := by
  have hhb : C.hash b.tx = some h := hab.tx ▸ hh
  refine ⟨combineCore a b, combineCore b c, combineCore (combineCore a b) c, combineCore a (combineCore b c),
    combine_eq_core C hh hab.tx.symm, combine_eq_core C hh hac.tx.symm,
    combine_eq_core C hhb hbc.tx.symm, combine_eq_core C hh hab.tx.symm, ?_⟩
  exact CTree.assoc_of_fold (f := combineCore) (R := PsbtCompat) (S := fun x y => x.serialize C = y.serialize C)
    (fold_combineCore_serialize C) PsbtCompat.symm PsbtCompat.self_left hab hac hbc

theorem combine_idem_ser (C : TxCodec Tx) {a : Psbt Tx} {h : Bytes} (hw : PsbtWF a)
    (hh : C.hash a.tx = some h) : ∃ x, combine C a a = some x ∧ x.serialize C = a.serialize C := by
  refine ⟨_, combine_eq_core C hh rfl, ?_⟩
  exact CTree.idem_of_fold (f := combineCore) (R := PsbtCompat) (S := fun x y => x.serialize C = y.serialize C)
    (fold_combineCore_serialize C) (PsbtCompat.of_wf hw)

/-! ## non-vacuity

  Two signers' copies of one input map: different signature keys, overlapping derivations with the
  same value, the same sighash type, one of them with an (empty, hence unserialised) final witness. -/
section examples

def exC : TxCodec Unit :=
  { parseLegacy := fun _ => none, parse := fun _ => none, serialize := fun _ => some [0xAA],
    serializeLegacy := fun _ => some [0xAA], hash := fun _ => some [0xBB], ins := fun _ => [],
    outs := fun _ => [], finalSerialize := fun _ _ => none }

def exA : PIn Unit :=
  { sigs := [([2, 1], [0x30, 1])], namedPubs := [([2, 1], [9])], hashType := some 1, extra := [([0xF0], [1])] }

def exB : PIn Unit :=
  { sigs := [([2, 0], [0x31, 1])], namedPubs := [([2, 0], [8]), ([2, 1], [9])], hashType := some 1,
    witness := some [] }

theorem exA_exB_compat : InCompat exA exB :=
  { wf_l := ⟨by unfold DNodup; decide, by unfold DNodup; decide, by unfold DNodup; decide⟩
    wf_r := ⟨by unfold DNodup; decide, by unfold DNodup; decide, by unfold DNodup; decide⟩
    sigs := dagree_of_forall_mem (by decide)
    named := dagree_of_forall_mem (by decide)
    extra := dagree_of_forall_mem (by decide)
    prevTx := OAgree.refl _
    prevOut := OAgree.refl _
    hashType := OAgree.refl _
    redeem := OAgree.refl _
    witnessScript := OAgree.refl _
    scriptSig := OAgree.refl _
    witness := OAgree.none_left _ }

/-- the combination is NOT commutative on the nose (the dicts come out in different orders) … -/
example : (combineIn exA exB).sigs ≠ (combineIn exB exA).sigs := by decide

/-- … but it is up to serialisation -/
example : (combineIn exA exB).entries exC = (combineIn exB exA).entries exC :=
  combineIn_comm_ser exC exA_exB_compat

/-- agreement on common keys is necessary: two different signatures under one key -/
def exA' : PIn Unit := { sigs := [([2, 1], [0x55, 1])] }

example : (combineIn exA exA').entries exC ≠ (combineIn exA' exA).entries exC := by decide +kernel

/-- agreement of the RAW optional values is necessary: `hash_type` 0 against 1 -/
def exH0 : PIn Unit := { hashType := some 0 }
def exH1 : PIn Unit := { hashType := some 1 }

example : OAgree (eff htT exH0.hashType) (eff htT exH1.hashType) := OAgree.none_left _

example : (combineIn exH0 exH1).entries exC ≠ (combineIn exH1 exH0).entries exC := by decide +kernel

def exPA : Psbt Unit := { tx := (), ins := [exA], outs := [{}], hdPubs := [([1], ⟨[1], [7]⟩)] }
def exPB : Psbt Unit := { tx := (), ins := [exB], outs := [{ extra := [([0xF1], [2])] }] }

theorem exPA_exPB_compat : PsbtCompat exPA exPB :=
  { tx := rfl
    ins_len := rfl
    outs_len := rfl
    ins := fun i p q hp hq => by
      cases i with
      | zero => cases hp; cases hq; exact exA_exB_compat
      | succ i => cases hp
    outs := fun i p q hp hq => by
      cases i with
      | zero =>
        cases hp; cases hq
        exact ⟨⟨by unfold DNodup; decide, by unfold DNodup; decide⟩,
          ⟨by unfold DNodup; decide, by unfold DNodup; decide⟩,
          dagree_of_forall_mem (by decide), dagree_of_forall_mem (by decide), OAgree.refl _, OAgree.refl _⟩
      | succ i => cases hp
    hd_l := by unfold DNodup; decide
    hd_r := by unfold DNodup; decide
    extra_l := by unfold DNodup; decide
    extra_r := by unfold DNodup; decide
    hd := dagree_of_forall_mem (by decide)
    extra := dagree_of_forall_mem (by decide) }

example : ∃ x y, combine exC exPA exPB = some x ∧ combine exC exPB exPA = some y ∧
    x.serialize exC = y.serialize exC :=
  combine_comm_ser exC exPA_exPB_compat rfl

/-- two histories over the same set: other order, other bracketing, one operand twice -/
example : ∃ x y,
    (CTree.node (.node (.leaf exPA) (.leaf exPB)) (.leaf exPA)).evalP exC = some x ∧
    (CTree.node (.leaf exPB) (.leaf exPA)).evalP exC = some y ∧ x.serialize exC = y.serialize exC := by
  refine combine_tree_bytes_independent exC _ _ (pairwise_triple (R := PsbtCompat) PsbtCompat.symm
    PsbtCompat.self_left exPA_exPB_compat exPA_exPB_compat.self_left exPA_exPB_compat.symm)
    (fun _ _ => rfl) fun l => ?_
  show l ∈ [exPA, exPB, exPA] ↔ l ∈ [exPB, exPA]
  simp only [List.mem_cons, List.not_mem_nil, or_false]
  exact ⟨fun h => h.elim Or.inr id, Or.inr⟩

end examples

end Buidl.Psbt
