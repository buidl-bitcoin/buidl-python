/-
  Segwit addresses (`encode_bech32_checksum` / `decode_bech32`).  What `decode_bech32` accepts after the split is
  said once, as an iff (`decodeBody_eq_some_iff`); the round trip on what the encoder wrote, the refusal of
  substituted characters and the shape of an accepted string are read off it, in the 5-bit values of the characters.
-/
import Buidl.Proofs.Bech32
import Buidl.Proofs.PolymodSwitch
import Buidl.Proofs.PyStr
namespace Buidl.Bech32
open Buidl Buidl.Base58

/-! ### small facts about the extracted tables -/

theorem regtestPrefix_eq :
    dictGet Gen.prefixKeys Gen.prefixVals Gen.decB32RegtestKey.toList = some ['b', 'c', 'r', 't'] := by decide +kernel
theorem decSep_eq : Gen.decB32Sep.toList = ['1'] := by decide
theorem encSep_eq : Gen.encB32Sep.toList = ['1'] := by decide
theorem b32char_zero : b32char 0 = 'q' := by
  rw [b32char, alphabet, Gen.bech32Alphabet, String.toList_ofList]; rfl
theorem b32char_one : b32char 1 = 'p' := by
  rw [b32char, alphabet, Gen.bech32Alphabet, String.toList_ofList]; rfl

theorem decB32Cmp0 (n : Nat) : cmpAt Gen.decB32Cmp 0 n = (n == 0) := cmpOp_Eq n 0
theorem decB32Cmp1 (n : Nat) : cmpAt Gen.decB32Cmp 1 n = decide (n < 2) := cmpOp_Lt n 2
theorem decB32Cmp2 (n : Nat) : cmpAt Gen.decB32Cmp 2 n = decide (n > 40) := cmpOp_Gt n 40
theorem encB32Cmp0 (n : Nat) : cmpAt Gen.encB32Cmp 0 n = decide (n > 0) := cmpOp_Gt n 0
theorem encB32Cmp1 (n : Nat) : cmpAt Gen.encB32Cmp 1 n = (n == 0) := cmpOp_Eq n 0

theorem shiftIn_eq_valBE (l : List Nat) : shiftIn 5 l = valBE 32 l := by
  simp [shiftIn, valBE, Nat.shiftLeft_eq]

/-! ### the checksum constant of a witness version -/

/-- bech32's checksum constant for witness version 0, bech32m's for the others (BIP350) -/
def constOf (v : Nat) : Nat := if v = 0 then Gen.b32VerifyConst else Gen.b32mVerifyConst

theorem constOf_lt (v : Nat) : constOf v < 2 ^ 30 := by
  unfold constOf; split <;> simp [Gen.b32VerifyConst, Gen.b32mVerifyConst]

/-- `decode_bech32` picks the verifier by the version: both compare with the version's constant -/
theorem verifyFor_eq (v : Nat) (l : List Nat) :
    (if cmpAt Gen.decB32Cmp 0 v then verifyChecksum l else verifyChecksumM l) = (polymod l == constOf v) := by
  rw [decB32Cmp0]
  unfold constOf
  by_cases h0 : v = 0 <;> simp [h0, verifyChecksum, verifyChecksumM]

/-! ### `str.split` on one character -/

/-- the `split` of the Python-string model, written out once more in the bech32 model -/
theorem splitChar_eq (c : Char) (s : Str) : splitChar c s = PyStr.split c s := by
  induction s with
  | nil => rfl
  | cons x xs ih =>
    rw [splitChar, PyStr.split, ih]
    split
    · rfl
    · cases PyStr.split c xs <;> rfl

theorem splitChar_mem_length (c : Char) (l : Str) (h : c ∈ l) : 2 ≤ (splitChar c l).length := by
  obtain ⟨a, b, rfl, _⟩ := List.eq_append_cons_of_mem h
  rw [splitChar_eq, PyStr.split_append, List.length_append]
  have := List.length_pos_iff.2 (PyStr.split_ne_nil c a)
  have := List.length_pos_iff.2 (PyStr.split_ne_nil c b)
  omega

/-- `hrp, raw_data = s.split("1")` for a string `pre ‖ "1" ‖ chars` that does not start with "bcrt" -/
theorem splitHrp_plain (pre chars : Str) (hpre : '1' ∉ pre)
    (hnp : List.isPrefixOf ['b', 'c', 'r', 't'] (pre ++ '1' :: chars) = false) :
    splitHrp (pre ++ '1' :: chars) = if '1' ∈ chars then none else some (pre, chars) := by
  unfold splitHrp
  rw [regtestPrefix_eq]
  simp only [hnp, Bool.false_eq_true, if_false, decSep_eq]
  rw [splitChar_eq, PyStr.split_append, PyStr.split_no_sep _ _ hpre, ← splitChar_eq]
  by_cases h1 : '1' ∈ chars
  · rw [if_pos h1]
    have hl := splitChar_mem_length '1' chars h1
    cases hs : splitChar '1' chars with
    | nil => rw [hs] at hl; simp at hl
    | cons p ps =>
      cases ps with
      | nil => rw [hs] at hl; simp at hl
      | cons q qs => rfl
  · rw [if_neg h1, splitChar_eq, PyStr.split_no_sep _ _ h1]
    rfl

theorem splitHrp_regtest (c : Char) (chars : Str) :
    splitHrp (['b', 'c', 'r', 't'] ++ c :: chars) = some (['b', 'c', 'r', 't'], chars) := by
  simp [splitHrp, regtestPrefix_eq, Gen.decB32RegtestSkip, List.isPrefixOf]

/-! ### what `encode_bech32_checksum` writes -/

/-- the opcode that opens a witness program of version `v`: OP_0, or OP_1 … OP_16 = 0x50 + `v` -/
def vbyte (v : Nat) : UInt8 := if v = 0 then 0 else UInt8.ofNat (0x50 + v)

/-- data part (values) of the address of version `v` and program `prog` under expanded prefix `hx` -/
def addrData (hx : List Nat) (v : Nat) (prog : Bytes) : List Nat := withChk hx (constOf v) (v :: group32 prog)

theorem addrData_lt (hx : List Nat) (v : Nat) (hv : v < 32) (prog : Bytes) (hne : prog ≠ []) :
    ∀ d ∈ addrData hx v prog, d < 32 := by
  obtain ⟨_, _, _, _, hg⟩ := group32_spec prog hne
  exact withChk_lt (List.forall_mem_cons.2 ⟨hv, hg⟩)

theorem polymod_addrData (hx : List Nat) (v : Nat) (prog : Bytes) : polymod (hx ++ addrData hx v prog) = constOf v :=
  polymod_withChk hx (constOf_lt v) _

theorem encodeBech32Checksum_built (net pre : Str) (hx : List Nat) (hp : prefixOf net = some pre) (hpne : pre ≠ [])
    (hhx : hrpExpand pre = some hx) (v : Nat) (hv : v ≤ 16) (prog : Bytes) (hne : prog ≠ []) (hlen : prog.length < 256) :
    encodeBech32Checksum (vbyte v :: UInt8.ofNat prog.length :: prog) net =
      some (pre ++ '1' :: (addrData hx v prog).map b32char) := by
  have hlb : (UInt8.ofNat prog.length).toNat = prog.length := by
    rw [UInt8.toNat_ofNat']; omega
  have hver : (if cmpAt Gen.encB32Cmp 0 (vbyte v).toNat then (vbyte v).toNat - Gen.encB32OpBase else (vbyte v).toNat) = v := by
    rw [encB32Cmp0]
    unfold vbyte
    by_cases h0 : v = 0
    · subst h0; simp
    · have hm : (80 + v) % 256 = 80 + v := Nat.mod_eq_of_lt (by omega)
      simp only [h0, if_false, UInt8.toNat_ofNat', Gen.encB32OpBase, hm, decide_eq_true_eq]
      split <;> omega
  have hchk : (if cmpAt Gen.encB32Cmp 1 v then createChecksum (hx ++ v :: group32 prog)
      else createChecksumM (hx ++ v :: group32 prog)) =
      chkDigits 5 5 31 6 (polymod (hx ++ (v :: group32 prog) ++ List.replicate 6 0) ^^^ constOf v) := by
    rw [encB32Cmp1]
    by_cases h0 : v = 0
    · subst h0; rfl
    · have : (v == 0) = false := by simpa using h0
      rw [this]
      simp only [Bool.false_eq_true, if_false, constOf, h0]
      rfl
  unfold encodeBech32Checksum
  rw [hp]
  simp only [hpne, if_false, hver, hlb, List.take_length, hhx, hchk]
  change Option.map _ (lookupAll alphabet (addrData hx v prog)) = _
  rw [lookupAll32 _ (addrData_lt hx v (by omega) prog hne), encSep_eq, Option.map_some, List.append_assoc]
  rfl

/-! ### what `decode_bech32` accepts -/

/-- `decode_bech32` after the split: the data characters are 5-bit values `v ‖ body ‖ six checksum
    symbols` whose checksum with the expanded prefix is the constant of `v`; the program is the
    value of `body` without its `5·|body| mod 8` padding bits, on `5·|body| div 8` bytes (2..40) -/
theorem decodeBody_eq_some_iff (hrp raw net : Str) (v : Nat) (prog : Bytes) :
    decodeBody hrp raw = some (net, v, prog) ↔
      netForPrefix hrp = some net ∧ net ≠ [] ∧
      ∃ hx dtail, hrpExpand hrp = some hx ∧ raw.mapM (fun c => indexOf? c alphabet) = some (v :: dtail) ∧
        polymod (hx ++ v :: dtail) = constOf v ∧ 6 ≤ dtail.length ∧
        natToBE (valBE 32 (dtail.take (dtail.length - 6)) >>> ((dtail.length - 6) * 5 % 8))
          ((dtail.length - 6) * 5 / 8) = some prog ∧
        2 ≤ (dtail.length - 6) * 5 / 8 ∧ (dtail.length - 6) * 5 / 8 ≤ 40 := by
  unfold decodeBody
  cases netForPrefix hrp with
  | none => exact ⟨fun h => (by cases h), fun h => nomatch h.1⟩
  | some n =>
    cases raw.mapM (fun c => indexOf? c alphabet) with
    | none => simp
    | some res =>
      cases hrpExpand hrp with
      | none => cases res <;> simp
      | some hx =>
        cases res with
        | nil => simp
        | cons w dtail =>
          have hbody : ((w :: dtail).take (dtail.length + 1 - 6)).drop 1 = dtail.take (dtail.length - 6) := by
            rw [List.drop_take, List.drop_succ_cons, List.drop_zero, show dtail.length + 1 - 6 - 1 = dtail.length - 6 by omega]
          simp only [verifyFor_eq, Gen.decB32Overhead, Gen.decB32Overhead2, Gen.decB32BodyCut, Gen.decB32BodyFrom,
            Gen.decB32Shl, Gen.decB32GroupBits, Gen.decB32ByteBits, Gen.decB32GroupBits2, Gen.decB32ByteBits2,
            shiftIn_eq_valBE, decB32Cmp1, decB32Cmp2, List.length_cons, hbody, or_self]
          rw [show dtail.length + 1 - 7 = dtail.length - 6 by omega]
          simp only [Option.some.injEq, List.cons.injEq, and_assoc, exists_and_left, exists_eq_left']
          generalize natToBE _ _ = o
          cases o with
          | none => simp
          | some hash =>
            -- every guard `if bad then none else …` of the chain is a conjunct `¬ bad`
            simp only [Option.ite_none_left_eq_some, Option.some.injEq, Prod.mk.injEq,
              Decidable.not_not, beq_iff_eq, decide_eq_true_eq, not_or, Nat.not_lt]
            constructor
            · rintro ⟨hne, hpm, h7, hcmp, rfl, rfl, rfl⟩
              exact ⟨rfl, hne, rfl, hpm, by omega, rfl, hcmp⟩
            · rintro ⟨rfl, hne, rfl, hpm, h6, rfl, hcmp⟩
              exact ⟨hne, hpm, by omega, hcmp, rfl, rfl, rfl⟩

/-! ### decoding a well-formed address -/

theorem decodeBody_built (pre net' : Str) (hx : List Nat) (hnf : netForPrefix pre = some net') (hne : net' ≠ [])
    (hhx : hrpExpand pre = some hx) (v : Nat) (hv : v < 32) (prog : Bytes)
    (hlen : 2 ≤ prog.length ∧ prog.length ≤ 40) :
    decodeBody pre ((addrData hx v prog).map b32char) = some (net', v, prog) := by
  have hpne : prog ≠ [] := by intro e; rw [e] at hlen; simp at hlen
  obtain ⟨pad, hpad, hglen, hgval, hg⟩ := group32_spec prog hpne
  refine (decodeBody_eq_some_iff ..).mpr ⟨hnf, hne, hx, (addrData hx v prog).tail, hhx,
    mapM_index_b32 _ (addrData_lt hx v hv prog hpne), polymod_addrData hx v prog, ?_⟩
  -- the body is `group32 prog`: 8·|prog| + pad bits, the value of `prog` shifted left by `pad`
  have hl : (addrData hx v prog).tail.length = (group32 prog).length + 6 := by
    rw [List.length_tail, addrData, withChk_length, List.length_cons]
    rfl
  have hb : (addrData hx v prog).tail.take (group32 prog).length = group32 prog := List.take_left' rfl
  rw [hl, Nat.add_sub_cancel, hb, hglen, Nat.mul_add_mod, Nat.mod_eq_of_lt (Nat.lt_trans hpad (by decide)),
    Nat.mul_add_div (by decide), Nat.div_eq_of_lt (Nat.lt_trans hpad (by decide)), Nat.add_zero, hgval,
    Nat.shiftRight_eq_div_pow, Nat.mul_div_cancel _ (Nat.pow_pos (by decide))]
  exact ⟨Nat.le_add_left 6 _, natToBE_beToNat prog, hlen⟩

/-! ### `decode_bech32` is the split, then `decodeBody` -/

theorem decodeBech32_some {s : Str} {r : Str × Nat × Bytes} (h : decodeBech32 s = some r) :
    ∃ hrp raw, splitHrp s = some (hrp, raw) ∧ decodeBody hrp raw = some r := by
  unfold decodeBech32 at h
  cases hs : splitHrp s with
  | none => rw [hs] at h; cases h
  | some p => rw [hs] at h; exact ⟨p.1, p.2, rfl, h⟩

/-! ### substituted characters -/

/-- the 5-bit value of a character (0 outside the alphabet); as a function of the character it
    commutes with `++` and `::`, so a string with substituted characters needs no case analysis -/
def b32index (c : Char) : Nat := (indexOf? c alphabet).getD 0

theorem b32index_of_some {c : Char} {d : Nat} (h : indexOf? c alphabet = some d) :
    b32index c = d ∧ d < 32 ∧ b32char d = c :=
  ⟨by rw [b32index, h, Option.getD_some], alphabet_length ▸ getD_of_indexOf? 'q' h⟩

theorem mapM_index_b32index {cs : Str} {res : List Nat} (h : cs.mapM (fun c => indexOf? c alphabet) = some res) :
    res = cs.map b32index ∧ ∀ c ∈ cs, b32index c < 32 ∧ b32char (b32index c) = c := by
  have hc : ∀ c ∈ cs, indexOf? c alphabet = some (b32index c) ∧ b32index c < 32 ∧ b32char (b32index c) = c :=
    fun c hc => by
      obtain ⟨d, _, e⟩ := List.mapM_some_mem_left h hc
      obtain ⟨e1, e2⟩ := b32index_of_some e
      rw [e1]
      exact ⟨e, e2⟩
  exact ⟨Option.some.inj (h.symm.trans (List.mapM_eq_some_map fun c hc' => (hc c hc').1)), fun c hc' => (hc c hc').2⟩

theorem decodeBody_values {hrp raw : Str} {r : Str × Nat × Bytes} (h : decodeBody hrp raw = some r) :
    ∃ hx, hrpExpand hrp = some hx ∧ (∀ c ∈ raw, b32index c < 32 ∧ b32char (b32index c) = c) ∧
      (raw.map b32index).head? = some r.2.1 ∧ polymod (hx ++ raw.map b32index) = constOf r.2.1 := by
  obtain ⟨_, _, hx, dtail, hhx, hm, hpm, _⟩ := (decodeBody_eq_some_iff ..).mp h
  obtain ⟨e, hc⟩ := mapM_index_b32index hm
  exact ⟨hx, hhx, hc, e ▸ rfl, e ▸ hpm⟩

theorem constOf_cases (v : Nat) : constOf v = Gen.b32VerifyConst ∨ constOf v = Gen.b32mVerifyConst := by
  unfold constOf; split
  · exact Or.inl rfl
  · exact Or.inr rfl

theorem constOf_xor {v v' : Nat} (h : constOf v ≠ constOf v') : constOf v ^^^ constOf v' = switchConst := by
  unfold switchConst
  rcases constOf_cases v with e1 | e1 <;> rcases constOf_cases v' with e2 | e2
  · exact absurd (e1.trans e2.symm) h
  · rw [e1, e2]
  · rw [e1, e2, Nat.xor_comm]
  · exact absurd (e1.trans e2.symm) h

/-- two data parts that agree before a position keep the checksum constant unless that position
    is the first (the witness version) and exactly one of the two symbols there is 0 -/
theorem constOf_head_eq {l t t' : List Nat} {a b v v' : Nat} (hv : (l ++ a :: t).head? = some v)
    (hv' : (l ++ b :: t').head? = some v') (hc : l ≠ [] ∨ (a = 0 ↔ b = 0)) : constOf v = constOf v' := by
  cases l with
  | nil =>
    cases Option.some.inj hv
    cases Option.some.inj hv'
    rcases hc with hc | hc
    · exact absurd rfl hc
    · unfold constOf
      by_cases h0 : a = 0
      · rw [if_pos h0, if_pos (hc.1 h0)]
      · rw [if_neg h0, if_neg (mt hc.2 h0)]
  | cons w l => rw [← Option.some.inj hv, ← Option.some.inj hv']

theorem b32index_eq_zero {c : Char} (hc : b32index c < 32 ∧ b32char (b32index c) = c) : b32index c = 0 ↔ c = 'q' := by
  constructor
  · intro e; rw [← hc.2, e, b32char_zero]
  · intro e; exact b32char_inj hc.1 (by omega) (by rw [hc.2, e, b32char_zero])

/-- one substituted character in the data part: refused.  If the character is the first one
    (the witness version) and the substitution switches between version 0 and another version,
    the checksum constant changes too and the statement needs at most 89 characters after it
    (an address has at most 90 characters in all). -/
theorem decodeBody_single_subst (hrp pre post : Str) (x y : Char) (hxy : x ≠ y) (r : Str × Nat × Bytes)
    (h : decodeBody hrp (pre ++ x :: post) = some r)
    (hcase : pre ≠ [] ∨ (x = 'q' ↔ y = 'q') ∨ post.length ≤ 89) :
    decodeBody hrp (pre ++ y :: post) = none := by
  cases h' : decodeBody hrp (pre ++ y :: post) with
  | none => rfl
  | some r' =>
    exfalso
    obtain ⟨hx, hhx, hc, hv, hpm⟩ := decodeBody_values h
    obtain ⟨hx', hhx', hc', hv', hpm'⟩ := decodeBody_values h'
    cases hhx.symm.trans hhx'
    have cx := hc x (by simp)
    have cy := hc' y (by simp)
    have hab : b32index x ≠ b32index y := fun e => hxy (by rw [← cx.2, e, cy.2])
    simp only [List.map_append, List.map_cons] at hv hv' hpm hpm'
    rw [← List.append_assoc] at hpm hpm'
    by_cases hconst : constOf r.2.1 = constOf r'.2.1
    · exact polymodFrom_single _ _ _ _ _ (by omega) (by omega) hab (hpm.trans (hconst.trans hpm'.symm))
    · have hhead := mt (constOf_head_eq hv hv') hconst
      have hsw := polymodFrom_single_switch Gen.polymodInit (hx ++ pre.map b32index) (post.map b32index) _ _
        cx.1 cy.1
      rcases hcase with hp | hq | hl
      · exact hhead (Or.inl (by simpa using hp))
      · exact hhead (Or.inr (by rw [b32index_eq_zero cx, b32index_eq_zero cy, hq]))
      · exact hsw (by simpa using hl) ((congrArg₂ _ hpm hpm').trans (constOf_xor hconst))

/-- two substituted characters in the data part: refused when the first of them is followed by at
    most 89 characters, or when they are at distance ≤ 89 and the checksum constant cannot change -/
theorem decodeBody_double_subst_gen (hrp pre mid post : Str) (x y x' y' : Char) (hxy : x ≠ y)
    (r : Str × Nat × Bytes) (h : decodeBody hrp (pre ++ x :: mid ++ x' :: post) = some r)
    (hcase : (mid.length < 89 ∧ (pre ≠ [] ∨ (x = 'q' ↔ y = 'q'))) ∨ mid.length + post.length + 1 ≤ 89) :
    decodeBody hrp (pre ++ y :: mid ++ y' :: post) = none := by
  cases h' : decodeBody hrp (pre ++ y :: mid ++ y' :: post) with
  | none => rfl
  | some r' =>
    exfalso
    obtain ⟨hx, hhx, hc, hv, hpm⟩ := decodeBody_values h
    obtain ⟨hx', hhx', hc', hv', hpm'⟩ := decodeBody_values h'
    cases hhx.symm.trans hhx'
    have cx := hc x (by simp)
    have cy := hc' y (by simp)
    have cx' := hc x' (by simp)
    have cy' := hc' y' (by simp)
    have hab : b32index x ≠ b32index y := fun e => hxy (by rw [← cx.2, e, cy.2])
    simp only [List.map_append, List.map_cons, List.append_assoc, List.cons_append] at hv hv' hpm hpm'
    rw [← List.append_assoc, ← List.cons_append, ← List.append_assoc] at hpm hpm'
    by_cases hconst : constOf r.2.1 = constOf r'.2.1
    · exact polymodFrom_double Gen.polymodInit _ (mid.map b32index) _ _ _ _ _ cx.1 cy.1 cx'.1 cy'.1 hab
        (by rcases hcase with hm | hm <;> simp <;> omega) (hpm.trans (hconst.trans hpm'.symm))
    · rcases hcase with ⟨_, hq⟩ | hl
      · refine hconst (constOf_head_eq hv hv' ?_)
        rcases hq with hp | hq
        · exact Or.inl (by simpa using hp)
        · exact Or.inr (by rw [b32index_eq_zero cx, b32index_eq_zero cy, hq])
      · exact polymodFrom_double_switch Gen.polymodInit _ (mid.map b32index) (post.map b32index) _ _ _ _
          cx.1 cy.1 cx'.1 cy'.1 (by simpa using hl) ((congrArg₂ _ hpm hpm').trans (constOf_xor hconst))

theorem decodeBody_double_subst (hrp pre mid post : Str) (x y x' y' : Char) (hxy : x ≠ y) (hxy' : x' ≠ y')
    (r : Str × Nat × Bytes) (h : decodeBody hrp (pre ++ x :: mid ++ x' :: post) = some r)
    (hmid : mid.length < 89) (hcase : pre ≠ [] ∨ (x = 'q' ↔ y = 'q')) :
    decodeBody hrp (pre ++ y :: mid ++ y' :: post) = none :=
  decodeBody_double_subst_gen hrp pre mid post x y x' y' hxy r h (Or.inl ⟨hmid, hcase⟩)

/-- ANY two substituted characters in the data part, the first followed by at most 89 characters
    (every address of at most 90 characters): refused -/
theorem decodeBody_double_subst_any (hrp pre mid post : Str) (x y x' y' : Char) (hxy : x ≠ y)
    (r : Str × Nat × Bytes) (h : decodeBody hrp (pre ++ x :: mid ++ x' :: post) = some r)
    (hlen : mid.length + post.length + 1 ≤ 89) :
    decodeBody hrp (pre ++ y :: mid ++ y' :: post) = none :=
  decodeBody_double_subst_gen hrp pre mid post x y x' y' hxy r h (Or.inr hlen)

/-! ### what an accepted string looks like -/

/-- no upper-case letter is in the alphabet the decoder looks characters up in (the code does not
    implement the all-upper-case form BIP173 allows) -/
theorem upper_not_in_alphabet (c : Char) (h1 : 'A' ≤ c) (h2 : c ≤ 'Z') : c ∉ Bech32.alphabet := by
  have hall : ∀ c ∈ Bech32.alphabet, ¬ ('A' ≤ c ∧ c ≤ 'Z') := by
    rw [alphabet, Gen.bech32Alphabet, String.toList_ofList]; decide +kernel
  exact fun hm => hall c hm ⟨h1, h2⟩

theorem decodeBody_chars {hrp raw : Str} {r : Str × Nat × Bytes} (h : decodeBody hrp raw = some r) :
    ∀ c ∈ raw, c ∈ Bech32.alphabet := by
  obtain ⟨_, _, hval, _⟩ := decodeBody_values h
  intro c hc
  rw [← (hval c hc).2]
  exact b32char_mem (hval c hc).1

theorem decodeBody_of_not_mem {hrp raw : Str} {c : Char} (hc : c ∈ raw) (hn : c ∉ Bech32.alphabet) :
    decodeBody hrp raw = none := by
  cases h : decodeBody hrp raw with
  | none => rfl
  | some r => exact absurd (decodeBody_chars h c hc) hn

theorem decodeBody_bounds {hrp raw : Str} {r : Str × Nat × Bytes} (h : decodeBody hrp raw = some r) :
    r.2.1 < 32 ∧ 2 ≤ r.2.2.length ∧ r.2.2.length ≤ 40 := by
  obtain ⟨_, _, hx, dtail, _, hm, _, _, hbe, hlen⟩ := (decodeBody_eq_some_iff ..).mp h
  exact ⟨(mapM_index_some hm).2 _ List.mem_cons_self, natToBE_length hbe ▸ hlen⟩

/-! ### `decode_bech32` on `prefix ‖ "1" ‖ chars` -/

/-- the data part is everything after the first "1", whatever it is: a second "1" makes `split` return three
    pieces, and is not in the alphabet either, so both sides refuse -/
theorem decodeBech32_plain (pre chars : Str) (hpre : '1' ∉ pre)
    (hnp : List.isPrefixOf ['b', 'c', 'r', 't'] (pre ++ '1' :: chars) = false) :
    decodeBech32 (pre ++ '1' :: chars) = decodeBody pre chars := by
  rw [decodeBech32, splitHrp_plain pre chars hpre hnp]
  by_cases h1 : '1' ∈ chars
  · rw [if_pos h1, decodeBody_of_not_mem h1 one_not_mem_alphabet]
  · rw [if_neg h1]

theorem decodeBech32_regtest (c : Char) (chars : Str) :
    decodeBech32 (['b', 'c', 'r', 't'] ++ c :: chars) = decodeBody ['b', 'c', 'r', 't'] chars := by
  rw [decodeBech32, splitHrp_regtest]

end Buidl.Bech32
