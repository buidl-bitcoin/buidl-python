/-
  PSBTIn.validate, PSBTOut.validate and PSBT.validate (Buidl.Model.PsbtCodec): the script templates
  they test for, what a successful run establishes — one record of the tests passed for an input map
  (`InValid`), per branch for an output map, per position for the input loop of PSBT.validate (of the
  output loop only that the lists are equally long); the refusals of Props/C10, C11 are contrapositives.
-/
import Buidl.Proofs.PsbtDict
import Buidl.Proofs.ListM
namespace Buidl.Psbt
open Buidl Buidl.Script

/-! ### script templates -/

theorem cmdIsOp_iff {c : Option Cmd} {n : Nat} : cmdIsOp c n = true ↔ c = some (.op n) := by
  simp [cmdIsOp]

theorem cmdIsPushLen_iff {c : Option Cmd} {n : Nat} :
    cmdIsPushLen c n = true ↔ ∃ h, c = some (.push h) ∧ h.length = n := by
  rcases c with _ | _ | h <;> simp [cmdIsPushLen]

/-- the shape `is_p2wpkh` (`k = 20`) and `is_p2wsh` (`k = 32`) test for -/
theorem witnessProgram_iff {l : List Cmd} {k : Nat} :
    (l.length == 2 && cmdIsOp l[0]? 0 && cmdIsPushLen l[1]? k) = true ↔ ∃ h, l = [.op 0, .push h] ∧ h.length = k := by
  rcases l with _ | ⟨a, _ | ⟨b, _ | ⟨c, t⟩⟩⟩
  · simp
  · simp
  · simp only [cmdIsOp_iff, cmdIsPushLen_iff, List.length_cons, List.length_nil, List.getElem?_cons_zero,
      List.getElem?_cons_succ, beq_self_eq_true, Bool.true_and, Bool.and_eq_true, Option.some.injEq, List.cons.injEq,
      and_true]
    exact ⟨fun ⟨ha, h, hb, hl⟩ => ⟨h, ⟨ha, hb⟩, hl⟩, fun ⟨h, ⟨ha, hb⟩, hl⟩ => ⟨ha, h, hb, hl⟩⟩
  · simp

theorem isP2wsh_iff (s : Script) :
    isP2wsh s = true ↔ ∃ h, s.cmds = [.op 0, .push h] ∧ h.length = 32 := witnessProgram_iff

theorem isP2wpkh_iff (s : Script) :
    isP2wpkh s = true ↔ ∃ h, s.cmds = [.op 0, .push h] ∧ h.length = 20 := witnessProgram_iff

theorem isP2sh_iff (s : Script) :
    isP2sh s = true ↔ ∃ h, s.cmds = [.op 0xA9, .push h, .op 0x87] ∧ h.length = 20 := by
  show (s.cmds.length == 3 && cmdIsOp s.cmds[0]? 0xA9 && cmdIsPushLen s.cmds[1]? 20 && cmdIsOp s.cmds[2]? 0x87) = true ↔ _
  rcases s.cmds with _ | ⟨a, _ | ⟨b, _ | ⟨c, _ | ⟨d, t⟩⟩⟩⟩
  · simp
  · simp
  · simp
  · simp only [cmdIsOp_iff, cmdIsPushLen_iff, List.length_cons, List.length_nil, List.getElem?_cons_zero,
      List.getElem?_cons_succ, beq_self_eq_true, Bool.true_and, Bool.and_eq_true, Option.some.injEq, List.cons.injEq,
      and_true]
    exact ⟨fun ⟨⟨ha, h, hb, hl⟩, hc⟩ => ⟨h, ⟨ha, hb, hc⟩, hl⟩, fun ⟨h, ⟨ha, hb, hc⟩, hl⟩ => ⟨⟨ha, h, hb, hl⟩, hc⟩⟩
  · simp

/-- used for the scripts `get_quorum` accepts: they end in an opcode -/
theorem not_witnessProgram_of_last_op {s : Script} {k : Nat} (h : s.cmds.getLast? = some (.op k)) :
    isWitnessProgram s = false := by
  cases hw : isWitnessProgram s with
  | false => rfl
  | true =>
    exfalso
    unfold isWitnessProgram at hw
    simp only [Bool.or_eq_true] at hw
    rcases hw with hw | hw
    · obtain ⟨b, hc, _⟩ := (isP2wpkh_iff s).mp hw
      rw [hc] at h
      simp at h
    · obtain ⟨b, hc, _⟩ := (isP2wsh_iff s).mp hw
      rw [hc] at h
      simp at h

theorem scriptSha256_eq {H : Hashes} {s : Script} {raw : Bytes} (h : rawOf s = some raw) :
    scriptSha256 H s = some (.push (H.sha256 raw)) := by
  rw [scriptSha256, h]; rfl

theorem scriptHash160_eq {H : Hashes} {s : Script} {raw : Bytes} (h : rawOf s = some raw) :
    scriptHash160 H s = some (.push (H.hash160 raw)) := by
  rw [scriptHash160, h]; rfl

theorem scriptSha256_of_isSome {H : Hashes} {s : Script} (h : (scriptSha256 H s).isSome = true) :
    ∃ raw, rawOf s = some raw ∧ scriptSha256 H s = some (.push (H.sha256 raw)) := by
  cases hraw : rawOf s with
  | none => rw [scriptSha256, hraw] at h; cases h
  | some raw => exact ⟨raw, rfl, scriptSha256_eq hraw⟩

theorem scriptHash160_of_isSome {H : Hashes} {s : Script} (h : (scriptHash160 H s).isSome = true) :
    ∃ raw, rawOf s = some raw ∧ scriptHash160 H s = some (.push (H.hash160 raw)) := by
  cases hraw : rawOf s with
  | none => rw [scriptHash160, hraw] at h; cases h
  | some raw => exact ⟨raw, rfl, scriptHash160_eq hraw⟩

theorem isP2wsh_cmds {s : Script} {x : Bytes} (hs : isP2wsh s = true) (hx : s.cmds[1]? = some (.push x)) :
    s.cmds = [.op 0, .push x] := by
  obtain ⟨h, hc, _⟩ := (isP2wsh_iff s).mp hs
  rw [hc] at hx ⊢
  cases hx; rfl

theorem isP2sh_cmds {s : Script} {x : Bytes} (hs : isP2sh s = true) (hx : s.cmds[1]? = some (.push x)) :
    s.cmds = [.op 0xA9, .push x, .op 0x87] := by
  obtain ⟨h, hc, _⟩ := (isP2sh_iff s).mp hs
  rw [hc] at hx ⊢
  cases hx; rfl

/-! ### what a successful `PSBTIn.validate` established -/

section ValidateIn
variable {Tx : Type} {H : Hashes} {C : TxCodec Tx} {txin : TxInV} {p : PIn Tx}

/-- what `PSBTIn.validate` tests, one field per test (the single-key tests of p2pkh / p2wpkh inputs apart).
    `l…`: no witness UTXO; `w…`: witness UTXO `po`, with `spk` what `script_pubkey()` returns. -/
structure InValid (H : Hashes) (C : TxCodec Tx) (txin : TxInV) (p : PIn Tx) : Prop where
  prevTx : ∀ {t}, p.prevTx = some t → C.hash t = some txin.prevTx ∧ txin.prevIndex < (C.outs t).length
  /-- F11d -/
  both : ∀ {t po}, p.prevTx = some t → p.prevOut = some po →
    ∃ utxo, (C.outs t)[txin.prevIndex]? = some utxo ∧ utxo.amount = po.amount ∧ utxo.spk.cmds = po.spk.cmds
  /-- F11g, first shape -/
  lWitness : ∀ {ws}, p.prevOut = none → p.witnessScript = some ws →
    ∃ spk, p.scriptPubkey C txin = some (some spk) ∧ isP2wsh spk = true ∧
      spk.cmds[1]? = scriptSha256 H ws ∧ (scriptSha256 H ws).isSome = true
  lRedeem : ∀ {r}, p.prevOut = none → p.redeem = some r →
    ∃ spk, p.scriptPubkey C txin = some (some spk) ∧ isP2sh spk = true ∧ (isP2wsh r || isP2wpkh r) = false ∧
      spk.cmds[1]? = scriptHash160 H r ∧ (scriptHash160 H r).isSome = true ∧ namedInScript p.namedPubs r = true
  wSpk : ∀ {po}, p.prevOut = some po →
    ∃ spk, p.scriptPubkey C txin = some (some spk) ∧ (isP2sh spk || isP2wsh spk || isP2wpkh spk) = true
  /-- F11f, and F11g second shape -/
  wRedeem : ∀ {po spk r}, p.prevOut = some po → p.scriptPubkey C txin = some (some spk) → p.redeem = some r →
    isP2sh spk = true ∧ isWitnessProgram r = true
  wWitness : ∀ {po spk ws}, p.prevOut = some po → p.scriptPubkey C txin = some (some spk) →
    p.witnessScript = some ws →
    (p.redeem = none → isP2wsh spk = true ∧ po.spk.cmds[1]? = scriptSha256 H ws) ∧
    (∀ r, p.redeem = some r → (isP2wsh spk || isP2wsh r) = true ∧ spk.cmds[1]? = scriptHash160 H r ∧
      (scriptHash160 H r).isSome = true ∧ r.cmds[1]? = scriptSha256 H ws) ∧
    (scriptSha256 H ws).isSome = true ∧ namedInScript p.namedPubs ws = true

/-- `PSBTIn.validate` elaborates to join points called from both arms of each optional test; they are named
    (`extract_lets`) and taken one at a time, so that no test is looked at in more than its own two cases -/
theorem validateIn_some (h : validateIn H C txin p = some ()) : InValid H C txin p := by
  unfold validateIn at h
  obtain ⟨ospk, hs, h⟩ := Option.bind_eq_some_iff.mp h
  extract_lets -underBinder jp1 at h
  have hPrev : jp1 () = some () ∧
      ∀ t, p.prevTx = some t → C.hash t = some txin.prevTx ∧ txin.prevIndex < (C.outs t).length := by
    rcases hpt : p.prevTx with _ | t <;> rw [hpt] at h
    · exact ⟨h, fun _ h => (nomatch h)⟩
    · obtain ⟨a, ha, h⟩ := Option.bind_eq_some_iff.mp h
      obtain ⟨_, h1, h⟩ := Option.bind_eq_some_iff.mp h
      obtain ⟨_, h2, h⟩ := Option.bind_eq_some_iff.mp h
      rw [req_eq_some_iff] at h1 h2
      exact ⟨h, fun _ e => by cases e; exact ⟨by rw [ha, eq_of_beq h1], of_decide_eq_true h2⟩⟩
  obtain ⟨h1, hPrev⟩ := hPrev
  rcases hpo : p.prevOut with _ | po <;> simp -zeta only [jp1, hpo] at h1
  · -- no witness UTXO
    extract_lets -underBinder jpr at h1
    have hW : jpr () = some () ∧ ∀ ws, p.witnessScript = some ws → ∃ spk, ospk = some spk ∧ isP2wsh spk = true ∧
        spk.cmds[1]? = scriptSha256 H ws ∧ (scriptSha256 H ws).isSome = true := by
      rcases hws : p.witnessScript with _ | ws <;> rw [hws] at h1
      · exact ⟨h1, fun _ h => (nomatch h)⟩
      · obtain ⟨spk, hspk, h1⟩ := Option.bind_eq_some_iff.mp h1
        obtain ⟨_, h2, h1⟩ := Option.bind_eq_some_iff.mp h1
        obtain ⟨wh, h3, h1⟩ := Option.bind_eq_some_iff.mp h1
        obtain ⟨_, h4, h1⟩ := Option.bind_eq_some_iff.mp h1
        rw [req_eq_some_iff] at h2 h4
        exact ⟨h1, fun _ e => by cases e; exact ⟨spk, hspk, h2, by rw [eq_of_beq h4, h3], by rw [h3]; rfl⟩⟩
    obtain ⟨hr', hW⟩ := hW
    refine ⟨fun hpt => hPrev _ hpt, fun _ e => (nomatch hpo.symm.trans e), fun _ hw => ?_, fun _ hr => ?_,
      fun e => (nomatch hpo.symm.trans e), fun e => (nomatch hpo.symm.trans e), fun e => (nomatch hpo.symm.trans e)⟩
    · obtain ⟨spk, rfl, hrest⟩ := hW _ hw
      exact ⟨spk, hs, hrest⟩
    · simp -zeta only [jpr, hr] at hr'
      obtain ⟨spk, hspk, k⟩ := Option.bind_eq_some_iff.mp hr'
      obtain ⟨_, h1, k⟩ := Option.bind_eq_some_iff.mp k
      obtain ⟨_, h2, k⟩ := Option.bind_eq_some_iff.mp k
      obtain ⟨h160, h3, k⟩ := Option.bind_eq_some_iff.mp k
      obtain ⟨rh, h4, k⟩ := Option.bind_eq_some_iff.mp k
      obtain ⟨_, h5, h6⟩ := Option.bind_eq_some_iff.mp k
      rw [req_eq_some_iff] at h1 h2 h5 h6
      exact ⟨spk, by rw [hs, hspk], h1, by simpa using h2, by rw [h3, h4, eq_of_beq h5], by rw [h4]; rfl, h6⟩
  · -- witness UTXO `po`
    obtain ⟨spk, hspk, h1⟩ := Option.bind_eq_some_iff.mp h1
    rw [hspk] at hs
    -- innermost first; `ospk` is not substituted before this: `extract_lets` would find nothing to do
    extract_lets jp4 jp3 jp2 at h1
    have hBoth : jp2 () = some () ∧ ∀ t, p.prevTx = some t →
        ∃ utxo, (C.outs t)[txin.prevIndex]? = some utxo ∧ utxo.amount = po.amount ∧ utxo.spk.cmds = po.spk.cmds := by
      rcases hpt : p.prevTx with _ | t <;> rw [hpt] at h1
      · exact ⟨h1, fun _ h => (nomatch h)⟩
      · obtain ⟨utxo, hu, h1⟩ := Option.bind_eq_some_iff.mp h1
        obtain ⟨_, he, h1⟩ := Option.bind_eq_some_iff.mp h1
        simp only [req_eq_some_iff, Bool.and_eq_true, beq_iff_eq] at he
        exact ⟨h1, fun _ e => by cases e; exact ⟨utxo, hu, he⟩⟩
    obtain ⟨h2, hBoth⟩ := hBoth
    simp -zeta only [jp2] at h2
    obtain ⟨_, hcls, h2⟩ := Option.bind_eq_some_iff.mp h2
    -- F11f and F11g test the same RedeemScript: one case split for both
    have hFG : jp4 () = some () ∧ ∀ r, p.redeem = some r → isP2sh spk = true ∧ isWitnessProgram r = true := by
      rcases hr : p.redeem with _ | r <;> simp -zeta only [hr, jp3] at h2
      · exact ⟨h2, fun _ h => (nomatch h)⟩
      · obtain ⟨_, h3, h2⟩ := Option.bind_eq_some_iff.mp h2
        obtain ⟨_, h4, h2⟩ := Option.bind_eq_some_iff.mp h2
        rw [req_eq_some_iff] at h3 h4
        exact ⟨h2, fun _ e => by cases e; exact ⟨h4, by simpa [h4] using h3⟩⟩
    obtain ⟨h4, hFG⟩ := hFG
    refine ⟨fun hpt => hPrev _ hpt, fun hpt e => (by cases hpo.symm.trans e; exact hBoth _ hpt), fun e => (nomatch hpo.symm.trans e),
      fun e => (nomatch hpo.symm.trans e),
      fun _ => ⟨spk, hs, (req_eq_some_iff _ _).mp hcls⟩, fun _ hs' hr => ?_, @fun _ _ ws e hs' hws => ?_⟩
    · cases hs.symm.trans hs'
      exact hFG _ hr
    · cases hs.symm.trans hs'; cases hpo.symm.trans e
      simp -zeta only [jp4, hws] at h4
      obtain ⟨_, h5, h4⟩ := Option.bind_eq_some_iff.mp h4
      extract_lets -underBinder jps at h4
      have tail : ∀ s256, jps s256 = some () → scriptSha256 H ws = some s256 ∧ namedInScript p.namedPubs ws = true := by
        intro s256 hj
        obtain ⟨wh, h6, hj⟩ := Option.bind_eq_some_iff.mp hj
        obtain ⟨_, h7, h8⟩ := Option.bind_eq_some_iff.mp hj
        rw [req_eq_some_iff] at h7 h8
        exact ⟨by rw [h6, eq_of_beq h7], h8⟩
      rw [req_eq_some_iff] at h5
      rcases hr : p.redeem with _ | r <;> simp -zeta only [hr] at h4 h5
      · obtain ⟨s256, hs2, h4⟩ := Option.bind_eq_some_iff.mp h4
        obtain ⟨ht1, ht2⟩ := tail s256 h4
        rw [Bool.or_false] at h5
        exact ⟨fun _ => ⟨h5, hs2.trans ht1.symm⟩, fun _ h => (nomatch h), by rw [ht1]; rfl, ht2⟩
      · obtain ⟨h160, h6, h4⟩ := Option.bind_eq_some_iff.mp h4
        obtain ⟨rh, h7, h4⟩ := Option.bind_eq_some_iff.mp h4
        obtain ⟨_, h8, h4⟩ := Option.bind_eq_some_iff.mp h4
        obtain ⟨s256, h9, h4⟩ := Option.bind_eq_some_iff.mp h4
        obtain ⟨ht1, ht2⟩ := tail s256 h4
        refine ⟨fun h => (nomatch h), fun _ e => ?_, by rw [ht1]; rfl, ht2⟩
        cases e
        exact ⟨h5, by rw [h6, h7, eq_of_beq ((req_eq_some_iff _ _).mp h8)], by rw [h7]; rfl, by rw [h9, ht1]⟩

/-- with a witness UTXO, the scriptPubKey `PSBTIn.script_pubkey()` returns has the witness UTXO's commands
    (it is the witness UTXO's, or — F11d — the matching output of the non-witness UTXO) -/
theorem InValid.spk_cmds {po : TxOutV} {spk : Script} (V : InValid H C txin p) (hpo : p.prevOut = some po)
    (hs : p.scriptPubkey C txin = some (some spk)) : spk.cmds = po.spk.cmds := by
  cases hpt : p.prevTx with
  | none =>
    simp only [PIn.scriptPubkey, hpt, hpo, Option.some.injEq] at hs
    rw [← hs]
  | some t =>
    obtain ⟨utxo, hu, _, hc⟩ := V.both hpt hpo
    simp only [PIn.scriptPubkey, hpt, hu, Option.some.injEq] at hs
    rw [← hs, hc]

end ValidateIn

/-! ### what a successful `PSBTOut.validate` established -/

theorem validateOut_redeem_only {H : Hashes} {spk : Script} {po : POut} {r : Script}
    (hw : po.witnessScript = none) (hr : po.redeem = some r) (h : validateOut H spk po = some ()) :
    isP2sh spk = true ∧ spk.cmds[1]? = scriptHash160 H r ∧ (scriptHash160 H r).isSome = true := by
  unfold validateOut at h
  by_cases h1 : isP2pkh spk = true
  · simp [h1, hr, req] at h
  by_cases h2 : isP2wpkh spk = true
  · simp [h1, h2, hr, req] at h
  simp only [h1, h2, hw, hr, if_false, Bool.false_eq_true, Option.bind_eq_bind, Option.bind_eq_some_iff,
    req_eq_some_iff, exists_const, beq_iff_eq] at h
  obtain ⟨hsh, rh, hrh, heq, _⟩ := h
  exact ⟨hsh, by rw [heq, hrh], by simp [hrh]⟩

theorem validateOut_witness {H : Hashes} {spk : Script} {po : POut} {ws : Script}
    (hw : po.witnessScript = some ws) (h : validateOut H spk po = some ()) :
    (po.redeem = none → isP2wsh spk = true ∧ spk.cmds[1]? = scriptSha256 H ws) ∧
    (∀ r, po.redeem = some r → (isP2wsh spk || (isP2sh spk && isP2wsh r)) = true ∧
      spk.cmds[1]? = scriptHash160 H r ∧ (scriptHash160 H r).isSome = true ∧ r.cmds[1]? = scriptSha256 H ws) ∧
    (scriptSha256 H ws).isSome = true ∧ namedInScript po.namedPubs ws = true := by
  unfold validateOut at h
  by_cases h1 : isP2pkh spk = true
  · simp [h1, hw, req] at h
  by_cases h2 : isP2wpkh spk = true
  · simp [h1, h2, hw, req] at h
  cases hr : po.redeem <;>
    simp only [h1, h2, hw, hr, if_false, Bool.false_eq_true, Option.bind_eq_bind, Option.bind_eq_some_iff,
      req_eq_some_iff, exists_const, beq_iff_eq] at h <;> grind

/-! ### `PSBT.validate`: one map per input / output -/

/-- with a UTXO in the input map every stored signature passed `check_sig_segwit` (witness UTXO) or
    `check_sig_legacy` (non-witness UTXO only) -/
theorem sigsOK_sigOK {Tx : Type} {O : Oracles} {i : Nat} {p : PIn Tx} (h : sigsOK O i p = true)
    (hutxo : p.prevOut.isSome = true ∨ p.prevTx.isSome = true) {e : Bytes × Bytes} (he : e ∈ p.sigs) :
    O.sigOK p.prevOut.isSome i e.1 e.2 = true := by
  have h2 := (Bool.and_eq_true_iff.mp (List.all_eq_true.mp h e he)).2
  cases h1 : p.prevOut.isSome with
  | true => rwa [h1, if_pos rfl] at h2
  | false =>
    rwa [h1, if_neg Bool.false_ne_true, if_pos (hutxo.resolve_left fun h => Bool.false_ne_true (h1.symm.trans h))] at h2

theorem validateInsLoop_some {Tx : Type} (H : Hashes) (C : TxCodec Tx) (O : Oracles) (hd : Dict HdPub) :
    ∀ (i0 : Nat) (txins : List TxInV) (ps : List (PIn Tx)), validateInsLoop H C O hd i0 txins ps = some () →
      txins.length = ps.length ∧
      ∀ (j : Nat) (txin : TxInV) (p : PIn Tx), txins[j]? = some txin → ps[j]? = some p →
        validateIn H C txin p = some () ∧ txin.scriptSigEmpty = true ∧
        (p.scriptSig.isSome = true → O.verifyOK (i0 + j) p.scriptSig p.witness = true) ∧
        sigsOK O (i0 + j) p = true ∧ allNamedDeriveOK O hd p.namedPubs = true
  | _, [], [], _ => ⟨rfl, fun j txin p h => by simp at h⟩
  | _, [], _ :: _, h => by simp [validateInsLoop] at h
  | _, _ :: _, [], h => by simp [validateInsLoop] at h
  | i0, txin :: tr, p :: pr, h => by
    rw [validateInsLoop] at h
    obtain ⟨_, h1, h⟩ := Option.bind_eq_some_iff.mp h
    obtain ⟨_, h2, h⟩ := Option.bind_eq_some_iff.mp h
    extract_lets rest at h
    obtain ⟨hv, h⟩ := optReq_bind_eq_some_iff.mp h
    simp only [rest, Option.bind_eq_bind, Option.bind_eq_some_iff, req_eq_some_iff, exists_const] at h h2
    obtain ⟨h4, h5, h⟩ := h
    obtain ⟨hl, ih⟩ := validateInsLoop_some H C O hd (i0 + 1) tr pr h
    refine ⟨by rw [List.length_cons, List.length_cons, hl], List.forall_getElem?_cons₂.2 ⟨⟨h1, h2, hv, h4, h5⟩, ?_⟩⟩
    intro j txin' p' hj hp
    rw [show i0 + (j + 1) = i0 + 1 + j by omega]
    exact ih j txin' p' hj hp

theorem validate_eq_some_iff {Tx : Type} {H : Hashes} {C : TxCodec Tx} {O : Oracles} {p : Psbt Tx} :
    p.validate H C O = some () ↔ validateInsLoop H C O p.hdPubs 0 (C.ins p.tx) p.ins = some () ∧
      validateOutsLoop H O p.hdPubs (C.outs p.tx) p.outs = some () := by
  unfold Psbt.validate
  cases validateInsLoop H C O p.hdPubs 0 (C.ins p.tx) p.ins <;> simp

theorem validateOutsLoop_length {H : Hashes} {O : Oracles} {hd : Dict HdPub} :
    ∀ (outs : List TxOutV) (pouts : List POut), validateOutsLoop H O hd outs pouts = some () →
      outs.length = pouts.length
  | [], [], _ => rfl
  | [], _ :: _, h => by simp [validateOutsLoop] at h
  | _ :: _, [], h => by simp [validateOutsLoop] at h
  | o :: tr, p :: pr, h => by
    rw [validateOutsLoop] at h
    simp only [Option.bind_eq_bind, Option.bind_eq_some_iff] at h
    obtain ⟨_, _, _, _, hrest⟩ := h
    rw [List.length_cons, List.length_cons, validateOutsLoop_length tr pr hrest]

end Buidl.Psbt
