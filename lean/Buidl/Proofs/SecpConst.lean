/-
  Buidl.Proofs.SecpConst — size facts about the secp256k1 constants (Buidl.Gen.Ecc) and the 32-byte
  x-only encoding (its length, when two of them agree, that it undoes `parse_xonly`), for every file that
  serialises scalars or coordinates, with or without the curve development; and `smul_zero`, which holds by
  computation on the model and is used on both sides of that boundary.  No Mathlib.
-/
import Buidl.Model.EC
import Buidl.Proofs.Bytes

namespace Buidl.EC
open Buidl

theorem N_pos : 0 < N := by decide

theorem N_lt_2_256 : N < 256 ^ 32 := by decide

theorem P_lt_2_256 : P < 256 ^ 32 := by decide

theorem smul_zero (Q : Pt) : smul 0 Q = .inf := by
  unfold smul pmul
  simp [pmulAux]

theorem xonly_length (Q : Pt) : (xonly Q).length = 32 := by cases Q <;> exact natToBE'_length 32 _

theorem xonly_aff_eq_iff {x x' y y' : Nat} (hx : x < P) (hx' : x' < P) :
    xonly (.aff x y) = xonly (.aff x' y') ↔ x = x' := by
  refine ⟨fun h => ?_, fun h => by rw [h]; rfl⟩
  have := congrArg beToNat h
  rwa [xonly, xonly, beToNat_natToBE' (Nat.lt_trans hx P_lt_2_256),
    beToNat_natToBE' (Nat.lt_trans hx' P_lt_2_256)] at this

theorem mkPoint_eq_some {x y : Nat} {Q : Pt} (h : mkPoint x y = some Q) : Q = .aff x y := by
  unfold mkPoint at h
  split at h
  · exact (Option.some.inj h).symm
  · cases h

/-- whatever `parse_xonly` returns carries the integer it read as its x-only encoding (zero for the point at
    infinity): the constructor keeps the abscissa it is given, no arithmetic of the curve is involved -/
theorem xonly_parseXonly_int {b : Bytes} {R : Pt} (h : parseXonly b = some R) :
    xonly R = natToBE' 32 (beToNat b) := by
  unfold parseXonly at h
  dsimp only at h
  split at h
  · next h0 => cases h; exact congrArg (natToBE' 32) h0.symm
  · split at h
    · cases h
    · split at h
      · cases h
      · split at h <;> rw [mkPoint_eq_some h] <;> rfl

theorem xonly_of_parseXonly {rb : Bytes} (hl : rb.length = 32) {R : Pt} (h : parseXonly rb = some R) :
    xonly R = rb :=
  (xonly_parseXonly_int h).trans (natToBE'_beToNat_of_length hl)

end Buidl.EC
