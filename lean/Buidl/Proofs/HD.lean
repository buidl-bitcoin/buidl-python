/-
  Buidl.Proofs.HD — the facts about secp256k1 and the Base58Check round trip that the C08 theorems of
  Buidl.Proofs.HDPath are stated relative to, discharged from Buidl.Proofs.Secp256k1 / SecpCodec (C03) and
  Buidl.Proofs.Base58 (C09); from them, one derivation step against Buidl.Spec.BIP32 (`*_child_eq_spec_at`) and its
  public / private consistency, also along a whole path.
-/
import Buidl.Proofs.HDPath
import Buidl.Proofs.Secp256k1
import Buidl.Proofs.SecpCodec
import Buidl.Proofs.Base58
namespace Buidl.HD
open Buidl Buidl.EC

attribute [local irreducible] pmul

theorem smul_G_valid (k : Int) : Valid P A B (smul k G) := smul_valid G_valid k

theorem groupAdd : GroupAdd := by
  intro a b
  have h1 : (((a + b) % N : Nat) : Int) = ((a : Int) + (b : Int)) % (N : Int) := by
    push_cast; rfl
  rw [h1, smul_emod, ← smul_add G_tors, sadd_comm (smul_G_valid _) (smul_G_valid _)]

theorem sec_roundtrip {Q : Pt} (hQ : Valid P A B Q) (s : Bytes) (h : sec Q true = some s) :
    s.length = 33 ∧ parsePoint s = some Q :=
  ⟨by simpa using sec_length h, parsePoint_sec hQ true h⟩

theorem sec_smul_G_isSome {k : Nat} (h1 : 1 ≤ k) (h2 : k < N) : (sec (smul (k : Int) G) true).isSome := by
  cases h : smul (k : Int) G with
  | inf => exact absurd h (smul_G_ne_inf h1 h2)
  | aff x y => simp [sec]

theorem b58RoundTrip (hash256 : Bytes → Bytes) (hh : ∀ b, 4 ≤ (hash256 b).length) : B58RoundTrip hash256 :=
  Base58.rawDecodeBase58_encodeBase58Checksum hash256 hh

theorem xpub_chars (hash256 : Bytes → Bytes) {p : HDPub} {v : Option Bytes} {x : PyStr.Str}
    (h : p.xpub hash256 v = some x) : x ≠ [] ∧ ∀ c ∈ x, c ∈ Base58.alphabet := by
  simp only [HDPub.xpub, Option.bind_eq_bind, Option.bind_eq_some_iff] at h
  obtain ⟨raw, -, henc⟩ := h
  exact ⟨Base58.encodeBase58_ne_nil henc, Base58.encodeBase58_chars henc⟩

/-! ## one step against the BIP32 text

  `I_L < n` (and `K_i ≠ ∞` on the public side) are assumed for the HMAC input of this step only. -/

section spec
open Buidl.PyStr
variable (hmac : Bytes → Bytes → Bytes) (h160 : Bytes → Bytes)

theorem priv_child_eq_spec_at (k : HDPriv) (i : Nat) (hs1 : 1 ≤ k.secret) (hs : k.secret < N) (hi : i < 2 ^ 32)
    (hIL : ∀ d, k.childData i = some d → beToNat ((hmac k.chainCode d).take 32) < Spec.BIP32.n) :
    (k.child hmac h160 i).map (fun k' => (k'.secret, k'.chainCode))
      = (Spec.BIP32.CKDpriv hmac k.secret k.chainCode i).bind Spec.BIP32.Result.toOption := by
  obtain ⟨spt, hspt⟩ := Option.isSome_iff_exists.mp (sec_smul_G_isSome hs1 hs)
  have hfp : HDPriv.fingerprint h160 k = some ((h160 spt).take Gen.hdFingerprintW) := by
    simp [HDPriv.fingerprint, HDPub.fingerprint, HDPriv.pub, hspt]
  rw [spec_n_eq] at hIL
  rw [HDPriv.child]
  unfold Spec.BIP32.CKDpriv
  rw [← priv_childData_eq_spec k i hs hi]
  cases hd : k.childData i with
  | none => rfl
  | some d =>
    have hil := hIL d hd
    have hlt : (beToNat (List.take 32 (hmac k.chainCode d)) + k.secret) % N < N := Nat.mod_lt _ N_pos
    simp only [Option.bind_some, Option.map_some, HDPriv.childFromData, hfp, Spec.BIP32.parse256, Spec.BIP32.IL,
      Spec.BIP32.IR, spec_n_eq, Gen.hdPrivChildKeyHi, Gen.hdPrivChildChainLo, mkSecret_eq]
    -- both sides are an `if` on the child key: the code's `1 ≤ k_i < n` against the BIP's `I_L ≥ n ∨ k_i = 0`
    by_cases hz : (beToNat (List.take 32 (hmac k.chainCode d)) + k.secret) % N = 0
    · rw [if_neg (by omega), if_pos (Or.inr hz)]
      rfl
    · rw [if_pos ⟨by omega, hlt⟩, if_neg (by omega)]
      rfl

theorem pub_child_eq_spec_at (p : HDPub) (i : Nat) (hp : Valid P A B p.point)
    (hIL : ∀ sp, Spec.BIP32.serP p.point = some sp →
      beToNat ((hmac p.chainCode (sp ++ Spec.BIP32.ser32 i)).take 32) < Spec.BIP32.n)
    (hK : ∀ sp, Spec.BIP32.serP p.point = some sp →
      saddInt p.point ((beToNat ((hmac p.chainCode (sp ++ Spec.BIP32.ser32 i)).take 32) : Nat) : Int) ≠ .inf) :
    (p.child hmac h160 i).map (fun q => (q.point, q.chainCode))
      = (Spec.BIP32.CKDpub hmac p.point p.chainCode i).bind Spec.BIP32.Result.toOption := by
  unfold Spec.BIP32.CKDpub
  rw [HDPub.child_eq]
  by_cases h : i ≥ 2 ^ 31
  · rw [if_pos h, if_pos h]
    rfl
  · rw [if_neg h, if_neg h]
    have h4 : i < 256 ^ 4 := Nat.lt_trans (Nat.lt_of_not_le h) (by decide)
    simp only [childHmac, natToBE_some h4, Option.bind_some, HDPub.fingerprint, sec_eq_serP]
    cases hsp : Spec.BIP32.serP p.point with
    | none => rfl
    | some sp =>
      have hil := hIL sp hsp
      have hk := hK sp hsp
      simp only [Spec.BIP32.ser32, saddInt] at hil hk
      simp only [Option.bind_some, Option.map_some, HDPub.childOf, Spec.BIP32.ser32, Spec.BIP32.parse256,
        Spec.BIP32.IL, Spec.BIP32.IR, Spec.BIP32.point, saddInt, sadd_comm (smul_G_valid _) hp]
      rw [if_neg (by
        rintro (h | h)
        · omega
        · exact hk h)]
      rfl

end spec

/-! ## public / private consistency -/

section consistency
open Buidl.PyStr
variable (hmac : Bytes → Bytes → Bytes) (h160 : Bytes → Bytes)

/-- the private side refuses (child key 0) exactly when the public child is the point at infinity -/
theorem child_map_pub (k : HDPriv) {i : Nat} (hi : i < 2 ^ 31) :
    (k.child hmac h160 i).map HDPriv.pub
      = (k.pub.child hmac h160 i).bind fun q => if q.point = .inf then none else some q := by
  rw [HDPriv.child_of_lt hmac h160 k hi, HDPub.child_eq, if_neg (by omega)]
  cases childHmac hmac h160 k.pub i with
  | none => rfl
  | some hf =>
    -- `I_L·G + k·G = ((I_L + k) mod N)·G`, and a multiple of `G` below `N` is at infinity only for 0
    have hp : (k.pub.childOf i hf).point = smul (((beToNat (hf.1.take 32) + k.secret) % N : Nat) : Int) G :=
      (groupAdd _ _).symm
    have hlt : (beToNat (hf.1.take 32) + k.secret) % N < N := Nat.mod_lt _ N_pos
    simp only [Option.bind_some, Option.map_some, mkSecret_eq]
    by_cases h0 : (beToNat (hf.1.take 32) + k.secret) % N = 0
    · have hinf : (k.pub.childOf i hf).point = .inf := by
        rw [hp, h0]
        exact (smul_G_eq_inf_iff _).mpr (Int.dvd_zero _)
      rw [if_neg (by omega), if_pos hinf]
      rfl
    · rw [if_pos ⟨by omega, hlt⟩, if_neg (by rw [hp]; exact smul_G_ne_inf (by omega) hlt)]
      simp only [Option.map_some, HDPriv.pub, HDPriv.childOf, HDPub.childOf, saddInt]
      rw [groupAdd]

theorem child_pub_consistent (k k' : HDPriv) (i : Nat) (hi : i < 2 ^ 31) (h : k.child hmac h160 i = some k') :
    k.pub.child hmac h160 i = some k'.pub := by
  have e := child_map_pub hmac h160 k hi
  rw [h] at e
  obtain ⟨q, hq, hif⟩ := Option.bind_eq_some_iff.mp e.symm
  split at hif
  · cases hif
  · rw [hq, ← Option.some.inj hif]

theorem priv_pub_walk_consistent (cs : List Str) (k k' : HDPriv) (q : HDPub)
    (hk : k.walk hmac h160 cs = some k') (hq : k.pub.walk hmac h160 cs = some q) : q = k'.pub := by
  induction cs generalizing k with
  | nil =>
    simp only [HDPriv.walk, HDPub.walk] at hk hq
    cases hk
    cases hq
    rfl
  | cons c cs ih =>
    simp only [HDPub.walk, Option.bind_eq_bind, Option.bind_eq_some_iff] at hq
    obtain ⟨i, hi, q1, hq1, hq⟩ := hq
    rw [HDPub.childI_eq] at hq1
    split at hq1
    · next hr =>
      simp only [HDPriv.walk, pubIndex_some hi, Option.bind_eq_bind, Option.bind_some, HDPriv.childI_eq,
        if_neg (show ¬ i < 0 by omega), Option.bind_eq_some_iff] at hk
      obtain ⟨k1, hk1, hk⟩ := hk
      rw [child_pub_consistent hmac h160 k k1 i.toNat (by omega) hk1] at hq1
      cases hq1
      exact ih k1 hk hq
    · cases hq1

end consistency

end Buidl.HD
