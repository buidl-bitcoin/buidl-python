/-
  Buidl.Proofs.RS1024 — the SLIP39 checksum (`rs1024_polymod`) is an `XorChecksum` on a 30-bit register:
  `rsStep s v = L(s) ^ v` with `L(s) = ((s & 0xFFFFF) << 10) ^ G(s >> 20)`, `G(b)` being the XOR combination of the
  generated `GEN` selected by the bits of `b`.  The low ten bits of the ten constants are linearly independent
  (one Gaussian elimination in the kernel), so `L` has trivial kernel on 30-bit states; hence
    * a wrong word adds an error `E ≠ 0` to the state that no later step removes: any single-word error changes
      the polymod (and is rejected),
    * `rs1024_create_checksum` produces words that verify.
-/
import Buidl.Model.Shamir
import Buidl.Proofs.XorChecksum
namespace Buidl.Shamir
open Buidl Buidl.XorChecksum

/-! ## the polymod step -/

def rsGens : List Nat := Gen.rs1024Gen.take Gen.rsGenCount

/-- the XOR of the generator constants selected by the bits of `b` -/
def rsG (b : Nat) : Nat := rsMix b rsGens 0 0

/-- the linear part of one polymod step -/
def rsL (s : Nat) : Nat := ((s &&& Gen.rsLowMask) <<< Gen.rsWordBits) ^^^ rsG (s >>> Gen.rsTopShift)

theorem rsMix_eq (b : Nat) : ∀ (gs : List Nat) (i chk : Nat), rsMix b gs i chk = chk ^^^ combo gs (b >>> i)
  | [], _, chk => (Nat.xor_zero chk).symm
  | g :: gs, i, chk => by
    rw [rsMix, rsMix_eq b gs, combo, ← Nat.shiftRight_succ, Nat.and_one_is_mod, ← Nat.xor_assoc]
    congr 1
    rcases Nat.mod_two_eq_zero_or_one (b >>> i) with h | h <;> simp [h]

theorem rsG_eq (b : Nat) : rsG b = combo rsGens b := by
  rw [rsG, rsMix_eq, Nat.zero_xor, Nat.shiftRight_zero]

theorem rsStep_eq (chk v : Nat) : rsStep chk v = rsL chk ^^^ v := by
  rw [rsStep, rsL, rsG_eq]
  exact (rsMix_eq _ rsGens 0 _).trans (by rw [Nat.shiftRight_zero]; ac_rfl)

theorem rsL_shiftMix (s : Nat) : rsL s = shiftMix 10 20 rsGens s := by
  rw [rsL, rsG_eq, shiftMix, ← Nat.and_two_pow_sub_one_eq_mod s 20]

theorem checksum : XorChecksum rsStep (shiftMix 10 20 rsGens) 30 :=
  of_gens (fun c v => by rw [rsStep_eq, rsL_shiftMix]) (by decide) (by decide +kernel)

/-! ## powers of `L` (reading zeros) and high parts, for the two- and three-error checks -/

def rsLpow : Nat → Nat → Nat
  | 0, d => d
  | n + 1, d => rsLpow n (rsL d)

theorem rsLpow_eq_zeros : ∀ (n d : Nat), rsLpow n d = (List.replicate n 0).foldl rsStep d
  | 0, _ => rfl
  | n + 1, d => by rw [rsLpow, rsLpow_eq_zeros n, checksum.zeros_succ, rsL_shiftMix]

theorem rsLpow_add (m n d : Nat) : rsLpow (m + n) d = rsLpow n (rsLpow m d) := by
  rw [rsLpow_eq_zeros, rsLpow_eq_zeros, rsLpow_eq_zeros, zeros_add]

theorem rsLpow_succ' (n d : Nat) : rsLpow (n + 1) d = rsL (rsLpow n d) := rsLpow_add n 1 d

theorem rsLpow_xor (n a b : Nat) : rsLpow n (a ^^^ b) = rsLpow n a ^^^ rsLpow n b := by
  rw [rsLpow_eq_zeros, rsLpow_eq_zeros, rsLpow_eq_zeros]
  exact checksum.zeros_xor n a b

theorem rsLpow_lt (n d : Nat) (hd : d < 2 ^ 30) : rsLpow n d < 2 ^ 30 := by
  rw [rsLpow_eq_zeros]
  exact checksum.zeros_lt n hd

def basisAt (g : Nat) : List Nat := (List.range 10).map fun j => rsLpow g (2 ^ j)

def hi (x : Nat) : Nat := x >>> 10

theorem hi_xor (a b : Nat) : hi (a ^^^ b) = hi a ^^^ hi b := Nat.shiftRight_xor_distrib

theorem hi_eq_zero_iff (x : Nat) : hi x = 0 ↔ x < 1024 := by
  rw [hi, Nat.shiftRight_eq_div_pow]
  exact Nat.div_eq_zero_iff_lt (by decide)

/-- a combination of rows whose high parts are independent is below 1024 only if it is trivial -/
theorem combo_lt_1024 {ws : List Nat} {n : Nat} (hinj : ∀ d, d < 2 ^ n → combo (ws.map hi) d = 0 → d = 0)
    {d : Nat} (hd : d < 2 ^ n) (hlow : combo ws d < 1024) : d = 0 :=
  hinj d hd (by rw [← combo_map hi_xor]; exact (hi_eq_zero_iff _).mpr hlow)

/-! ## one wrong word -/

theorem polymod_single_error (pre post : List Nat) (a a' : Nat) (ha : a < 2 ^ 30) (ha' : a' < 2 ^ 30)
    (hne : a ≠ a') : rs1024Polymod (pre ++ a :: post) ≠ rs1024Polymod (pre ++ a' :: post) :=
  checksum.foldl_single _ pre post ha ha' hne

/-- the polymod test decides acceptance: if two tails differ in polymod after every prefix, then after a prefix
    with which one is accepted the other is rejected (the customization string is read first, as part of the prefix) -/
theorem verify_false_of_polymod_ne (cs : Bytes) (pre t t' : List Nat) (hok : rs1024Verify cs (pre ++ t) = true)
    (hne : ∀ p, rs1024Polymod (p ++ t) ≠ rs1024Polymod (p ++ t')) : rs1024Verify cs (pre ++ t') = false := by
  rw [rs1024Verify, beq_iff_eq, ← List.append_assoc] at hok
  rw [rs1024Verify, beq_eq_false_iff_ne, ← hok, ← List.append_assoc]
  exact (hne _).symm

/-! ## the checksum words -/

theorem and1023 (x : Nat) : x &&& 1023 = x % 1024 := Nat.and_two_pow_sub_one_eq_mod x 10

/-- the three words of `rs1024_create_checksum` make the polymod equal to 1: they are the three ten-bit limbs of
    `p`, and reading them adds `p` to the polymod of `vals ++ [0, 0, 0]` -/
theorem polymod_create (vals : List Nat) (p : Nat) (hp : p = rs1024Polymod (vals ++ [0, 0, 0]) ^^^ 1) :
    rs1024Polymod (vals ++ [(p >>> 20) &&& 1023, (p >>> 10) &&& 1023, p &&& 1023]) = 1 := by
  rw [rs1024Polymod, List.foldl_append] at hp ⊢
  have hlimbs : [(p >>> 20) &&& 1023, (p >>> 10) &&& 1023, p &&& 1023] = Digits.digitsBE 1024 3 p := by
    simp only [Digits.digitsBE, and1023, Nat.shiftRight_eq_div_pow, Nat.div_div_eq_div_mul, List.nil_append,
      List.cons_append, Nat.reducePow, Nat.reduceMul]
  rw [hlimbs]
  refine (checksum.foldl_eq_iff _ (by decide) _ (Digits.digitsBE_length ..) (Digits.digitsBE_lt (by decide) 3 p)
    rfl).2 ?_
  rw [hp]
  rfl

/-- `rs1024_verify_checksum(cs, data + rs1024_create_checksum(cs, data))` holds, whatever the data -/
theorem verify_append_create (cs : Bytes) (data : List Nat) :
    rs1024Verify cs (data ++ rs1024Create cs data) = true := by
  rw [rs1024Verify, rs1024Create, ← List.append_assoc, polymod_create _ _ rfl]
  rfl

/-! ## one wrong word is refused -/

/-- a single wrong word is never accepted: if a sequence verifies, no sequence differing from it in exactly
    one position (values below 2^30 — word indices are below 1024) verifies -/
theorem verify_single_error (cs : Bytes) (pre post : List Nat) (a a' : Nat) (ha : a < 2 ^ 30)
    (ha' : a' < 2 ^ 30) (hne : a ≠ a') (hok : rs1024Verify cs (pre ++ a :: post) = true) :
    rs1024Verify cs (pre ++ a' :: post) = false :=
  verify_false_of_polymod_ne cs pre _ _ hok fun p => polymod_single_error p post a a' ha ha' hne
end Buidl.Shamir
