/-
  Buidl.Proofs.SecpCodec — field-level facts of secp256k1 and the public-key encodings
  (S256Field.sqrt, S256Point.sec / xonly / parse_sec / parse_xonly / parse, even_point):

    no curve point has y = 0 (−7 is not a cube mod P) or x = 0 (7 is not a square mod P);
    negation flips the parity of y and keeps x; x-only encodings determine the point up to sign;
    `fsqrt` is correct (P ≡ 3 mod 4: c^((P+1)/4) is a square root of every square, Euler);
    the parsers decompress through one step, `liftPar x par`: the curve point above `x` with the
    given parity of y (`decompress_eq`, `liftPar_eq_some_iff`), from which the round trips follow:
    `parseSec (sec Q c) = some Q`, `parseXonly (xonly Q) = some (evenRep Q)`;
    everything the parsers accept is a valid curve point; rejection lemmas.
-/
import Buidl.Proofs.Secp256k1
import Buidl.Proofs.SecpConst

namespace Buidl.EC
open Buidl

attribute [local irreducible] pmul

theorem P_pos : 0 < P := by decide

theorem cast_A : ((A : ℕ) : ZMod P) = 0 := by simp [A]
theorem cast_B : ((B : ℕ) : ZMod P) = 7 := by simp [B]

theorem valid_aff_iff_eq {x y : ℕ} :
    Valid P A B (.aff x y) ↔ x < P ∧ y < P ∧ (y : ZMod P) ^ 2 = (x : ZMod P) ^ 3 + 7 := by
  show (x < P ∧ y < P ∧ onCurve P A B (.aff x y) = true) ↔ _
  rw [onCurve_iff P A B curveOK_secp.gt3, cast_A, cast_B, zero_mul, add_zero]

theorem valid_aff_iff_mod {x y : ℕ} :
    Valid P A B (.aff x y) ↔ x < P ∧ y < P ∧ y ^ 2 % P = (x ^ 3 + 7) % P := by
  rw [valid_aff_iff curveOK_secp.gt3]; simp [A, B]

theorem cast_pow_ne_one_of_powmod {a e : ℕ} (h : powmod a e P ≠ 1) : (a : ZMod P) ^ e ≠ 1 := by
  rw [← powmod_cast]
  intro h'
  apply h
  exact cast_inj_of_lt P (powmod_lt _ _ _ P_pos) (by decide) (by simpa using h')

/-- Euler's criterion, with the hypothesis in the form `decide +kernel` checks -/
theorem nonsquare_of_euler {c : ℕ} (h : powmod c ((P - 1) / 2) P = P - 1) :
    ∀ y, y < P → y * y % P ≠ c % P := by
  intro y hy he
  have hc : (c : ZMod P) = (y : ZMod P) ^ 2 := by
    rw [sq, ← Nat.cast_mul, ← ZMod.natCast_mod (y * y), he, ZMod.natCast_mod]
  have hpow : (c : ZMod P) ^ ((P - 1) / 2) ≠ 1 := cast_pow_ne_one_of_powmod (by rw [h]; decide)
  by_cases hy0 : (y : ZMod P) = 0
  · -- then `c = 0`, whose power is `0`, not `-1`
    have h0 := powmod_cast c ((P - 1) / 2) P
    rw [h, hc, hy0, zero_pow two_ne_zero, zero_pow (by decide), Nat.cast_sub (by decide),
      ZMod.natCast_self, zero_sub, Nat.cast_one, neg_eq_zero] at h0
    exact one_ne_zero h0
  · apply hpow
    rw [hc, ← pow_mul, show 2 * ((P - 1) / 2) = P - 1 by decide]
    exact ZMod.pow_card_sub_one_eq_one hy0

theorem seven_pow_half : powmod 7 ((P - 1) / 2) P = P - 1 := by decide +kernel

theorem neg_seven_pow_third : powmod (P - 7) ((P - 1) / 3) P ≠ 1 := by decide +kernel

/-- there is no point of order two: `y = 0` would make −7 a cube -/
theorem valid_y_ne_zero {x y : ℕ} (h : Valid P A B (.aff x y)) : y ≠ 0 := by
  rintro rfl
  obtain ⟨-, -, he⟩ := valid_aff_iff_eq.mp h
  rw [Nat.cast_zero, zero_pow two_ne_zero] at he
  have hx3 : (x : ZMod P) ^ 3 = -7 := by linear_combination -he
  have h7 : (7 : ZMod P) ≠ 0 := by
    simpa using cast_ne_zero_of_lt P (x := 7) (by decide) (by decide)
  have hx0 : (x : ZMod P) ≠ 0 := fun h0 => h7 (by rw [h0] at hx3; linear_combination hx3)
  have hc : ((P - 7 : ℕ) : ZMod P) = -7 := by
    rw [Nat.cast_sub (by decide), ZMod.natCast_self, zero_sub, Nat.cast_ofNat]
  apply cast_pow_ne_one_of_powmod neg_seven_pow_third
  rw [hc, ← hx3, ← pow_mul, show 3 * ((P - 1) / 3) = P - 1 by decide]
  exact ZMod.pow_card_sub_one_eq_one hx0

theorem valid_x_ne_zero {x y : ℕ} (h : Valid P A B (.aff x y)) : x ≠ 0 := by
  rintro rfl
  obtain ⟨-, hy, he⟩ := valid_aff_iff_mod.mp h
  exact nonsquare_of_euler seven_pow_half y hy (by rw [← sq]; exact he)

/-! ## negation, parity, x-only -/

theorem pneg_aff {x y : ℕ} (hy0 : y ≠ 0) : pneg P (.aff x y) = .aff x (P - y) := by
  simp only [pneg]
  rw [Nat.mod_eq_of_lt (Nat.sub_lt P_pos (Nat.pos_of_ne_zero hy0))]

theorem sub_parity {y : ℕ} (hy : y < P) : (P - y) % 2 + y % 2 = 1 := by
  have : P % 2 = 1 := by decide
  omega

/-- BIP340 tests `y % 2 = 0`, the code `parity = 1` -/
theorem ite_mod_two_eq_zero {α : Type} (n : ℕ) (a b : α) :
    (if n % 2 = 0 then a else b) = if n % 2 = 1 then b else a := by
  rcases Nat.mod_two_eq_zero_or_one n with h | h <;> rw [h] <;> rfl

theorem neg_valid_aff {x y : ℕ} (h : Valid P A B (.aff x y)) : Valid P A B (.aff x (P - y)) :=
  pneg_aff (valid_y_ne_zero h) ▸ pneg_valid curveOK_secp h

theorem parity_pneg {Q : Pt} (hQ : Valid P A B Q) (h : Q ≠ .inf) :
    parity (pneg P Q) + parity Q = 1 := by
  cases Q with
  | inf => exact absurd rfl h
  | aff x y =>
    rw [pneg_aff (valid_y_ne_zero hQ)]
    exact sub_parity hQ.2.1

theorem xonly_pneg (Q : Pt) : xonly (pneg P Q) = xonly Q := by
  cases Q <;> rfl

theorem pneg_ne_inf {Q : Pt} (h : Q ≠ .inf) : pneg P Q ≠ .inf := by
  cases Q with
  | inf => exact absurd rfl h
  | aff x y => exact Pt.noConfusion

theorem eq_or_eq_sub_of_sq {s y : ℕ} (hs : s < P) (hy : y < P)
    (h : (s : ZMod P) ^ 2 = (y : ZMod P) ^ 2) : s = y ∨ (y ≠ 0 ∧ s = P - y) := by
  rcases sq_eq_sq_iff_eq_or_eq_neg.mp h with h1 | h1
  · exact Or.inl (cast_inj_of_lt P hs hy h1)
  · by_cases hy0 : y = 0
    · left
      rw [hy0, Nat.cast_zero, neg_zero, ← Nat.cast_zero] at h1
      rw [hy0]; exact cast_inj_of_lt P hs P_pos h1
    · refine Or.inr ⟨hy0, cast_inj_of_lt P hs (by omega) ?_⟩
      rw [h1, Nat.cast_sub hy.le, ZMod.natCast_self, zero_sub]

theorem xonly_inj {Q R : Pt} (hQ : Valid P A B Q) (hR : Valid P A B R) (hQ0 : Q ≠ .inf)
    (hR0 : R ≠ .inf) (h : xonly Q = xonly R) : Q = R ∨ Q = pneg P R := by
  cases Q with
  | inf => exact absurd rfl hQ0
  | aff x y =>
    cases R with
    | inf => exact absurd rfl hR0
    | aff x' y' =>
      obtain ⟨hx, hy, he⟩ := valid_aff_iff_eq.mp hQ
      obtain ⟨hx', hy', he'⟩ := valid_aff_iff_eq.mp hR
      obtain rfl : x = x' := (xonly_aff_eq_iff hx hx').mp h
      rcases eq_or_eq_sub_of_sq hy hy' (he.trans he'.symm) with rfl | ⟨hy0, rfl⟩
      · exact Or.inl rfl
      · exact Or.inr (pneg_aff hy0).symm

/-! ## even_point -/

def evenRep : Pt → Pt
  | .inf => .inf
  | .aff x y => if y % 2 = 1 then .aff x (P - y) else .aff x y

theorem evenRep_aff (x y : ℕ) : evenRep (.aff x y) = .aff x (if y % 2 = 1 then P - y else y) := by
  show (if _ then _ else _) = _
  split <;> rfl

theorem evenRep_eq_ite (Q : Pt) : evenRep Q = if parity Q = 1 then pneg P Q else Q := by
  cases Q with
  | inf => rfl
  | aff x y =>
    show (if y % 2 = 1 then _ else _) = if y % 2 = 1 then pneg P (.aff x y) else .aff x y
    split
    · next h => rw [pneg_aff (by rintro rfl; cases h)]
    · rfl

/-- S256Point.even_point is the even-y representative (on points annihilated by N, where `-1 * Q = −Q`) -/
theorem evenPoint_eq_evenRep {Q : Pt} (hQ : Tors Q) : evenPoint Q = evenRep Q := by
  rw [evenRep_eq_ite, evenPoint, smul_neg_one hQ]

theorem evenRep_valid {Q : Pt} (hQ : Valid P A B Q) : Valid P A B (evenRep Q) := by
  rw [evenRep_eq_ite]; split
  · exact pneg_valid curveOK_secp hQ
  · exact hQ

theorem xonly_evenRep (Q : Pt) : xonly (evenRep Q) = xonly Q := by
  cases Q with
  | inf => rfl
  | aff x y => simp only [evenRep]; split <;> rfl

theorem parity_evenRep (Q : Pt) : parity (evenRep Q) = 0 := by
  cases Q with
  | inf => rfl
  | aff x y =>
    have : P % 2 = 1 := by decide
    simp only [evenRep]
    split <;> simp only [parity] <;> omega

/-! ## S256Field.sqrt (P ≡ 3 mod 4) -/

theorem fsqrt_eq (c : ℕ) : fsqrt c =
    if fmul P (fpow P c ((P + 1) / 4)) (fpow P c ((P + 1) / 4)) = c
    then some (fpow P c ((P + 1) / 4)) else none := rfl

theorem fsqrt_some {c s : ℕ} (h : fsqrt c = some s) : s < P ∧ s * s % P = c := by
  rw [fsqrt_eq] at h
  split at h
  · next hc => obtain rfl := Option.some.inj h; exact ⟨fpow_lt P _ _, hc⟩
  · cases h

theorem fsqrt_none_of_nonsquare {c : ℕ} (h : ∀ y, y < P → y * y % P ≠ c) : fsqrt c = none := by
  cases hs : fsqrt c with
  | none => rfl
  | some s => exact absurd (fsqrt_some hs).2 (h s (fsqrt_some hs).1)

theorem sqrt_exp (y : ZMod P) : ((y ^ 2) ^ ((P + 1) / 4)) ^ 2 = y ^ 2 := by
  by_cases hy : y = 0
  · rw [hy, zero_pow two_ne_zero, zero_pow (by decide), zero_pow two_ne_zero]
  · rw [← pow_mul, ← pow_mul, show 2 * ((P + 1) / 4 * 2) = (P - 1) + 2 by decide, pow_add,
      ZMod.pow_card_sub_one_eq_one hy, one_mul]

theorem fsqrt_sq {y : ℕ} (hy : y < P) :
    ∃ s, fsqrt (y * y % P) = some s ∧ (s = y ∨ (y ≠ 0 ∧ s = P - y)) := by
  have hcc : ((y * y % P : ℕ) : ZMod P) = (y : ZMod P) ^ 2 := by
    rw [ZMod.natCast_mod, Nat.cast_mul, sq]
  have hsq : ((fpow P (y * y % P) ((P + 1) / 4) : ℕ) : ZMod P) ^ 2 = (y : ZMod P) ^ 2 := by
    rw [fpow_cast_of_lt P _ (by decide) (by decide), hcc, sqrt_exp]
  refine ⟨_, ?_, eq_or_eq_sub_of_sq (fpow_lt P _ _) hy hsq⟩
  rw [fsqrt_eq, if_pos]
  apply cast_inj_of_lt P (fmul_lt P _ _) (Nat.mod_lt _ P_pos)
  rw [fmul_cast, hcc, ← sq, hsq]

theorem rhs_eq (x : ℕ) : fadd P (fpow P x 3) B = (x ^ 3 + 7) % P := by
  apply cast_inj_of_lt P (fadd_lt P _ _) (Nat.mod_lt _ P_pos)
  rw [fadd_cast, fpow_three_cast P curveOK_secp.gt3, cast_B, ZMod.natCast_mod, Nat.cast_add,
    Nat.cast_pow, Nat.cast_ofNat]

/-! ## the constructor and decompression -/

theorem mkPoint_of_valid {x y : ℕ} (h : Valid P A B (.aff x y)) : mkPoint x y = some (.aff x y) :=
  if_pos h

theorem mkPoint_none {x y : ℕ} (h : ¬ Valid P A B (.aff x y)) : mkPoint x y = none :=
  if_neg h

theorem mkPoint_some {x y : ℕ} {Q : Pt} (h : mkPoint x y = some Q) :
    Q = .aff x y ∧ Valid P A B Q := by
  by_cases hc : Valid P A B (.aff x y)
  · rw [mkPoint_of_valid hc] at h; cases h; exact ⟨rfl, hc⟩
  · rw [mkPoint_none hc] at h; cases h

theorem valid_of_fsqrt_rhs {x s : ℕ} (hx : x < P) (h : fsqrt (fadd P (fpow P x 3) B) = some s) :
    Valid P A B (.aff x s) := by
  obtain ⟨hs, he⟩ := fsqrt_some h
  exact valid_aff_iff_mod.mpr ⟨hx, hs, by rw [sq, he, rhs_eq]⟩

theorem fsqrt_rhs_of_valid {x y : ℕ} (h : Valid P A B (.aff x y)) :
    fsqrt (fadd P (fpow P x 3) B) = some y ∨ fsqrt (fadd P (fpow P x 3) B) = some (P - y) := by
  obtain ⟨s, hs, hcase⟩ := fsqrt_sq h.2.1
  rw [rhs_eq, ← (valid_aff_iff_mod.mp h).2.2, sq]
  rcases hcase with rfl | ⟨-, rfl⟩
  · exact Or.inl hs
  · exact Or.inr hs

/-- decompression, the step `parse_sec`, `parse_xonly` and BIP340's `lift_x` share: the curve point
    above `x` whose ordinate has parity `par`; `none` if `x ≥ P` or `x³ + 7` is not a square -/
def liftPar (x par : ℕ) : Option Pt :=
  if x < P then
    (fsqrt (fadd P (fpow P x 3) B)).map fun s => .aff x (if s % 2 = par then s else P - s)
  else none

theorem liftPar_eq_some_iff {x par : ℕ} (hpar : par < 2) {Q : Pt} :
    liftPar x par = some Q ↔ ∃ y, Q = .aff x y ∧ y % 2 = par ∧ Valid P A B (.aff x y) := by
  unfold liftPar
  by_cases hx : x < P
  · rw [if_pos hx]
    constructor
    · intro h
      cases hs : fsqrt (fadd P (fpow P x 3) B) with
      | none => rw [hs] at h; cases h
      | some s =>
        rw [hs, Option.map_some] at h
        obtain rfl := Option.some.inj h
        have hv := valid_of_fsqrt_rhs hx hs
        have hp := sub_parity hv.2.1
        split
        · next h1 => exact ⟨s, rfl, h1, hv⟩
        · exact ⟨P - s, rfl, by omega, neg_valid_aff hv⟩
    · rintro ⟨y, rfl, hy, hv⟩
      have hp := sub_parity hv.2.1
      rcases fsqrt_rhs_of_valid hv with hs | hs <;> rw [hs, Option.map_some]
      · rw [if_pos hy]
      · rw [if_neg (by omega), Nat.sub_sub_self hv.2.1.le]
  · rw [if_neg hx]
    exact ⟨fun h => (nomatch h), fun ⟨y, _, _, hv⟩ => absurd hv.1 hx⟩

theorem liftPar_of_valid {x y : ℕ} (hv : Valid P A B (.aff x y)) :
    liftPar x 0 = some (evenRep (.aff x y)) := by
  have h1 := evenRep_valid hv
  have h2 := parity_evenRep (.aff x y)
  rw [evenRep_aff] at h1 h2 ⊢
  exact (liftPar_eq_some_iff (by decide)).mpr ⟨_, rfl, h2, h1⟩

theorem liftPar_nonresidue {x : ℕ} (par : ℕ) (hn : ∀ y, y < P → y * y % P ≠ (x ^ 3 + 7) % P) :
    liftPar x par = none := by
  rw [liftPar, rhs_eq, fsqrt_none_of_nonsquare hn]; exact ite_self _

theorem liftPar_x_ge_p {x : ℕ} (par : ℕ) (hx : P ≤ x) : liftPar x par = none :=
  if_neg (Nat.not_lt.mpr hx)

/-- the decompression step as the parsers write it: the constructor applied to the root of
    `x³ + 7` or its opposite, whichever has parity `par` -/
theorem decompress_eq {x par : ℕ} {f : ℕ → Option Pt}
    (hf : ∀ s, Valid P A B (.aff x s) → f s = mkPoint x (if s % 2 = par then s else P - s)) :
    (if ¬ x < P then none else
      match fsqrt (fadd P (fpow P x 3) B) with
      | none => none
      | some s => f s) = liftPar x par := by
  unfold liftPar
  by_cases hx : x < P
  · rw [if_neg (not_not.mpr hx), if_pos hx]
    cases hs : fsqrt (fadd P (fpow P x 3) B) with
    | none => rfl
    | some s =>
      have hv := valid_of_fsqrt_rhs hx hs
      show f s = _
      rw [hf s hv, Option.map_some]
      split
      · exact mkPoint_of_valid hv
      · exact mkPoint_of_valid (neg_valid_aff hv)
  · rw [if_pos hx, if_neg hx]

-- keep `whnf` from unrolling the 256 squarings of the square root when it compares `match`es
attribute [local irreducible] fsqrt fpow

theorem parseXonly_eq (b : Bytes) : parseXonly b =
    if beToNat b = 0 then some .inf else liftPar (beToNat b) 0 :=
  if_congr Iff.rfl rfl (decompress_eq fun s _ => by
    rw [ite_mod_two_eq_zero, apply_ite (mkPoint _)])

theorem parseXonly_zero (b : Bytes) (h : beToNat b = 0) : parseXonly b = some .inf := by
  rw [parseXonly_eq, if_pos h]

theorem parseXonly_eq_some_iff {b : Bytes} (h0 : beToNat b ≠ 0) {Q : Pt} :
    parseXonly b = some Q ↔
      ∃ y, Q = .aff (beToNat b) y ∧ y % 2 = 0 ∧ Valid P A B (.aff (beToNat b) y) := by
  rw [parseXonly_eq, if_neg h0, liftPar_eq_some_iff (by decide)]

theorem parseXonly_xonly {Q : Pt} (hQ : Valid P A B Q) (h0 : Q ≠ .inf) :
    parseXonly (xonly Q) = some (evenRep Q) := by
  cases Q with
  | inf => exact absurd rfl h0
  | aff x y =>
    have hbe : beToNat (xonly (.aff x y)) = x := beToNat_natToBE' (lt_trans hQ.1 P_lt_2_256)
    rw [parseXonly_eq, hbe, if_neg (valid_x_ne_zero hQ), liftPar_of_valid hQ]

theorem parseXonly_valid {b : Bytes} {Q : Pt} (h : parseXonly b = some Q) : Valid P A B Q := by
  by_cases h0 : beToNat b = 0
  · rw [parseXonly_zero b h0] at h; cases h; exact valid_inf
  · obtain ⟨y, rfl, -, hv⟩ := (parseXonly_eq_some_iff h0).mp h
    exact hv

/-! ## SEC encodings -/

theorem parseSec_cons (pre : UInt8) (rest : Bytes) : parseSec (pre :: rest) =
    if pre = 4 then
      if (pre :: rest).length ≠ 65 then none
      else mkPoint (beToNat (rest.take 32)) (beToNat ((rest.drop 32).take 32))
    else if (pre ≠ 2 ∧ pre ≠ 3) ∨ (pre :: rest).length ≠ 33 then none
    else
      if ¬ beToNat rest < P then none else
      match fsqrt (fadd P (fpow P (beToNat rest) 3) B) with
      | none => none
      | some beta =>
        if beta = 0 then none
        else mkPoint (beToNat rest)
          (if pre = 2 then (if beta % 2 = 0 then beta else P - beta)
           else (if beta % 2 = 0 then P - beta else beta)) := by
  unfold parseSec; rfl

theorem parseSec_compressed {pre : UInt8} {rest : Bytes} (hpre : pre = 2 ∨ pre = 3)
    (hl : rest.length = 32) : parseSec (pre :: rest) = liftPar (beToNat rest) (pre.toNat - 2) := by
  have h4 : pre ≠ 4 := by rcases hpre with rfl | rfl <;> decide
  have hg : ¬ ((pre ≠ 2 ∧ pre ≠ 3) ∨ (pre :: rest).length ≠ 33) := by
    rw [List.length_cons, hl]
    rcases hpre with rfl | rfl <;> decide
  rw [parseSec_cons, if_neg h4, if_neg hg]
  refine decompress_eq fun s hv => ?_
  rw [if_neg (valid_y_ne_zero hv)]
  rcases hpre with rfl | rfl
  · rfl
  · exact congrArg _ (ite_mod_two_eq_zero s _ _)

theorem parseSec_uncompressed {rest : Bytes} (hl : rest.length = 64) :
    parseSec (4 :: rest) = mkPoint (beToNat (rest.take 32)) (beToNat (rest.drop 32)) := by
  rw [parseSec_cons, if_pos rfl, if_neg (by rw [List.length_cons, hl]; decide),
    show (rest.drop 32).take 32 = rest.drop 32 from
      List.take_of_length_le (by rw [List.length_drop, hl])]

theorem parseSec_nil : parseSec [] = none := rfl

/-- prefix discipline: a first byte other than 02, 03, 04 is refused (F03a) -/
theorem parseSec_bad_prefix (pre : UInt8) (rest : Bytes) (h2 : pre ≠ 2) (h3 : pre ≠ 3) (h4 : pre ≠ 4) :
    parseSec (pre :: rest) = none := by
  rw [parseSec_cons, if_neg h4, if_pos (Or.inl ⟨h2, h3⟩)]

/-- length discipline: prefix 04 needs 65 bytes, prefixes 02/03 need 33 bytes (F03a) -/
theorem parseSec_bad_length (pre : UInt8) (rest : Bytes)
    (h : (pre = 4 ∧ rest.length ≠ 64) ∨ (pre ≠ 4 ∧ rest.length ≠ 32)) :
    parseSec (pre :: rest) = none := by
  rw [parseSec_cons, List.length_cons]
  rcases h with ⟨h4, hl⟩ | ⟨h4, hl⟩
  · rw [if_pos h4, if_pos (by omega)]
  · rw [if_neg h4, if_pos (Or.inr (by omega))]

theorem parseSec_eq (pre : UInt8) (rest : Bytes) : parseSec (pre :: rest) =
    if pre = 4 ∧ rest.length = 64 then mkPoint (beToNat (rest.take 32)) (beToNat (rest.drop 32))
    else if (pre = 2 ∨ pre = 3) ∧ rest.length = 32 then liftPar (beToNat rest) (pre.toNat - 2)
    else none := by
  split
  · next h => obtain ⟨rfl, hl⟩ := h; exact parseSec_uncompressed hl
  · next h4 =>
    split
    · next h => exact parseSec_compressed h.1 h.2
    · next h =>
      by_cases hp4 : pre = 4
      · exact parseSec_bad_length pre rest (Or.inl ⟨hp4, fun hl => h4 ⟨hp4, hl⟩⟩)
      · by_cases hl : rest.length = 32
        · exact parseSec_bad_prefix pre rest (fun e => h ⟨Or.inl e, hl⟩) (fun e => h ⟨Or.inr e, hl⟩) hp4
        · exact parseSec_bad_length pre rest (Or.inr ⟨hp4, hl⟩)

theorem sec_compressed (x y : ℕ) :
    sec (.aff x y) true = some ((if y % 2 = 1 then 3 else 2) :: natToBE' 32 x) := rfl

theorem sec_uncompressed (x y : ℕ) :
    sec (.aff x y) false = some (4 :: natToBE' 32 x ++ natToBE' 32 y) := rfl

theorem sec_length {Q : Pt} {c : Bool} {s : Bytes} (h : sec Q c = some s) :
    s.length = if c then 33 else 65 := by
  cases Q with
  | inf => cases h
  | aff x y =>
    cases c <;> cases h
    · simp only [List.cons_append, List.length_cons, List.length_append, natToBE'_length]; rfl
    · simp only [List.length_cons, natToBE'_length]; rfl

theorem parseSec_sec {Q : Pt} (hQ : Valid P A B Q) (c : Bool) {s : Bytes} (h : sec Q c = some s) :
    parseSec s = some Q := by
  cases Q with
  | inf => cases h
  | aff x y =>
    have hx : beToNat (natToBE' 32 x) = x := beToNat_natToBE' (lt_trans hQ.1 P_lt_2_256)
    cases c <;> cases h
    · show parseSec (4 :: (natToBE' 32 x ++ natToBE' 32 y)) = _
      rw [parseSec_uncompressed (by simp only [List.length_append, natToBE'_length]),
        List.take_left' (natToBE'_length 32 x), List.drop_left' (natToBE'_length 32 x),
        hx, beToNat_natToBE' (lt_trans hQ.2.1 P_lt_2_256), mkPoint_of_valid hQ]
    · rw [parseSec_compressed (by split <;> simp) (natToBE'_length 32 x), hx,
        liftPar_eq_some_iff (by split <;> decide)]
      refine ⟨y, rfl, ?_, hQ⟩
      split
      · next h1 => exact h1
      · next h1 => show y % 2 = 0; omega

/-! S256Point.parse dispatches on the length -/

theorem parsePoint_of_length_32 {b : Bytes} (h : b.length = 32) : parsePoint b = parseXonly b :=
  if_pos h

theorem parsePoint_of_length_sec {b : Bytes} (h : b.length = 33 ∨ b.length = 65) :
    parsePoint b = parseSec b := by
  unfold parsePoint
  rw [if_neg (by omega), if_pos h]

theorem parsePoint_bad_length (b : Bytes) (h : b.length ≠ 32 ∧ b.length ≠ 33 ∧ b.length ≠ 65) :
    parsePoint b = none := by
  unfold parsePoint
  rw [if_neg h.1, if_neg (by omega)]

theorem parsePoint_sec {Q : Pt} (hQ : Valid P A B Q) (c : Bool) {s : Bytes} (h : sec Q c = some s) :
    parsePoint s = some Q := by
  have hl := sec_length h
  rw [parsePoint_of_length_sec (by cases c <;> simp [hl])]
  exact parseSec_sec hQ c h

theorem parsePoint_xonly {Q : Pt} (hQ : Valid P A B Q) (h0 : Q ≠ .inf) :
    parsePoint (xonly Q) = some (evenRep Q) := by
  rw [parsePoint_of_length_32 (xonly_length Q)]; exact parseXonly_xonly hQ h0

theorem parseSec_some {b : Bytes} {Q : Pt} (h : parseSec b = some Q) :
    Valid P A B Q ∧ ∃ c, sec Q c = some b := by
  cases b with
  | nil => cases h
  | cons pre rest =>
    rw [parseSec_eq] at h
    split at h
    · next hc =>
      obtain ⟨rfl, hlen⟩ := hc
      obtain ⟨rfl, hv⟩ := mkPoint_some h
      refine ⟨hv, false, ?_⟩
      rw [sec_uncompressed, natToBE'_beToNat_of_length (by rw [List.length_take, hlen]; rfl),
        natToBE'_beToNat_of_length (by rw [List.length_drop, hlen]), List.cons_append,
        List.take_append_drop]
    · split at h
      · next hc =>
        have hpar : pre.toNat - 2 < 2 := by rcases hc.1 with rfl | rfl <;> decide
        obtain ⟨y, rfl, hy, hv⟩ := (liftPar_eq_some_iff hpar).mp h
        refine ⟨hv, true, ?_⟩
        rw [sec_compressed, natToBE'_beToNat_of_length hc.2, hy]
        rcases hc.1 with rfl | rfl <;> rfl
      · cases h

theorem parseSec_valid {b : Bytes} {Q : Pt} (h : parseSec b = some Q) : Valid P A B Q :=
  (parseSec_some h).1

theorem parsePoint_valid {b : Bytes} {Q : Pt} (h : parsePoint b = some Q) : Valid P A B Q := by
  by_cases h32 : b.length = 32
  · exact parseXonly_valid (parsePoint_of_length_32 h32 ▸ h)
  · by_cases hl : b.length = 33 ∨ b.length = 65
    · exact parseSec_valid (parsePoint_of_length_sec hl ▸ h)
    · rw [parsePoint_bad_length b ⟨h32, fun e => hl (Or.inl e), fun e => hl (Or.inr e)⟩] at h
      cases h

/-! ### rejection -/

theorem parseSec_x_ge_p (pre : UInt8) (rest : Bytes) (h : pre ≠ 4 ∨ rest.length ≠ 64)
    (hx : P ≤ beToNat rest) : parseSec (pre :: rest) = none := by
  rw [parseSec_eq, if_neg (fun c => h.elim (· c.1) (· c.2)), liftPar_x_ge_p _ hx, ite_self]

theorem parseSec_nonresidue (pre : UInt8) (rest : Bytes) (h : pre ≠ 4 ∨ rest.length ≠ 64)
    (hn : ∀ y, y < P → y * y % P ≠ (beToNat rest ^ 3 + 7) % P) :
    parseSec (pre :: rest) = none := by
  rw [parseSec_eq, if_neg (fun c => h.elim (· c.1) (· c.2)), liftPar_nonresidue _ hn, ite_self]

theorem parseXonly_x_ge_p (b : Bytes) (hx : P ≤ beToNat b) : parseXonly b = none := by
  rw [parseXonly_eq, if_neg (Nat.ne_of_gt (Nat.lt_of_lt_of_le P_pos hx)), liftPar_x_ge_p _ hx]

theorem parseXonly_nonresidue (b : Bytes) (h0 : beToNat b ≠ 0)
    (hn : ∀ y, y < P → y * y % P ≠ (beToNat b ^ 3 + 7) % P) : parseXonly b = none := by
  rw [parseXonly_eq, if_neg h0, liftPar_nonresidue _ hn]

/-! ### x-only round trip with the code's `even_point` (points annihilated by N, e.g. `kG`) -/

theorem parseXonly_xonly_tors {Q : Pt} (hQ : Tors Q) (h0 : Q ≠ .inf) :
    parseXonly (xonly Q) = some (evenPoint Q) := by
  rw [evenPoint_eq_evenRep hQ]; exact parseXonly_xonly hQ.1 h0

theorem evenPoint_tors {Q : Pt} (hQ : Tors Q) : Tors (evenPoint Q) := by
  unfold evenPoint; split
  · exact smul_tors hQ _
  · exact hQ

theorem parity_evenPoint {Q : Pt} (hQ : Tors Q) : parity (evenPoint Q) = 0 := by
  rw [evenPoint_eq_evenRep hQ]; exact parity_evenRep Q

theorem xonly_evenPoint {Q : Pt} (hQ : Tors Q) : xonly (evenPoint Q) = xonly Q := by
  rw [evenPoint_eq_evenRep hQ]; exact xonly_evenRep Q

end Buidl.EC
