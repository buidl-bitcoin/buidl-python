/-
  Lemmas for C06 (input verification).  `run` is walked one command at a time: an opcode whose table entry
  is a function of the stack (`OpIs`) by the equation `run_op_ok` where its result is known and by `run_op_iff`
  where it may fail, pushes by equations.  On an `↔` goal the equations serve both directions, so a script
  template is walked once.  An accepting run stays accepting with more fuel (`run_mono`), which brings a run
  with any fuel into the `f + k` shape of these statements.  Where nothing is known of the next command (an
  arbitrary scriptSig, the taproot rule read backwards) the hypothesis stays `Step.out (step …) (run f) = .accept`:
  a branch that fails is then an error outcome equal to `.accept`.  On top of that: the standard scripts (p2pkh,
  m-of-n, the CHECKSIGADD chain), the p2sh and witness-program rules, and the invariant "the command list ends
  with the scriptPubKey" for arbitrary scriptSigs.
-/
import Buidl.Proofs.Interp
namespace Buidl.Interp
open Buidl Buidl.Script

/-! ## walking `run` -/

theorem run_accept_nil {cfg : Cfg} {env : Env} {fuel : Nat} {st : St} (h : st.cmds = [])
    (ha : run cfg env fuel st = .accept) : finalTest cfg st.stack = .accept := by
  rwa [run_nil cfg env fuel st h] at ha

def Step.out (r : Step) (g : St → Out) : Out :=
  match r with
  | .error o => o
  | .ok st => g st

theorem Step.out_ok (st : St) (g : St → Out) : Step.out (.ok st) g = g st := rfl

theorem run_cons_out (cfg : Cfg) (env : Env) (f : Nat) (c : Cmd) (rest : List Cmd) (S alt : Stack)
    (wit : Option (List Bytes)) (tap : Bool) :
    run cfg env (f + 1) ⟨c :: rest, S, alt, wit, tap⟩ =
      Step.out (step cfg env ⟨rest, S, alt, wit, tap⟩ c) (run cfg env f) :=
  run_cons cfg env f _ c rest rfl

theorem Step.out_mono {r : Step} {g g' : St → Out} (h : ∀ st, g st = .accept → g' st = .accept)
    (ha : r.out g = .accept) : r.out g' = .accept := by
  cases r with
  | error o => exact ha
  | ok st => exact h st ha

theorem run_mono {cfg : Cfg} {env : Env} : ∀ {f : Nat} {st : St}, run cfg env f st = .accept →
    ∀ k, run cfg env (f + k) st = .accept
  | _, ⟨[], _, _, _, _⟩, ha, _ => by rwa [run_nil _ _ _ _ rfl] at ha ⊢
  | 0, ⟨_ :: _, _, _, _, _⟩, ha, _ => nomatch ha
  | f + 1, ⟨c :: rest, S, alt, wit, tap⟩, ha, k => by
    rw [Nat.add_right_comm, run_cons_out]
    rw [run_cons_out] at ha
    exact Step.out_mono (fun _ h => run_mono h k) ha

theorem run_of_le {cfg : Cfg} {env : Env} {n fuel : Nat} {st : St} (h : run cfg env n st = .accept)
    (hn : n ≤ fuel) : run cfg env fuel st = .accept := by
  obtain ⟨k, rfl⟩ := Nat.exists_eq_add_of_le hn
  exact run_mono h k

theorem run_step_out {cfg : Cfg} {env : Env} : ∀ {fuel : Nat} {c : Cmd} {rest : List Cmd} {S alt : Stack}
    {wit : Option (List Bytes)} {tap : Bool}, run cfg env fuel ⟨c :: rest, S, alt, wit, tap⟩ = .accept →
    Step.out (step cfg env ⟨rest, S, alt, wit, tap⟩ c) (run cfg env fuel) = .accept
  | 0, _, _, _, _, _, _, ha => nomatch ha
  | _ + 1, _, _, _, _, _, _, ha => Step.out_mono (fun _ h => run_mono h 1) (run_cons_out .. ▸ ha)

theorem toOut_out {α} {r : Res α} {k : α → Step} {g : St → Out} (h : Step.out (r.toOut k) g = .accept) :
    ∃ a, r = .ok a ∧ Step.out (k a) g = .accept := by
  cases r with
  | ok a => exact ⟨a, rfl, h⟩
  | fail => cases h
  | err e => cases h

/-! ## opcodes that are functions of the stack -/

theorem opIs_0 : OpIs false 0 (.num 0) := .of_pair (by decide)
theorem opIs_1 : OpIs false 0x51 (.num 1) := .of_pair (by decide)
theorem opIs_dup : OpIs false 0x76 .dup := .of_pair (by decide)
theorem opIs_hash160 : OpIs false 0xA9 .hash160 := .of_pair (by decide)
theorem opIs_equal : OpIs false 0x87 .equal := .of_pair (by decide)
theorem opIs_equalverify : OpIs false 0x88 .equalverify := .of_pair (by decide)
theorem opIs_tap_equal : OpIs true 0x87 .equal := .of_pair (by decide)
theorem opIs_checksig : OpIs false 0xAC .checksig := ⟨table_sig.1, by decide, by decide⟩
theorem opIs_checkmultisig : OpIs false 0xAE .checkmultisig := ⟨table_sig.2, by decide, by decide⟩

theorem mem_opPairs_num : ∀ n, n < 16 → (81 + n, OpFn.num ((n + 1 : Nat) : Int)) ∈ opPairs := by decide

theorem opIs_num (tap : Bool) (n : Nat) (h1 : 1 ≤ n) (h16 : n ≤ 16) : OpIs tap (80 + n) (.num (n : Int)) := by
  obtain ⟨k, rfl⟩ : ∃ k, n = k + 1 := ⟨n - 1, by omega⟩
  rw [show 80 + (k + 1) = 81 + k by omega]
  exact .of_pair (mem_opPairs_num k (by omega))

theorem step_op {t : Bool} {c : Nat} {fn : OpFn} (h : OpIs t c fn) (cfg : Cfg) (env : Env) (st : St)
    (ht : st.tap = t) :
    step cfg env st (.op c) = (applyStackFn cfg env fn st.stack).toOut fun s => .ok { st with stack := s } :=
  h.stepOp cfg env st ht

theorem step_num (cfg : Cfg) (env : Env) (st : St) (n : Nat) (h1 : 1 ≤ n) (h16 : n ≤ 16) :
    step cfg env st (.op (80 + n)) = .ok { st with stack := encodeNum (n : Int) :: st.stack } := by
  rw [step_op (opIs_num st.tap n h1 h16) cfg env st rfl]
  rfl

theorem run_op_ok {tap : Bool} {c : Nat} {fn : OpFn} (h : OpIs tap c fn) {cfg : Cfg} {env : Env} {S s : Stack}
    (hs : applyStackFn cfg env fn S = .ok s) (f : Nat) (rest : List Cmd) (alt : Stack) (wit : Option (List Bytes)) :
    run cfg env (f + 1) ⟨.op c :: rest, S, alt, wit, tap⟩ = run cfg env f ⟨rest, s, alt, wit, tap⟩ := by
  rw [run_cons _ _ _ _ _ _ rfl, step_op h _ _ _ rfl, hs]
  rfl

theorem run_op_iff {tap : Bool} {c : Nat} {fn : OpFn} (h : OpIs tap c fn) {cfg : Cfg} {env : Env} {S : Stack}
    (f : Nat) (rest : List Cmd) (alt : Stack) (wit : Option (List Bytes)) :
    run cfg env (f + 1) ⟨.op c :: rest, S, alt, wit, tap⟩ = .accept ↔
      ∃ s, applyStackFn cfg env fn S = .ok s ∧ run cfg env f ⟨rest, s, alt, wit, tap⟩ = .accept := by
  rw [run_cons _ _ _ _ _ _ rfl, step_op h _ _ _ rfl]
  cases applyStackFn cfg env fn S with
  | ok s => exact ⟨fun ha => ⟨s, rfl, ha⟩, fun ⟨_, e, ha⟩ => by cases e; exact ha⟩
  | fail => exact ⟨nofun, nofun⟩
  | err e => exact ⟨nofun, nofun⟩

/-! ## pushes -/

/-- F06f repaired: a witness program is looked for only when no command remains, so a push in front of
    commands that are not the p2sh pattern is just a push -/
theorem step_push_mid (env : Env) (st : St) (b : Bytes) (hne : st.cmds ≠ [])
    (hp : ∀ h160, st.cmds ≠ [.op 0xA9, .push h160, .op 0x87]) :
    step Cfg.repaired env st (.push b) = .ok { st with stack := b :: st.stack } := by
  have h1 : p2shRule env { st with stack := b :: st.stack } b = .ok { st with stack := b :: st.stack } := by
    unfold p2shRule
    split
    · rename_i h160 heq; exact absurd heq (hp h160)
    · rfl
  simp only [step, h1, Cfg.repaired, Bool.true_and]
  cases hc : st.cmds with
  | nil => exact absurd hc hne
  | cons a r => simp

theorem run_push {c : Cmd} (hc : c ≠ .op 0xA9) (env : Env) (f : Nat) (b : Bytes) (rest : List Cmd) (S alt : Stack)
    (wit : Option (List Bytes)) (tap : Bool) :
    run Cfg.repaired env (f + 1) ⟨.push b :: c :: rest, S, alt, wit, tap⟩ =
      run Cfg.repaired env f ⟨c :: rest, b :: S, alt, wit, tap⟩ := by
  rw [run_cons _ _ _ _ _ _ rfl, step_push_mid env _ b (List.cons_ne_nil c rest) fun _ e => hc (List.cons.inj e).1]

/-- pushes in front of a `tail` that does not start with OP_HASH160: the p2sh pattern begins with that opcode,
    so it cannot be what is left while a push or the head of `tail` comes next -/
theorem run_pushes (env : Env) (tail : List Cmd) (hc : ∃ c r, tail = c :: r ∧ c ≠ .op 0xA9) :
    ∀ (items : List Bytes) (S alt : Stack) (wit : Option (List Bytes)) (tap : Bool) (fuel : Nat),
      run Cfg.repaired env (fuel + items.length) ⟨items.map .push ++ tail, S, alt, wit, tap⟩
        = run Cfg.repaired env fuel ⟨tail, items.reverse ++ S, alt, wit, tap⟩ := by
  obtain ⟨c, r, rfl, hc⟩ := hc
  intro items
  induction items with
  | nil => intro S alt wit tap fuel; rfl
  | cons b bs ih =>
    intro S alt wit tap fuel
    rw [List.length_cons, ← Nat.add_assoc, List.map_cons, List.cons_append, List.reverse_cons, List.append_assoc]
    cases bs with
    | nil => exact run_push hc env fuel b r S alt wit tap
    | cons b' bs' =>
      rw [List.map_cons, List.cons_append, run_push (c := .push b') nofun]
      exact ih (b :: S) alt wit tap fuel

theorem run_pushes_accept (env : Env) (tail : List Cmd) (hc : ∃ c r, tail = c :: r ∧ c ≠ .op 0xA9)
    (items : List Bytes) (S alt : Stack) (wit : Option (List Bytes)) (tap : Bool) (fuel : Nat)
    (ha : run Cfg.repaired env fuel ⟨items.map .push ++ tail, S, alt, wit, tap⟩ = .accept) :
    run Cfg.repaired env fuel ⟨tail, items.reverse ++ S, alt, wit, tap⟩ = .accept :=
  run_pushes env tail hc items S alt wit tap fuel ▸ run_mono ha items.length

/-! ## the p2pkh commands -/

theorem op_equalverify_cons (a b : Bytes) (s : Stack) :
    op_equalverify (a :: b :: s) = if a == b then .ok s else .fail := by
  simp only [op_equalverify, op_equal, Res.bind, op_verify_boolNum]

theorem op_checksig_ok {env : Env} {S s : Stack} (h : op_checksig env S = .ok s) :
    ∃ pk tmp r der ht, S = pk :: tmp :: r ∧ splitHashType tmp = .ok (der, ht) ∧ env.pkErr pk = none ∧
      env.sigPre der ht = none ∧ s = boolNum (env.ecdsaOK pk ht der) :: r := by
  unfold op_checksig at h
  split at h
  · rename_i pk tmp r
    cases hsp : splitHashType tmp with
    | fail => rw [hsp] at h; cases h
    | err e => rw [hsp] at h; cases h
    | ok p =>
      obtain ⟨der, ht⟩ := p
      rw [hsp] at h
      cases hpk : env.pkErr pk with
      | some e => simp only [Res.bind, hpk, optErr] at h; cases h
      | none =>
        cases hsg : env.sigPre der ht with
        | some e => simp only [Res.bind, hpk, hsg, optErr] at h; cases h
        | none =>
          simp only [Res.bind, hpk, hsg, optErr, Res.ok.injEq] at h
          exact ⟨pk, tmp, r, der, ht, rfl, hsp, hpk, hsg, h.symm⟩
  · cases h

/-- "a signature by the key" as the interpreter sees it: the element splits into DER bytes and a hash
    type, key and signature parse, the digest can be computed, and the key verifies it -/
def EcdsaAuth (env : Env) (pk tmp : Bytes) : Prop :=
  ∃ der ht, splitHashType tmp = .ok (der, ht) ∧ env.pkErr pk = none ∧ env.sigPre der ht = none ∧
    env.ecdsaOK pk ht der = true

theorem p2pkh_tail_iff (env : Env) (h : Bytes) (S alt : Stack) (wit : Option (List Bytes)) (f : Nat) :
    run Cfg.repaired env (f + 5) ⟨p2pkhCommands h, S, alt, wit, false⟩ = .accept ↔
      ∃ pk tmp r, S = pk :: tmp :: r ∧ env.hash160 pk = h ∧ EcdsaAuth env pk tmp := by
  cases S with
  | nil =>
    rw [p2pkhCommands, run_op_iff opIs_dup]
    exact ⟨fun ⟨_, e, _⟩ => (nomatch e), fun ⟨_, _, _, e, _⟩ => (nomatch e)⟩
  | cons pk S' =>
    rw [p2pkhCommands, run_op_ok opIs_dup rfl, run_op_ok opIs_hash160 rfl, run_push (by simp),
      run_op_iff opIs_equalverify, show applyStackFn Cfg.repaired env .equalverify = op_equalverify from rfl]
    simp only [op_equalverify_cons, beq_iff_eq]
    by_cases hq : h = env.hash160 pk
    · simp only [hq, if_true, Res.ok.injEq, exists_eq_left', run_op_iff opIs_checksig]
      constructor
      · rintro ⟨s5, e5, ha5⟩
        obtain ⟨pk', tmp, r, der, ht, e, hsp, hpk, hsg, rfl⟩ := op_checksig_ok e5
        cases e
        have hv := (finalTest_accept _ _).mp (run_accept_nil rfl ha5)
        rw [decodeNum_boolNum] at hv
        exact ⟨pk, tmp, r, rfl, rfl, der, ht, hsp, hpk, hsg, by simpa using hv⟩
      · rintro ⟨_, tmp, r, e, -, der, ht, hsp, hpk, hsg, hv⟩
        cases e
        -- stated for `op_checksig`: with `applyStackFn` in the simp set every arm of its match is tried, which is dear
        have e5 : op_checksig env (pk :: tmp :: r) = .ok (boolNum true :: r) := by
          simp only [op_checksig, hsp, Res.bind, hpk, hsg, optErr, hv]
        exact ⟨_, e5, (run_nil _ _ _ _ rfl).trans ((finalTest_accept _ _).mpr (by decide))⟩
    · simp only [hq, if_false, reduceCtorEq, false_and, exists_false, false_iff]
      rintro ⟨_, _, _, e, hh, -⟩
      cases e
      exact hq hh.symm

/-! ## native P2WPKH -/

theorem step_push_end (env : Env) (st : St) (b : Bytes) (he : st.cmds = []) :
    step Cfg.repaired env st (.push b) = witnessRules Cfg.repaired env { st with stack := b :: st.stack } := by
  obtain ⟨cmds, S, alt, wit, tap⟩ := st
  simp only at he
  subst he
  simp [step, p2shRule, Cfg.repaired]

theorem run_push_end (env : Env) (f : Nat) (b : Bytes) (S alt : Stack) (wit : Option (List Bytes)) (tap : Bool) :
    run Cfg.repaired env (f + 1) ⟨[.push b], S, alt, wit, tap⟩ =
      Step.out (witnessRules Cfg.repaired env ⟨[], b :: S, alt, wit, tap⟩) (run Cfg.repaired env f) := by
  rw [run_cons_out, step_push_end _ _ _ rfl]

theorem witnessRules_p2wpkh (cfg : Cfg) (env : Env) (cmds : List Cmd) (h : Bytes) (alt : Stack)
    (wit : Option (List Bytes)) (tap : Bool) (hl : h.length = 20) :
    witnessRules cfg env ⟨cmds, [h, []], alt, wit, tap⟩ =
      match wit with
      | none => .error (.err .attributeError)
      | some items => .ok ⟨cmds ++ items.map .push ++ p2pkhCommands h, [], alt, wit, tap⟩ := by
  simp only [witnessRules, hl, and_self, if_true, List.append_assoc]
  cases wit <;> rfl

def p2wpkhSpk (h : Bytes) : List Cmd := [.op 0, .push h]

theorem run_p2wpkh_program (env : Env) (h : Bytes) (hl : h.length = 20) (alt : Stack) (wit : Option (List Bytes))
    (fuel : Nat) :
    run Cfg.repaired env (fuel + 2) ⟨p2wpkhSpk h, [], alt, wit, false⟩ =
      match wit with
      | none => .err .attributeError
      | some items => run Cfg.repaired env fuel ⟨items.map .push ++ p2pkhCommands h, [], alt, wit, false⟩ := by
  rw [p2wpkhSpk, run_op_ok opIs_0 (s := [[]]) rfl, run_push_end, witnessRules_p2wpkh _ _ _ _ _ _ _ hl]
  cases wit <;> rfl

/-! ## the scan of op_if / op_notif stops at an ENDIF, so never inside a tail without one -/

theorem scanIf_cons (a : Cmd) (items : List Cmd) (need : Nat) (inF : Bool) (t f : List Cmd) :
    (a = .op 104 ∧ scanIf (a :: items) need inF t f = some (t.reverse, f.reverse, items)) ∨
    ∃ n i t' f', scanIf (a :: items) need inF t f = scanIf items n i t' f' := by
  have app : ∀ n, ∃ n' i t' f', (if inF = true then scanIf items n inF t (a :: f) else scanIf items n inF (a :: t) f)
      = scanIf items n' i t' f' := by
    intro n
    cases inF
    · exact ⟨_, _, _, _, rfl⟩
    · exact ⟨_, _, _, _, rfl⟩
  simp only [scanIf]
  split
  · exact Or.inr (app _)
  · exact Or.inr (app _)
  · by_cases h1 : need = 1
    · exact Or.inr ⟨_, _, _, _, by rw [if_pos h1]⟩
    · rw [if_neg h1]; exact Or.inr (app _)
  · by_cases h1 : need = 1
    · exact Or.inl ⟨rfl, by rw [if_pos h1]⟩
    · rw [if_neg h1]; exact Or.inr (app _)
  · exact Or.inr (app _)

theorem scanIf_stops : ∀ (items : List Cmd) (need : Nat) (inF : Bool) (t f t' f' rest : List Cmd),
    scanIf items need inF t f = some (t', f', rest) → ∃ pre, items = pre ++ .op 104 :: rest
  | [], _, _, _, _, _, _, _, h => by simp [scanIf] at h
  | a :: items, need, inF, t, f, t', f', rest, h => by
    rcases scanIf_cons a items need inF t f with ⟨rfl, e⟩ | ⟨n, i, t₁, f₁, e⟩
    · rw [e] at h
      cases h
      exact ⟨[], rfl⟩
    · rw [e] at h
      obtain ⟨pre, rfl⟩ := scanIf_stops items _ _ _ _ _ _ _ h
      exact ⟨a :: pre, rfl⟩

theorem scanIf_suffix (A B : List Cmd) (hB : ∀ c ∈ B, c ≠ .op 104) {need : Nat} {inF : Bool}
    {t f t' f' rest : List Cmd} (h : scanIf (A ++ B) need inF t f = some (t', f', rest)) : ∃ R, rest = R ++ B := by
  obtain ⟨pre, e⟩ := scanIf_stops _ _ _ _ _ _ _ _ h
  rcases List.append_eq_append_iff.mp e with ⟨a', rfl, e'⟩ | ⟨c', rfl, e'⟩
  · exact absurd rfl (hB _ (e' ▸ by simp))
  · cases c' with
    | nil => exact absurd rfl (hB _ (by rw [List.nil_append] at e'; rw [← e']; simp))
    | cons x c' =>
      injection e' with _ e'
      exact ⟨c', e'⟩

/-! ## the command list keeps ending with the scriptPubKey -/

theorem op_ifx_suffix (neg : Bool) (S : Stack) (X spk : List Cmd) (hB : ∀ c ∈ spk, c ≠ .op 104)
    (s : Stack) (cmds' : List Cmd) (h : op_ifx neg S (X ++ spk) = .ok (s, cmds')) :
    ∃ X', cmds' = X' ++ spk := by
  unfold op_ifx at h
  cases S with
  | nil => cases h
  | cons e S' =>
    simp only at h
    cases hs : scanIf (X ++ spk) 1 false [] [] with
    | none => rw [hs] at h; cases h
    | some r =>
      obtain ⟨t, f, rest⟩ := r
      rw [hs] at h
      obtain ⟨R, hR⟩ := scanIf_suffix X spk hB hs
      simp only at h
      split at h
      · simp only [Res.ok.injEq, Prod.mk.injEq] at h
        exact ⟨f ++ R, by rw [← h.2, hR, List.append_assoc]⟩
      · simp only [Res.ok.injEq, Prod.mk.injEq] at h
        exact ⟨t ++ R, by rw [← h.2, hR, List.append_assoc]⟩

theorem step_keeps_suffix (env : Env) (spk : List Cmd) (h4 : 4 ≤ spk.length) (hB : ∀ c ∈ spk, c ≠ .op 104)
    (X : List Cmd) (S alt : Stack) (wit : Option (List Bytes)) {tap : Bool} (c : Cmd) (g : St → Out)
    (h : Step.out (step Cfg.repaired env ⟨X ++ spk, S, alt, wit, tap⟩ c) g = .accept) :
    ∃ X' S' alt', g ⟨X' ++ spk, S', alt', wit, tap⟩ = .accept := by
  cases c with
  | push b =>
    rw [step_push_mid env _ b (by intro e; simp at e; rw [e.2] at h4; simp at h4)
      (by intro h160 e; have := congrArg List.length e; simp at this; omega)] at h
    exact ⟨X, b :: S, alt, h⟩
  | op k =>
    simp only [step, stepOp] at h
    split at h
    · cases h
    · split at h
      · cases h
      · split at h
        · cases h
        · split at h
          · obtain ⟨a, ea, ka⟩ := toOut_out h
            obtain ⟨X', hX⟩ := op_ifx_suffix false S X spk hB a.1 a.2 ea
            exact ⟨X', a.1, alt, hX ▸ ka⟩
          · obtain ⟨a, ea, ka⟩ := toOut_out h
            obtain ⟨X', hX⟩ := op_ifx_suffix true S X spk hB a.1 a.2 ea
            exact ⟨X', a.1, alt, hX ▸ ka⟩
          · obtain ⟨a, _, ka⟩ := toOut_out h
            exact ⟨X, a.1, a.2, ka⟩
          · obtain ⟨a, _, ka⟩ := toOut_out h
            exact ⟨X, a.1, a.2, ka⟩
          · obtain ⟨a, _, ka⟩ := toOut_out h
            exact ⟨X, a, alt, ka⟩

theorem run_prefix_accept (env : Env) (spk : List Cmd) (h4 : 4 ≤ spk.length) (hB : ∀ c ∈ spk, c ≠ .op 104)
    (wit : Option (List Bytes)) {tap : Bool} :
    ∀ (fuel : Nat) (X : List Cmd) (S alt : Stack),
      run Cfg.repaired env fuel ⟨X ++ spk, S, alt, wit, tap⟩ = .accept →
      ∃ S' alt', (X = [] → S' = S ∧ alt' = alt) ∧ run Cfg.repaired env fuel ⟨spk, S', alt', wit, tap⟩ = .accept
  | _, [], S, alt, ha => ⟨S, alt, fun _ => ⟨rfl, rfl⟩, ha⟩
  | 0, _ :: _, _, _, ha => nomatch ha
  | n + 1, c :: X', S, alt, ha => by
    rw [List.cons_append, run_cons_out] at ha
    obtain ⟨X'', S'', alt'', ha'⟩ := step_keeps_suffix env spk h4 hB X' S alt wit c _ ha
    obtain ⟨S', alt', _, h⟩ := run_prefix_accept env spk h4 hB wit n X'' S'' alt'' ha'
    exact ⟨S', alt', nofun, run_mono h 1⟩


/-! ## OP_CHECKMULTISIG: signatures against keys, order preserving -/

/-- the signatures (in the order they are popped) verify for an order-preserving selection of the
    points (in the order they are popped): signature j is valid for a key that comes after the key of
    signature j-1 — "m signatures valid for m distinct script keys in script order" -/
inductive SigMatch (env : Env) : List (Bytes × Nat) → List Bytes → Prop where
  | nil (pts : List Bytes) : SigMatch env [] pts
  | cons (der : Bytes) (ht : Nat) (sigs : List (Bytes × Nat)) (pre : List Bytes) (p : Bytes) (rest : List Bytes) :
      env.ecdsaOK p ht der = true → SigMatch env sigs rest → SigMatch env ((der, ht) :: sigs) (pre ++ p :: rest)

theorem SigMatch.extend {env : Env} {sigs : List (Bytes × Nat)} {pts : List Bytes} (h : SigMatch env sigs pts)
    (extra : List Bytes) : SigMatch env sigs (extra ++ pts) := by
  cases h with
  | nil => exact SigMatch.nil _
  | cons der ht sigs pre p rest hv hm =>
    rw [← List.append_assoc]
    exact SigMatch.cons der ht sigs (extra ++ pre) p rest hv hm

theorem consumePoints_some {env : Env} {der : Bytes} {ht : Nat} :
    ∀ {pts rest : List Bytes}, consumePoints env der ht pts = some rest →
      ∃ pre p, pts = pre ++ p :: rest ∧ env.ecdsaOK p ht der = true
  | [], _, h => by simp [consumePoints] at h
  | q :: qs, rest, h => by
    simp only [consumePoints] at h
    split at h
    · rename_i hv
      simp only [Option.some.injEq] at h
      exact ⟨[], q, by simp [h], hv⟩
    · obtain ⟨pre, p, e, hv⟩ := consumePoints_some h
      exact ⟨q :: pre, p, by simp [e], hv⟩

/-- with a valid key present the loop stops at or before it: what is left contains everything after it -/
theorem consumePoints_of_valid {env : Env} {der : Bytes} {ht : Nat} :
    ∀ (pre : List Bytes) (p : Bytes) (rest : List Bytes), env.ecdsaOK p ht der = true →
      ∃ extra, consumePoints env der ht (pre ++ p :: rest) = some (extra ++ rest)
  | [], p, rest, hv => ⟨[], by simp [consumePoints, hv]⟩
  | q :: qs, p, rest, hv => by
    simp only [List.cons_append, consumePoints]
    split
    · exact ⟨qs ++ [p], by simp⟩
    · exact consumePoints_of_valid qs p rest hv

/-- the first key that verifies is as good as any (`SigMatch.extend`) -/
theorem sigMatch_cons_iff {env : Env} {der : Bytes} {ht : Nat} {sigs : List (Bytes × Nat)} {pts : List Bytes} :
    SigMatch env ((der, ht) :: sigs) pts ↔
      ∃ rest, consumePoints env der ht pts = some rest ∧ SigMatch env sigs rest := by
  constructor
  · intro h
    cases h with
    | cons _ _ _ pre p rest hv hm =>
      obtain ⟨extra, hc⟩ := consumePoints_of_valid (env := env) pre p rest hv
      exact ⟨_, hc, hm.extend extra⟩
  · rintro ⟨rest, hc, hm⟩
    obtain ⟨pre, p, rfl, hv⟩ := consumePoints_some hc
    exact SigMatch.cons der ht sigs pre p rest hv hm

theorem multisigLoop_iff {env : Env} : ∀ (sigs : List (Bytes × Nat)) (pts : List Bytes),
    multisigLoop Cfg.repaired env sigs pts = none ↔
      SigMatch env sigs pts ∧ ∀ s ∈ sigs, env.sigPre s.1 s.2 = none
  | [], pts => ⟨fun _ => ⟨SigMatch.nil _, nofun⟩, fun _ => rfl⟩
  | (der, ht) :: sigs, pts => by
    rw [sigMatch_cons_iff, List.forall_mem_cons, multisigLoop]
    cases env.sigPre der ht with
    | some e => exact ⟨nofun, fun h => nomatch h.2.1⟩
    | none =>
      cases hc : consumePoints env der ht pts with
      | none =>
        dsimp only
        split <;> simp [Cfg.repaired]
      | some rest =>
        have : pts.length ≠ 0 := by
          cases pts with
          | nil => cases hc
          | cons _ _ => simp
        simp only [this, if_false, multisigLoop_iff sigs rest, Option.some.injEq, exists_eq_left', true_and]

/-- `m pk_1 … pk_n n OP_CHECKMULTISIG` -/
def multisigScript (m : Nat) (pks : List Bytes) : List Cmd :=
  .op (80 + m) :: (pks.map .push ++ [.op (80 + pks.length), .op 0xAE])

theorem op_checkmultisig_script_iff (env : Env) (m : Nat) (pks : List Bytes) (S s : Stack) :
    op_checkmultisig Cfg.repaired env (encodeNum pks.length :: (pks.reverse ++ encodeNum m :: S)) = .ok s ↔
      (m + 1 ≤ S.length ∧ ∃ sigs, splitSigs (S.take m) = .ok sigs ∧ SigMatch env sigs pks.reverse ∧
        firstPkErr env pks.reverse = none ∧ ∀ s ∈ sigs, env.sigPre s.1 s.2 = none) ∧
      s = encodeNum 1 :: S.drop (m + 1) := by
  unfold op_checkmultisig
  have h1 : ¬ (((pks.reverse ++ encodeNum (m : Int) :: S).length : Nat) : Int) < (pks.length : Int) + 1 := by
    simp; omega
  simp only [decodeNum_encodeNum, Int.toNat_natCast, if_neg h1, List.take_left' (List.length_reverse ..),
    List.drop_left' (List.length_reverse ..)]
  by_cases hlen : S.length < m + 1
  · rw [if_pos (by omega)]
    exact ⟨nofun, fun h => absurd h.1.1 (by omega)⟩
  · rw [if_neg (by omega), List.drop_eq_getElem_cons (by omega : m < S.length)]
    cases splitSigs (S.take m) with
    | fail => exact ⟨nofun, fun ⟨⟨_, _, h, _⟩, _⟩ => nomatch h⟩
    | err e => exact ⟨nofun, fun ⟨⟨_, _, h, _⟩, _⟩ => nomatch h⟩
    | ok sigs =>
      have hl := multisigLoop_iff (env := env) sigs pks.reverse
      simp only [Res.bind, Res.ok.injEq, exists_eq_left']
      cases hfp : firstPkErr env pks.reverse with
      | some e =>
        refine ⟨fun h => ?_, fun ⟨⟨_, _, hp, _⟩, _⟩ => nomatch hp⟩
        dsimp only at h
        split at h <;> cases h
      | none =>
        cases hml : multisigLoop Cfg.repaired env sigs pks.reverse with
        | none =>
          obtain ⟨hm, hp⟩ := hl.mp hml
          exact ⟨fun h => ⟨⟨by omega, hm, rfl, hp⟩, (Res.ok.inj h).symm⟩, fun h => h.2 ▸ rfl⟩
        | some r =>
          refine ⟨fun h => ?_, fun ⟨⟨_, hm, _, hp⟩, _⟩ => nomatch hml.symm.trans (hl.mpr ⟨hm, hp⟩)⟩
          cases r with
          | err e =>
            dsimp only at h
            split at h <;> cases h
          | _ => cases h

theorem multisig_script_iff (env : Env) (m : Nat) (pks : List Bytes) (hm : 1 ≤ m ∧ m ≤ 16)
    (hn : 1 ≤ pks.length ∧ pks.length ≤ 16) (S alt : Stack) (wit : Option (List Bytes)) (f : Nat) :
    run Cfg.repaired env (f + (pks.length + 3)) ⟨multisigScript m pks, S, alt, wit, false⟩ = .accept ↔
      m + 1 ≤ S.length ∧ ∃ sigs, splitSigs (S.take m) = .ok sigs ∧ SigMatch env sigs pks.reverse ∧
        firstPkErr env pks.reverse = none ∧ ∀ s ∈ sigs, env.sigPre s.1 s.2 = none := by
  rw [show f + (pks.length + 3) = (f + 1 + 1 + pks.length) + 1 by omega, multisigScript,
    run_op_ok (opIs_num false m hm.1 hm.2) rfl,
    run_pushes env [.op (80 + pks.length), .op 0xAE] ⟨_, _, rfl, by simp; omega⟩,
    run_op_ok (opIs_num false _ hn.1 hn.2) rfl, run_op_iff opIs_checkmultisig]
  rw [show applyStackFn Cfg.repaired env .checkmultisig = op_checkmultisig Cfg.repaired env from rfl]
  simp only [op_checkmultisig_script_iff]
  refine ⟨fun ⟨_, h, _⟩ => h.1, fun h => ⟨_, ⟨h, rfl⟩, ?_⟩⟩
  rw [run_nil _ _ _ _ rfl]
  exact (finalTest_accept _ _).mpr (by rw [decodeNum_encodeNum]; decide)

/-! ## P2SH -/

def p2shSpk (h : Bytes) : List Cmd := [.op 0xA9, .push h, .op 0x87]

/-- the last push of the scriptSig in front of a p2sh scriptPubKey: the BIP16 rule -/
theorem step_push_p2sh (env : Env) (b h : Bytes) (hl : h.length = 20) (S alt : Stack)
    (wit : Option (List Bytes)) (tap : Bool) :
    step Cfg.repaired env ⟨p2shSpk h, S, alt, wit, tap⟩ (.push b) =
      if h == env.hash160 b then
        match parseCommands b with
        | none => .error (.err .runtimeError)
        | some cs =>
          if !cs.isEmpty then .ok ⟨cs, S, alt, wit, tap⟩
          else witnessRules Cfg.repaired env ⟨cs, S, alt, wit, tap⟩
      else .error .reject := by
  simp only [step, p2shSpk, p2shRule, hl, if_true, op_hash160, hashOp, Res.toOut, op_equal, op_verify_boolNum]
  by_cases hq : h = env.hash160 b
  · simp only [hq, beq_self_eq_true, if_true]
    cases parseCommands b with
    | none => rfl
    | some cs => simp [Cfg.repaired]
  · have hq' : (h == env.hash160 b) = false := beq_eq_false_iff_ne.mpr hq
    simp [hq']

/-- `HASH160 <h> EQUAL` run as commands (the BIP16 rule did not fire) -/
theorem p2sh_tail_iff (env : Env) (h : Bytes) (S alt : Stack) (wit : Option (List Bytes)) (f : Nat) :
    run Cfg.repaired env (f + 3) ⟨p2shSpk h, S, alt, wit, false⟩ = .accept ↔
      ∃ top r, S = top :: r ∧ env.hash160 top = h := by
  cases S with
  | nil =>
    rw [p2shSpk, run_op_iff opIs_hash160]
    exact ⟨fun ⟨_, e, _⟩ => (nomatch e), fun ⟨_, _, e, _⟩ => (nomatch e)⟩
  | cons top r =>
    rw [p2shSpk, run_op_ok opIs_hash160 rfl, run_push (by simp), run_op_ok opIs_equal rfl, run_nil _ _ _ _ rfl,
      finalTest_accept, decodeNum_boolNum]
    by_cases hq : h = env.hash160 top
    · simp [hq]
    · simp only [beq_eq_false_iff_ne.mpr hq, Bool.false_eq_true, if_false, ne_eq, not_true_eq_false, false_iff]
      rintro ⟨_, _, ⟨rfl, -⟩, e⟩
      exact hq e.symm

def OpFn.isSmallNum : OpFn → Bool
  | .num j => decide ((encodeNum j).length ≤ 1)
  | _ => false

/-- every entry of the legacy table up to OP_16 is one of the number pushes of `opPairs` -/
theorem table_small : ((table false).all fun p =>
    decide (96 < p.1) || opPairs.any fun q => q.1 == p.1 && q.2.isSmallNum) = true := by decide

theorem resolve_small (k : Nat) (hk : k ≤ 96) :
    resolve false k = none ∨
    ∃ j : Int, resolve false k = some (.num j) ∧ (OpFn.num j).conv = convOf k ∧ (encodeNum j).length ≤ 1 := by
  cases hf : (table false).find? (fun p => p.1 == k) with
  | none => exact Or.inl (by simp only [resolve, lookup, hf]; rfl)
  | some p =>
    have hp := List.all_eq_true.mp table_small p (List.mem_of_find?_eq_some hf)
    have hpk : p.1 = k := by simpa using List.find?_some hf
    rw [Bool.or_eq_true, decide_eq_true_eq, List.any_eq_true] at hp
    rcases hp with hp | ⟨⟨c, fn⟩, hq, hqp⟩
    · omega
    · rw [Bool.and_eq_true, beq_iff_eq] at hqp
      obtain ⟨rfl, hs⟩ := hqp
      cases fn with
      | num j =>
        have hr : resolve false p.1 = some (.num j) := (table_pairs _ hq).1
        have hc : (OpFn.num j).conv = convOf p.1 := (table_pairs _ hq).2.1
        rw [hpk] at hr hc
        exact Or.inr ⟨j, hr, hc, by simpa [OpFn.isSmallNum] using hs⟩
      | _ => cases hs

theorem step_op_small (cfg : Cfg) (env : Env) (st : St) (ht : st.tap = false) (k : Nat) (hk : k ≤ 96) (g : St → Out)
    (h : Step.out (step cfg env st (.op k)) g = .accept) :
    ∃ j : Int, g { st with stack := encodeNum j :: st.stack } = .accept ∧ (encodeNum j).length ≤ 1 := by
  rcases resolve_small k hk with hn | ⟨j, hr, hc, hl⟩
  · simp only [step, stepOp] at h
    simp only [resolve] at hn
    cases hl : lookup (table false) k with
    | none => rw [ht, hl] at h; cases h
    | some name =>
      rw [hl] at hn
      simp only [Option.bind] at hn
      rw [ht, hl] at h
      simp only [hn] at h
      cases h
  · rw [step_op ⟨hr, hc, by simp⟩ cfg env st ht] at h
    exact ⟨j, h, hl⟩

theorem p2shSpk_no_endif (h : Bytes) (pre : Cmd) (hp : pre ≠ .op 104) : ∀ c ∈ pre :: p2shSpk h, c ≠ .op 104 := by
  intro c hc
  simp only [p2shSpk, List.mem_cons, List.mem_nil_iff, or_false] at hc
  rcases hc with rfl | rfl | rfl | rfl
  · exact hp
  · simp
  · simp
  · simp

/-! ## native P2WSH -/

def p2wshSpk (s : Bytes) : List Cmd := [.op 0, .push s]

theorem witnessRules_p2wsh (cfg : Cfg) (env : Env) (cmds : List Cmd) (s : Bytes) (alt : Stack)
    (wit : Option (List Bytes)) (tap : Bool) (hl : s.length = 32) :
    witnessRules cfg env ⟨cmds, [s, []], alt, wit, tap⟩ =
      match wit with
      | none => .error (.err .attributeError)
      | some items =>
        match items.reverse with
        | [] => .error (.err .indexError)
        | witnessScript :: initRev =>
          if s ≠ env.sha256 witnessScript then .error .reject
          else match parseCommands witnessScript with
            | none => .error (.err .runtimeError)
            | some cs => .ok ⟨cmds ++ initRev.reverse.map .push ++ cs, [], alt, wit, tap⟩ := by
  simp only [witnessRules, hl, true_and]
  have : ¬ ((32 : Nat) = 20) := by decide
  simp only [this, if_false, if_true]
  cases wit <;> rfl

theorem p2wsh_program_iff (env : Env) (s : Bytes) (hl : s.length = 32) (alt : Stack) (wit : Option (List Bytes))
    (fuel : Nat) :
    run Cfg.repaired env (fuel + 2) ⟨p2wshSpk s, [], alt, wit, false⟩ = .accept ↔
      ∃ init ws cs, wit = some (init ++ [ws]) ∧ s = env.sha256 ws ∧ parseCommands ws = some cs ∧
        run Cfg.repaired env fuel ⟨init.map .push ++ cs, [], alt, wit, false⟩ = .accept := by
  rw [p2wshSpk, run_op_ok opIs_0 (s := [[]]) rfl, run_push_end, witnessRules_p2wsh _ _ _ _ _ _ _ hl]
  cases wit with
  | none => exact ⟨nofun, nofun⟩
  | some items =>
    rcases List.eq_nil_or_concat items with rfl | ⟨init, ws, rfl⟩
    · exact ⟨nofun, fun ⟨init, _, _, e, _⟩ => by cases init <;> cases e⟩
    · simp only [List.concat_eq_append, List.reverse_append, List.reverse_singleton, List.singleton_append,
        List.reverse_reverse, List.nil_append]
      constructor
      · intro ha
        by_cases hsha : s = env.sha256 ws
        · rw [if_neg (not_not_intro hsha)] at ha
          cases hp : parseCommands ws with
          | none => rw [hp] at ha; cases ha
          | some cs => rw [hp] at ha; exact ⟨init, ws, cs, rfl, hsha, hp, ha⟩
        · rw [if_pos hsha] at ha; cases ha
      · rintro ⟨init', ws', cs, e, hsha, hp, ha⟩
        obtain ⟨rfl, e'⟩ := List.append_inj' (Option.some.inj e) rfl
        cases e'
        simpa [hsha, hp, Step.out_ok] using ha

/-! ## the Schnorr signature opcodes -/

def sigCount (env : Env) (x sig : Bytes) : Nat :=
  if schnorrCheck env x sig = .ok (some true) then 1 else 0

theorem op_checksigadd_schnorr_ok (env : Env) (x sig : Bytes) (c : Nat) (s s' : Stack) :
    op_checksigadd_schnorr env (x :: encodeNum (c : Int) :: sig :: s) = .ok s' ↔
      (∃ r, schnorrCheck env x sig = .ok r) ∧ encodeNum ((c + sigCount env x sig : Nat) : Int) :: s = s' := by
  simp only [op_checksigadd_schnorr, decodeNum_encodeNum, sigCount]
  cases schnorrCheck env x sig with
  | fail => simp [Res.bind]
  | err e => simp [Res.bind]
  | ok r =>
    cases r with
    | none => simp [Res.bind]
    | some b => cases b <;> simp [Res.bind]

theorem op_checksig_schnorr_ok (env : Env) (x sig : Bytes) (s s' : Stack) :
    op_checksig_schnorr env (x :: sig :: s) = .ok s' ↔
      (∃ r, schnorrCheck env x sig = .ok r) ∧ encodeNum ((sigCount env x sig : Nat) : Int) :: s = s' := by
  simp only [op_checksig_schnorr, sigCount]
  cases schnorrCheck env x sig with
  | fail => simp [Res.bind]
  | err e => simp [Res.bind]
  | ok r =>
    cases r with
    | none => simp [Res.bind]
    | some b => cases b <;> simp [Res.bind, boolNum]

theorem schnorrCheck_ne_fail (env : Env) (pk sig : Bytes) : schnorrCheck env pk sig ≠ .fail := by
  unfold schnorrCheck optErr
  repeat' split
  all_goals first | (simp; done) | (dsimp only; split <;> simp)

theorem op_checksig_schnorr_ne_fail (env : Env) (x sig : Bytes) : op_checksig_schnorr env [x, sig] ≠ .fail := by
  simp only [op_checksig_schnorr]
  cases hc : schnorrCheck env x sig with
  | fail => exact absurd hc (schnorrCheck_ne_fail env x sig)
  | err e => nofun
  | ok r => cases r <;> nofun

theorem keypath_final (env : Env) (x sig : Bytes) (r s : Stack)
    (h : op_checksig_schnorr env (x :: sig :: r) = .ok s) (hf : finalTest Cfg.repaired s = .accept) :
    schnorrCheck env x sig = .ok (some true) := by
  obtain ⟨_, rfl⟩ := (op_checksig_schnorr_ok env x sig r s).mp h
  have hn := (finalTest_accept _ _).mp hf
  rw [decodeNum_encodeNum, sigCount] at hn
  split at hn
  · assumption
  · exact absurd rfl hn

theorem tapleaf_single_iff (env : Env) (x0 : Bytes) (S alt : Stack) (wit : Option (List Bytes)) (f : Nat) :
    run Cfg.repaired env (f + 2) ⟨[.push x0, .op 0xAC], S, alt, wit, true⟩ = .accept ↔
      ∃ sig rest, S = sig :: rest ∧ schnorrCheck env x0 sig = .ok (some true) := by
  rw [run_push (by simp), run_op_iff opIs_tap_checksig]
  cases S with
  | nil => exact ⟨fun ⟨_, e, _⟩ => (nomatch e), fun ⟨_, _, e, _⟩ => (nomatch e)⟩
  | cons sig S' =>
    simp only [run_nil _ _ _ (St.mk [] _ alt wit true) rfl, List.cons.injEq]
    constructor
    · rintro ⟨s, e, hf⟩
      exact ⟨sig, S', ⟨rfl, rfl⟩, keypath_final env x0 sig S' s e hf⟩
    · rintro ⟨_, _, ⟨rfl, rfl⟩, hv⟩
      exact ⟨_, (op_checksig_schnorr_ok env x0 sig S' _).mpr ⟨⟨_, hv⟩, rfl⟩,
        (finalTest_accept _ _).mpr (by simp [sigCount, hv, decodeNum_encodeNum])⟩

/-! ## P2TR -/

def p2trSpk (x : Bytes) : List Cmd := [.op 0x51, .push x]

structure ScriptPath (env : Env) (x : Bytes) (alt : Stack) (items : List Bytes) : Prop where
  two : 1 < items.length
  ok : ∃ cb rawTap tapScript leafBytes f rest,
    cb ∈ items ∧ rawTap ∈ items ∧ env.cbErr cb = none ∧
    (∃ v, encodeVarstr rawTap = some v ∧ Script.parse v = some (tapScript, rest)) ∧
    (if rawTap ≠ [] then some rawTap else Script.rawSerialize tapScript) = some leafBytes ∧
    env.tapCommit cb leafBytes = .ok (x, true) ∧
    run Cfg.repaired env f ⟨(items.take (items.length - 2)).map .push ++ tapScript.cmds, [], alt, some items, true⟩
      = .accept

theorem fromEnd_mem {items : List Bytes} {k : Nat} {b : Bytes} (h : fromEnd items k = .ok b) : b ∈ items := by
  unfold fromEnd at h
  split at h
  · rename_i x hx
    simp only [Res.ok.injEq] at h
    subst h
    have := List.mem_of_getElem? hx
    simpa using this
  · cases h

theorem hasAnnex_true_length {items : List Bytes} (h : hasAnnex items = .ok true) : 2 ≤ items.length := by
  unfold hasAnnex at h
  split at h
  · cases h
  · rename_i hlt
    simp only [Gen.opAnnexMinItems] at hlt
    omega

theorem run_p2tr_accept (env : Env) (x : Bytes) (hl : x.length = 32) (alt : Stack)
    (wit : Option (List Bytes)) (fuel : Nat)
    (ha : run Cfg.repaired env fuel ⟨p2trSpk x, [], alt, wit, false⟩ = .accept) :
    ∃ items0 items, wit = some items0 ∧ (items = items0 ∨ items = items0.dropLast) ∧
      ((∃ sig, items = [sig] ∧ schnorrCheck env x sig = .ok (some true)) ∨ ScriptPath env x alt items) := by
  have hs := run_mono ha 2
  rw [p2trSpk, run_op_ok opIs_1 (s := [[1]]) rfl, run_push_end] at hs
  unfold witnessRules at hs
  have n20 : ¬ ((32 : Nat) = 20) := by decide
  have n1 : ¬ (([1] : Bytes) = []) := by simp
  simp only [hl, n20, n1, false_and, if_false, if_true, and_self] at hs
  cases wit with
  | none => cases hs
  | some items0 =>
    simp only at hs
    by_cases h0 : items0.length = 0
    · rw [if_pos h0] at hs; cases hs
    · rw [if_neg h0] at hs
      obtain ⟨annex, hann, hk⟩ := toOut_out hs
      refine ⟨items0, if annex then items0.dropLast else items0, rfl, by cases annex <;> simp, ?_⟩
      have hpos : 0 < (if annex = true then items0.dropLast else items0).length := by
        cases annex with
        | false => simp only [Bool.false_eq_true, if_false]; omega
        | true =>
          have := hasAnnex_true_length hann
          simp only [if_true, List.length_dropLast]
          omega
      generalize (if annex = true then items0.dropLast else items0) = items at hk hpos ⊢
      by_cases h1 : items.length = 1
      · left
        rw [if_pos h1] at hk
        match items, h1 with
        | [sig], _ =>
          simp only at hk
          cases hc : op_checksig_schnorr env [x, sig] with
          | ok s =>
            rw [hc] at hk
            exact ⟨sig, rfl, keypath_final env x sig [] s hc (run_accept_nil rfl hk)⟩
          | fail => exact absurd hc (op_checksig_schnorr_ne_fail env x sig)
          | err e => rw [hc] at hk; cases hk
      · right
        have h2 : items.length > 1 := by omega
        rw [if_neg h1, if_pos h2] at hk
        obtain ⟨a2, _, hk⟩ := toOut_out hk
        obtain ⟨cb, hcb, hk⟩ := toOut_out hk
        split at hk
        · cases hk
        · rename_i hcbe
          obtain ⟨a3, _, hk⟩ := toOut_out hk
          obtain ⟨rawTap, hraw, hk⟩ := toOut_out hk
          split at hk
          · cases hk
          · rename_i v hv
            split at hk
            · cases hk
            · rename_i tapScript rest hparse
              split at hk
              · cases hk
              · rename_i leafBytes hleaf
                split at hk
                · cases hk
                · rename_i xonly parityOK htc
                  cases parityOK with
                  | false => cases hk
                  | true =>
                    by_cases hx : xonly = x
                    · subst hx
                      simp only [Bool.not_true, Bool.false_eq_true, if_false, ne_eq, not_true_eq_false] at hk
                      exact ⟨h2, cb, rawTap, tapScript, leafBytes, fuel, rest, fromEnd_mem hcb, fromEnd_mem hraw, hcbe,
                        ⟨v, hv, hparse⟩, by simpa [Cfg.repaired] using hleaf, htc, hk⟩
                    · simp only [Bool.not_true, Bool.false_eq_true, if_false, ne_eq, hx, not_false_eq_true,
                        if_true] at hk
                      cases hk


theorem run_p2tr_keypath (env : Env) (x sig : Bytes) (hl : x.length = 32)
    (hv : schnorrCheck env x sig = .ok (some true)) (alt : Stack) (f : Nat) :
    run Cfg.repaired env (f + 2) ⟨p2trSpk x, [], alt, some [sig], false⟩ = .accept := by
  rw [p2trSpk, run_op_ok opIs_1 (s := [[1]]) rfl, run_push_end]
  have n20 : ¬ ((32 : Nat) = 20) := by decide
  have n1 : ¬ (([1] : Bytes) = []) := by simp
  have ha : hasAnnex [sig] = .ok false := by simp [hasAnnex, Gen.opAnnexMinItems]
  have hc : op_checksig_schnorr env [x, sig] = .ok [boolNum true] := by simp [op_checksig_schnorr, hv, Res.bind]
  simp only [witnessRules, hl, n20, n1, false_and, if_false, if_true, and_self,
    List.length_cons, List.length_nil, ha, Res.toOut, Bool.false_eq_true, hc, Nat.zero_add, Nat.succ_ne_zero, Step.out_ok]
  rw [run_nil _ _ _ _ rfl]
  exact (finalTest_accept _ _).mpr (by decide)

/-- the last two witness items of a script-path spend of `OP_1 <x>`: non-empty script bytes `rawTap` that
    `Script.parse` reads (behind their length prefix) as `tapScript`, and a control block `cb` that does not
    start with the annex tag, parses, and commits the script bytes to `x` -/
structure ScriptPathEnd (env : Env) (x rawTap cb : Bytes) (tapScript : Script.Script) : Prop where
  noAnnex : ∃ b0 r0, cb = b0 :: r0 ∧ b0.toNat ≠ 80
  cbOK : env.cbErr cb = none
  parses : ∃ v rest, encodeVarstr rawTap = some v ∧ Script.parse v = some (tapScript, rest)
  nonempty : rawTap ≠ []
  commits : env.tapCommit cb rawTap = .ok (x, true)

theorem run_p2tr_scriptpath {env : Env} {x rawTap cb : Bytes} {tapScript : Script.Script}
    (P : ScriptPathEnd env x rawTap cb tapScript) (hl : x.length = 32) (alt : Stack) (sigs : List Bytes) (fuel : Nat) :
    run Cfg.repaired env (fuel + 2) ⟨p2trSpk x, [], alt, some (sigs ++ [rawTap, cb]), false⟩ =
      run Cfg.repaired env fuel ⟨sigs.map .push ++ tapScript.cmds, [], alt, some (sigs ++ [rawTap, cb]), true⟩ := by
  obtain ⟨⟨b0, r0, hcb, hb0⟩, hcbe, ⟨v, rest, hv, hparse⟩, hraw, htc⟩ := P
  rw [p2trSpk, run_op_ok opIs_1 (s := [[1]]) rfl, run_push_end]
  have n20 : ¬ ((32 : Nat) = 20) := by decide
  have n1 : ¬ (([1] : Bytes) = []) := by simp
  have hrev : (sigs ++ [rawTap, cb]).reverse = cb :: rawTap :: sigs.reverse := by simp
  have hlen : (sigs ++ [rawTap, cb]).length = sigs.length + 2 := by simp
  have ha : hasAnnex (sigs ++ [rawTap, cb]) = .ok false := by
    unfold hasAnnex
    have : ¬ (sigs ++ [rawTap, cb]).length < Gen.opAnnexMinItems := by simp [Gen.opAnnexMinItems]
    rw [if_neg this, hrev, hcb]
    simp [Gen.opAnnexTag, hb0]
  have hf1 : fromEnd (sigs ++ [rawTap, cb]) 1 = .ok cb := by simp [fromEnd, hrev]
  have hf2 : fromEnd (sigs ++ [rawTap, cb]) 2 = .ok rawTap := by simp [fromEnd, hrev]
  have htake : (sigs ++ [rawTap, cb]).take ((sigs ++ [rawTap, cb]).length - 2) = sigs := by
    rw [hlen]; simp
  have hl0 : ¬ (sigs.length + 2 = 0) := by omega
  have hl1 : ¬ (sigs.length + 2 = 1) := by omega
  have hl2 : sigs.length + 2 > 1 := by omega
  simp only [witnessRules, hl, n20, n1, false_and, if_false, if_true, and_self, ha, Res.toOut,
    Bool.false_eq_true, hlen, hl0, hl1, hl2, hf1, hf2, hcbe, hv, hparse, Cfg.repaired, Bool.true_and, hraw,
    ne_eq, not_false_eq_true, decide_true, htc, Bool.not_true]
  simp [Step.out_ok]

/-! ## k-of-n tapscript multisig (MultiSigTapScript) -/

def countValid (env : Env) : List Bytes → List Bytes → Nat
  | x :: xs, s :: ss => sigCount env x s + countValid env xs ss
  | _, _ => 0

def addChain (xs : List Bytes) : List Cmd := xs.flatMap fun x => [.push x, .op 0xBA]

/-- `x_0 CHECKSIG x_1 CHECKSIGADD … x_{n-1} CHECKSIGADD k EQUAL` (n ≥ 2) -/
def tapMultisigScript (x0 : Bytes) (xs : List Bytes) (k : Nat) : List Cmd :=
  [.push x0, .op 0xAC] ++ addChain xs ++ [.op (80 + k), .op 0x87]

def ChecksOK (env : Env) : List Bytes → List Bytes → Prop
  | x :: xs, s :: ss => (∃ r, schnorrCheck env x s = .ok r) ∧ ChecksOK env xs ss
  | [], [] => True
  | _, _ => False

theorem addChain_cons (x : Bytes) (xs : List Bytes) (tail : List Cmd) :
    addChain (x :: xs) ++ tail = .push x :: .op 0xBA :: (addChain xs ++ tail) := rfl

theorem ChecksOK.length_eq {env : Env} : ∀ {xs sigs : List Bytes}, ChecksOK env xs sigs → sigs.length = xs.length
  | [], [], _ => rfl
  | _ :: _, _ :: _, h => congrArg (· + 1) (ChecksOK.length_eq h.2)

theorem addChain_iff (env : Env) (k : Nat) (hk : 1 ≤ k ∧ k ≤ 16) (alt : Stack) (wit : Option (List Bytes)) :
    ∀ (xs : List Bytes) (c : Nat) (S : Stack) (f : Nat),
      run Cfg.repaired env (f + (2 * xs.length + 2))
        ⟨addChain xs ++ [.op (80 + k), .op 0x87], encodeNum (c : Int) :: S, alt, wit, true⟩ = .accept ↔
      ∃ sigs rest, S = sigs ++ rest ∧ ChecksOK env xs sigs ∧ c + countValid env xs sigs = k := by
  intro xs
  induction xs with
  | nil =>
    intro c S f
    rw [show f + (2 * ([] : List Bytes).length + 2) = f + 1 + 1 from rfl, addChain, List.flatMap_nil, List.nil_append,
      run_op_ok (opIs_num true k hk.1 hk.2) rfl, run_op_ok opIs_tap_equal rfl, run_nil _ _ _ _ rfl,
      finalTest_accept, decodeNum_boolNum]
    constructor
    · intro hv
      by_cases hq : encodeNum (k : Int) = encodeNum (c : Int)
      · have := encodeNum_inj hq
        exact ⟨[], S, rfl, trivial, by simp [countValid]; omega⟩
      · simp [beq_eq_false_iff_ne.mpr hq] at hv
    · rintro ⟨sigs, rest, -, hok, hcnt⟩
      cases sigs with
      | cons s ss => cases hok
      | nil =>
        obtain rfl : c = k := by simpa [countValid] using hcnt
        simp
  | cons x xs ih =>
    intro c S f
    rw [show f + (2 * (x :: xs).length + 2) = f + (2 * xs.length + 2) + 1 + 1 by rw [List.length_cons]; omega,
      addChain_cons, run_push (by simp), run_op_iff opIs_tap_checksigadd]
    cases S with
    | nil =>
      refine ⟨fun ⟨_, e, _⟩ => (nomatch e), ?_⟩
      rintro ⟨_ | _, _, e, hok, _⟩
      · cases hok
      · cases e
    | cons sig S' =>
      constructor
      · rintro ⟨s, e, ha⟩
        obtain ⟨hr, rfl⟩ := (op_checksigadd_schnorr_ok env x sig c S' s).mp e
        obtain ⟨sigs, rest, rfl, hok, hcnt⟩ := (ih _ _ _).mp ha
        exact ⟨sig :: sigs, rest, rfl, ⟨hr, hok⟩, by simp [countValid]; omega⟩
      · rintro ⟨sigs, rest, hS, hok, hcnt⟩
        cases sigs with
        | nil => cases hok
        | cons s ss =>
          cases hS
          exact ⟨_, (op_checksigadd_schnorr_ok env x sig c _ _).mpr ⟨hok.1, rfl⟩,
            (ih _ _ _).mpr ⟨ss, rest, rfl, hok.2, by simp [countValid] at hcnt; omega⟩⟩

theorem tapMultisig_iff (env : Env) (x0 : Bytes) (xs : List Bytes) (k : Nat) (hk : 1 ≤ k ∧ k ≤ 16) (S alt : Stack)
    (wit : Option (List Bytes)) (f : Nat) :
    run Cfg.repaired env (f + (2 * xs.length + 4)) ⟨tapMultisigScript x0 xs k, S, alt, wit, true⟩ = .accept ↔
      ∃ sigs rest, S = sigs ++ rest ∧ ChecksOK env (x0 :: xs) sigs ∧ countValid env (x0 :: xs) sigs = k := by
  rw [show f + (2 * xs.length + 4) = f + (2 * xs.length + 2) + 1 + 1 by omega, tapMultisigScript, List.append_assoc,
    List.cons_append, List.cons_append, List.nil_append, run_push (by simp), run_op_iff opIs_tap_checksig]
  cases S with
  | nil =>
    refine ⟨fun ⟨_, e, _⟩ => (nomatch e), ?_⟩
    rintro ⟨_ | _, _, e, hok, _⟩
    · cases hok
    · cases e
  | cons sig S' =>
    constructor
    · rintro ⟨s, e, ha⟩
      obtain ⟨hr, rfl⟩ := (op_checksig_schnorr_ok env x0 sig S' s).mp e
      obtain ⟨sigs, rest, rfl, hok, hcnt⟩ := (addChain_iff env k hk alt wit xs _ _ _).mp ha
      exact ⟨sig :: sigs, rest, rfl, ⟨hr, hok⟩, by simpa [countValid] using hcnt⟩
    · rintro ⟨sigs, rest, hS, hok, hcnt⟩
      cases sigs with
      | nil => cases hok
      | cons s ss =>
        cases hS
        exact ⟨_, (op_checksig_schnorr_ok env x0 sig _ _).mpr ⟨hok.1, rfl⟩,
          (addChain_iff env k hk alt wit xs _ _ _).mpr ⟨ss, rest, rfl, hok.2, by simpa [countValid] using hcnt⟩⟩

/-! ## authorisation predicates used by Props/C06 -/

/-- m-of-n: `m` stack elements that split into signatures matching, in order, distinct keys of the script -/
def MultisigAuth (env : Env) (m : Nat) (pks : List Bytes) : Prop :=
  ∃ (raw : List Bytes) (sigs : List (Bytes × Nat)), raw.length = m ∧ splitSigs raw = .ok sigs ∧
    SigMatch env sigs pks.reverse ∧ firstPkErr env pks.reverse = none ∧ ∀ s ∈ sigs, env.sigPre s.1 s.2 = none

/-- what `finalize_*_multisig` puts on the stack: the dummy element under the signatures; the popped
    signatures match keys of the script in order -/
def MultisigWitness (env : Env) (pks : List Bytes) (raw : List Bytes) : Prop :=
  ∃ sigs, splitSigs raw.reverse = .ok sigs ∧ SigMatch env sigs pks.reverse ∧
    firstPkErr env pks.reverse = none ∧ ∀ s ∈ sigs, env.sigPre s.1 s.2 = none

/-! ## Tx.verify_input: the structural tests, then `evaluate` -/

theorem evaluate_eq (cfg : Cfg) (env : Env) (cmds : List Cmd) (wit : List Bytes) (fuel : Nat) :
    evaluate cfg env cmds wit fuel =
      run cfg env fuel ⟨cmds, [], [], if wit.isEmpty then none else some wit, false⟩ := rfl

theorem verifyInput_eq {cfg : Cfg} {ss spk : List Cmd} (hs : structuralReject cfg ss spk = false) (env : Env)
    (wit : List Bytes) (fuel : Nat) :
    verifyInput cfg env ss spk wit fuel =
      run cfg env fuel ⟨ss ++ spk, [], [], if wit.isEmpty then none else some wit, false⟩ := by
  rw [verifyInput, hs, if_neg Bool.false_ne_true, evaluate_eq]

theorem verifyInput_accept {cfg : Cfg} {env : Env} {ss spk : List Cmd} {wit : List Bytes} {fuel : Nat}
    (ha : verifyInput cfg env ss spk wit fuel = .accept) :
    structuralReject cfg ss spk = false ∧
      run cfg env fuel ⟨ss ++ spk, [], [], if wit.isEmpty then none else some wit, false⟩ = .accept := by
  cases hs : structuralReject cfg ss spk with
  | true => simp [verifyInput, hs] at ha
  | false => exact ⟨rfl, verifyInput_eq hs env wit fuel ▸ ha⟩

theorem verifyInput_mono {cfg : Cfg} {env : Env} {ss spk : List Cmd} {wit : List Bytes} {fuel : Nat}
    (ha : verifyInput cfg env ss spk wit fuel = .accept) (k : Nat) :
    verifyInput cfg env ss spk wit (fuel + k) = .accept := by
  obtain ⟨hs, ha⟩ := verifyInput_accept ha
  rw [verifyInput_eq hs]
  exact run_mono ha k

theorem verifyInput_p2tr_scriptpath {env : Env} {x rawTap cb : Bytes} {tapScript : Script.Script}
    (P : ScriptPathEnd env x rawTap cb tapScript) (hl : x.length = 32)
    (hc : ∃ c r, tapScript.cmds = c :: r ∧ c ≠ .op 0xA9) (w : List Bytes) (fuel : Nat) :
    verifyInput Cfg.repaired env [] (p2trSpk x) (w ++ [rawTap, cb]) (fuel + w.length + 2) =
      run Cfg.repaired env fuel ⟨tapScript.cmds, w.reverse, [], some (w ++ [rawTap, cb]), true⟩ := by
  have hwit : (if (w ++ [rawTap, cb]).isEmpty then none else some (w ++ [rawTap, cb])) = some (w ++ [rawTap, cb]) := by
    cases w <;> rfl
  rw [verifyInput_eq (by simp [structuralReject, p2trSpk, isP2sh]), hwit, List.nil_append,
    run_p2tr_scriptpath P hl, run_pushes env _ hc, List.append_nil]

theorem witOpt_eq_some {wit items : List Bytes} (h : (if wit.isEmpty then none else some wit) = some items) :
    items = wit := by
  split at h
  · cases h
  · exact (Option.some.inj h).symm

theorem structuralReject_repaired (ss spk : List Cmd) :
    structuralReject Cfg.repaired ss spk = false ↔
      (isP2sh spk = true → hasOpAbove16 ss = false ∧ nestedWitnessNotAlone ss = false) ∧
      ((isWitnessScript spk || isP2tr spk) = true → ss = []) := by
  simp only [structuralReject, Cfg.repaired, Bool.true_and, Bool.or_eq_false_iff, Bool.and_eq_false_imp,
    Bool.not_eq_eq_eq_not, Bool.not_false, List.isEmpty_iff]

theorem structural_witness_empty {ss spk : List Cmd} (hw : (isWitnessScript spk || isP2tr spk) = true)
    (h : structuralReject Cfg.repaired ss spk = false) : ss = [] :=
  ((structuralReject_repaired ss spk).mp h).2 hw

theorem structural_p2sh_single (env : Env) (rs : Bytes) (hh : (env.hash160 rs).length = 20) :
    structuralReject Cfg.repaired [.push rs] (p2shSpk (env.hash160 rs)) = false := by
  simp [structuralReject, p2shSpk, isP2sh, hh, hasOpAbove16, nestedWitnessNotAlone, isWitnessScript, isP2wpkh,
    isP2wsh, isP2tr, Cfg.repaired]

/-- the scriptSig ends with a push that parses: the test asks whether something stands in front of a witness
    program (F06e repaired) -/
theorem nestedWitnessNotAlone_concat (pre : List Cmd) {x : Bytes} {cs : List Cmd} (hp : parseCommands x = some cs) :
    nestedWitnessNotAlone (pre ++ [.push x]) = (!pre.isEmpty && isWitnessScript cs) := by
  simp only [nestedWitnessNotAlone, List.length_append, List.length_cons, List.length_nil, List.getLast?_append,
    List.getLast?_singleton, Option.some_or, hp]
  cases pre <;> simp

/-! ## the witness programs and the p2sh rule as wholes -/

theorem multisigScript_length (m : Nat) (pks : List Bytes) : (multisigScript m pks).length = pks.length + 3 := by
  simp [multisigScript]

theorem multisigScript_ne_nil (m : Nat) (pks : List Bytes) : multisigScript m pks ≠ [] := nofun

theorem multisigScript_head (m : Nat) (pks : List Bytes) (hm : m ≤ 16) :
    ∃ c r, multisigScript m pks = c :: r ∧ c ≠ .op 0xA9 :=
  ⟨_, _, rfl, by simp; omega⟩

theorem p2wpkh_program_sound (env : Env) (h : Bytes) (hl : h.length = 20) (alt : Stack) (wit : List Bytes)
    (fuel : Nat)
    (ha : run Cfg.repaired env fuel ⟨p2wpkhSpk h, [], alt, if wit.isEmpty then none else some wit, false⟩ = .accept) :
    ∃ pk tmp, pk ∈ wit ∧ tmp ∈ wit ∧ env.hash160 pk = h ∧ EcdsaAuth env pk tmp := by
  generalize hw : (if wit.isEmpty then none else some wit) = w at ha
  have ha1 := run_mono ha 2
  rw [run_p2wpkh_program env h hl] at ha1
  cases w with
  | none => cases ha1
  | some items =>
    obtain rfl := witOpt_eq_some hw
    obtain ⟨pk, tmp, r, hS, hh, hauth⟩ := (p2pkh_tail_iff env h _ alt _ fuel).mp (run_mono
      (run_pushes_accept env (p2pkhCommands h) ⟨_, _, rfl, by simp⟩ items [] alt _ false fuel ha1) 5)
    rw [List.append_nil] at hS
    exact ⟨pk, tmp, List.mem_reverse.mp (hS ▸ by simp), List.mem_reverse.mp (hS ▸ by simp), hh, hauth⟩

theorem p2wpkh_program_complete (env : Env) (h pk tmp : Bytes) (hl : h.length = 20) (hh : env.hash160 pk = h)
    (hauth : EcdsaAuth env pk tmp) (alt : Stack) (f : Nat) :
    run Cfg.repaired env (f + 9) ⟨p2wpkhSpk h, [], alt, some [tmp, pk], false⟩ = .accept := by
  rw [show f + 9 = (f + 5 + [tmp, pk].length) + 2 from rfl, run_p2wpkh_program env h hl]
  exact (run_pushes env (p2pkhCommands h) ⟨_, _, rfl, by simp⟩ [tmp, pk] [] alt _ false (f + 5)).trans
    ((p2pkh_tail_iff env h _ alt _ f).mpr ⟨pk, tmp, [], rfl, hh, hauth⟩)

theorem p2wsh_multisig_sound (env : Env) (ws : Bytes) (m : Nat) (pks : List Bytes) (hm : 1 ≤ m ∧ m ≤ 16)
    (hn : 1 ≤ pks.length ∧ pks.length ≤ 16) (hparse : parseCommands ws = some (multisigScript m pks))
    (hh : (env.sha256 ws).length = 32) (alt : Stack) (wit : Option (List Bytes)) (fuel : Nat)
    (ha : run Cfg.repaired env fuel ⟨p2wshSpk (env.sha256 ws), [], alt, wit, false⟩ = .accept) :
    (∃ x, x ≠ ws ∧ env.sha256 x = env.sha256 ws) ∨ MultisigAuth env m pks := by
  obtain ⟨init, w, cs, rfl, hsha, hp, ha1⟩ := (p2wsh_program_iff env _ hh alt wit fuel).mp (run_mono ha 2)
  by_cases hx : w = ws
  · subst hx
    obtain rfl := Option.some.inj (hparse.symm.trans hp)
    obtain ⟨hlen, sigs, hsp, hmatch, hpk, hpre⟩ :=
      (multisig_script_iff env m pks hm hn _ alt _ fuel).mp (run_mono
        (run_pushes_accept env _ (multisigScript_head m pks hm.2) init [] alt _ false fuel ha1) (pks.length + 3))
    rw [List.append_nil] at hlen hsp
    exact Or.inr ⟨_, sigs, by simp at hlen ⊢; omega, hsp, hmatch, hpk, hpre⟩
  · exact Or.inl ⟨w, hx, hsha.symm⟩

theorem p2wsh_multisig_complete (env : Env) (ws : Bytes) (pks raw : List Bytes)
    (hm : 1 ≤ raw.length ∧ raw.length ≤ 16) (hn : 1 ≤ pks.length ∧ pks.length ≤ 16)
    (hparse : parseCommands ws = some (multisigScript raw.length pks)) (hh : (env.sha256 ws).length = 32)
    (hw : MultisigWitness env pks raw) (alt : Stack) (f : Nat) :
    run Cfg.repaired env (f + (raw.length + pks.length + 6))
      ⟨p2wshSpk (env.sha256 ws), [], alt, some ([] :: raw ++ [ws]), false⟩ = .accept := by
  obtain ⟨sigs, hsp, hmatch, hpk, hpre⟩ := hw
  rw [show f + (raw.length + pks.length + 6) = (f + (pks.length + 3) + (([] : Bytes) :: raw).length) + 2 by
    rw [List.length_cons]; omega]
  refine (p2wsh_program_iff env _ hh alt _ _).mpr ⟨[] :: raw, ws, _, rfl, rfl, hparse, ?_⟩
  rw [run_pushes env _ (multisigScript_head _ pks hm.2)]
  refine (multisig_script_iff env raw.length pks hm hn _ alt _ f).mpr ⟨by simp, sigs, ?_, hmatch, hpk, hpre⟩
  rw [List.append_nil, List.reverse_cons, List.take_left' (by simp)]
  exact hsp

theorem run_p2sh_push (env : Env) (rs : Bytes) (cs : List Cmd) (hparse : parseCommands rs = some cs) (hne : cs ≠ [])
    (hh : (env.hash160 rs).length = 20) (f : Nat) (S alt : Stack) (wit : Option (List Bytes)) (tap : Bool) :
    run Cfg.repaired env (f + 1) ⟨.push rs :: p2shSpk (env.hash160 rs), S, alt, wit, tap⟩ =
      run Cfg.repaired env f ⟨cs, S, alt, wit, tap⟩ := by
  rw [run_cons _ _ _ _ _ _ rfl, step_push_p2sh env rs _ hh]
  simp only [beq_self_eq_true, if_true, hparse, List.isEmpty_eq_false_iff.mpr hne, Bool.not_false]

/-- The scriptSig is push-only (BIP16, tested by `verifyInput`), so its last command is a data push, to which
    the p2sh rule is applied on whatever the rest of the scriptSig left, or a small number, whose encoding then
    is the preimage.  A witness program as redeem script must stand alone (F06e repaired), hence the empty stacks. -/
theorem p2sh_sound (env : Env) (rs : Bytes) (cs : List Cmd) (hparse : parseCommands rs = some cs) (hne : cs ≠ [])
    (hrs : 1 < rs.length) (hh : (env.hash160 rs).length = 20) (ss : List Cmd) (wit : List Bytes) (fuel : Nat)
    (ha : verifyInput Cfg.repaired env ss (p2shSpk (env.hash160 rs)) wit fuel = .accept) :
    (∃ x, x ≠ rs ∧ env.hash160 x = env.hash160 rs) ∨
    ∃ S alt, (isWitnessScript cs = true → S = [] ∧ alt = []) ∧
      run Cfg.repaired env fuel ⟨cs, S, alt, if wit.isEmpty then none else some wit, false⟩ = .accept := by
  obtain ⟨hs, ha⟩ := verifyInput_accept ha
  obtain ⟨hpo, hnest⟩ := ((structuralReject_repaired ss _).mp hs).1 (by simp [p2shSpk, isP2sh, hh])
  rcases List.eq_nil_or_concat ss with rfl | ⟨pre, c, rfl⟩
  · obtain ⟨top, r, e, _⟩ := (p2sh_tail_iff env _ [] [] _ fuel).mp (run_mono ha 3)
    cases e
  · rw [List.concat_eq_append] at hpo hnest
    rw [List.concat_eq_append, List.append_assoc, List.singleton_append] at ha
    cases c with
    | push x =>
      obtain ⟨S, alt, h0, ha1⟩ := run_prefix_accept env (.push x :: p2shSpk _) (by simp [p2shSpk])
        (p2shSpk_no_endif _ _ nofun) _ fuel pre [] [] ha
      have hstep := run_step_out ha1
      rw [step_push_p2sh env x _ hh] at hstep
      by_cases heq : env.hash160 rs = env.hash160 x
      · by_cases hx : x = rs
        · subst hx
          simp only [beq_self_eq_true, if_true, hparse, List.isEmpty_eq_false_iff.mpr hne, Bool.not_false] at hstep
          rw [nestedWitnessNotAlone_concat pre hparse] at hnest
          exact Or.inr ⟨S, alt, fun hw => h0 (by simpa [hw] using hnest), hstep⟩
        · exact Or.inl ⟨x, hx, heq.symm⟩
      · rw [if_neg (by simpa using heq)] at hstep
        cases hstep
    | op k =>
      have hk : k ≤ 96 := by
        simp only [hasOpAbove16, List.any_append, List.any_cons, List.any_nil, Bool.or_false, Bool.or_eq_false_iff,
          decide_eq_false_iff_not] at hpo
        omega
      obtain ⟨S, alt, _, ha1⟩ := run_prefix_accept env (.op k :: p2shSpk _) (by simp [p2shSpk])
        (p2shSpk_no_endif _ _ (by intro e; injection e with e; omega)) _ fuel pre [] [] ha
      obtain ⟨j, harun, hl⟩ := step_op_small _ env _ rfl k hk _ (run_step_out ha1)
      obtain ⟨top, r, e, hj⟩ := (p2sh_tail_iff env _ _ alt _ fuel).mp (run_mono harun 3)
      cases e
      exact Or.inl ⟨encodeNum j, fun e => by rw [e] at hl; omega, hj⟩

-- `wEnv`, the environment of the C06 witnesses: "hashes" are prefixes, the only key that verifies anything is
-- `attackerPk` with the signature bytes `[0x31]`
def attackerPk : Bytes := List.replicate 33 3
def victimPk : Bytes := List.replicate 33 2
def wEnv : Env :=
  { locktime := 0, sequence := 0, version := 2, sha1 := id, ripemd160 := id,
    sha256 := List.take 32, hash160 := List.take 20, hash256 := id,
    ecdsaOK := fun pk _ der => pk == attackerPk && der == [0x31],
    tapCommit := fun _ leaf => if leaf == [0x01, 0xaa, 0x75, 0x51] then .ok (List.replicate 32 7, true)
                               else .error .valueError }

end Buidl.Interp
