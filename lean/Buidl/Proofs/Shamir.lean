/-
  The Feistel network of `_crypt` (decrypt inverts encrypt), what `ShareSet.__init__`
  accepts, and the group loop of `recover`: it yields at most one entry per share (`gatherGroups_length`), which is
  why fewer shares than the threshold are refused (`recoverWith_few`).  (Interpolation: Buidl.Proofs.ShamirLagrange.)
-/
import Buidl.Proofs.Mnemonic
import Buidl.Model.Shamir
namespace Buidl.Shamir
open Buidl Buidl.Mnemonic

/-! ## Feistel network: decrypt ∘ encrypt = id -/

theorem binxor_cancel : ∀ (a f : Bytes), a.length = f.length → binxor (binxor a f) f = a := by
  intro a
  induction a with
  | nil => intro f _; cases f <;> rfl
  | cons x a ih =>
    intro f h
    cases f with
    | nil => simp at h
    | cons y f =>
      simp only [List.length_cons, Nat.add_right_cancel_iff] at h
      have := ih f h
      simp only [binxor, List.zipWith_cons_cons] at this ⊢
      rw [this]
      congr 1
      rw [UInt8.xor_assoc, UInt8.xor_self, UInt8.xor_zero]

theorem binxor_length (a f : Bytes) (h : a.length = f.length) : (binxor a f).length = a.length := by
  simp [binxor, h]

section Feistel
variable (kdf : Bytes → Bytes → Nat → Nat → Bytes) (salt pass : Bytes) (iters half : Nat)

theorem cryptRounds_append (a b : List Nat) (l r : Bytes) :
    cryptRounds kdf salt pass iters half (a ++ b) l r =
      cryptRounds kdf salt pass iters half b (cryptRounds kdf salt pass iters half a l r).1
        (cryptRounds kdf salt pass iters half a l r).2 := by
  induction a generalizing l r with
  | nil => rfl
  | cons i a ih => simp only [List.cons_append, cryptRounds]; exact ih _ _

/-- running the rounds backwards on the swapped halves undoes them; the halves keep their length -/
theorem cryptRounds_inverse (hk : ∀ p s c n, (kdf p s c n).length = n) (is : List Nat) :
    ∀ (l r : Bytes), l.length = half → r.length = half →
      cryptRounds kdf salt pass iters half is.reverse
          (cryptRounds kdf salt pass iters half is l r).2 (cryptRounds kdf salt pass iters half is l r).1 = (r, l) ∧
        (cryptRounds kdf salt pass iters half is l r).1.length = half ∧
        (cryptRounds kdf salt pass iters half is l r).2.length = half := by
  induction is with
  | nil => intro l r hl hr; exact ⟨rfl, hl, hr⟩
  | cons i is ih =>
    intro l r hl hr
    have hf : (kdf (UInt8.ofNat i :: pass) (salt ++ r) iters half).length = half := hk _ _ _ _
    have hx : (binxor l (kdf (UInt8.ofNat i :: pass) (salt ++ r) iters half)).length = half := by
      rw [binxor_length _ _ (by rw [hl, hf]), hl]
    obtain ⟨h1, h2, h3⟩ := ih r (binxor l (kdf (UInt8.ofNat i :: pass) (salt ++ r) iters half)) hr hx
    simp only [cryptRounds, List.reverse_cons]
    refine ⟨?_, h2, h3⟩
    rw [cryptRounds_append, h1]
    simp only [cryptRounds]
    rw [binxor_cancel _ _ (by rw [hl, hf])]

end Feistel

/-- `_crypt` succeeds exactly on non-empty even-length payloads with a 2-byte id and an iteration count that
    fits a C int, and then returns the swapped halves after the rounds -/
theorem crypt_eq (kdf : Bytes → Bytes → Nat → Nat → Bytes) (payload : Bytes) (id e : Nat) (pass : Bytes)
    (is : List Nat) :
    crypt kdf payload id e pass is =
      if payload.length % 2 = 0 ∧ 2 ≤ payload.length ∧ Gen.baseIterations <<< e ≤ 2147483647 ∧ id < 2 ^ 16 then
        let lr := cryptRounds kdf (Gen.cryptSaltPrefix ++ natToBE' Gen.saltIdWidth id) pass
          (Gen.baseIterations <<< e) (payload.length / 2) is (payload.take (payload.length / 2))
          (payload.drop (payload.length / 2))
        some (lr.2 ++ lr.1)
      else none := by
  unfold crypt natToBE
  by_cases h1 : payload.length % 2 = 0
  swap
  · rw [if_pos (by simpa using h1), if_neg (fun h => h1 h.1)]
  rw [if_neg (by simp [h1])]
  by_cases h2 : payload.length / 2 < 1 ∨ Gen.baseIterations <<< e > 2147483647
  · rw [if_pos h2, if_neg (by omega)]
  rw [if_neg h2]
  by_cases h3 : id < 256 ^ Gen.saltIdWidth
  · rw [if_pos h3, if_pos ⟨h1, by omega, by omega, h3⟩]
  · rw [if_neg h3, if_neg (fun h => h3 h.2.2.2)]

theorem decrypt_encrypt (kdf : Bytes → Bytes → Nat → Nat → Bytes) (hk : ∀ p s c n, (kdf p s c n).length = n)
    (payload : Bytes) (id exponent : Nat) (pass : Bytes) (c : Bytes)
    (h : encrypt kdf payload id exponent pass = some c) :
    decrypt kdf c id exponent pass = some payload ∧ c.length = payload.length := by
  rw [encrypt, crypt_eq] at h
  split at h
  swap
  · cases h
  rename_i hok
  obtain ⟨h1, h2, h3⟩ := cryptRounds_inverse kdf (Gen.cryptSaltPrefix ++ natToBE' Gen.saltIdWidth id) pass
    (Gen.baseIterations <<< exponent) (payload.length / 2) hk Gen.encryptRounds
    (payload.take (payload.length / 2)) (payload.drop (payload.length / 2))
    (by rw [List.length_take]; omega) (by rw [List.length_drop]; omega)
  simp only [Option.some.injEq] at h
  have hclen : c.length = payload.length := by
    rw [← h, List.length_append, h2, h3]; omega
  refine ⟨?_, hclen⟩
  rw [decrypt, crypt_eq, hclen, if_pos hok, show Gen.decryptRounds = Gen.encryptRounds.reverse from rfl, ← h]
  simp only [List.take_left' h3, List.drop_left' h3, h1, List.take_append_drop]

/-! ## ShareSet.__init__: what is accepted (`new_eq_some_iff`) -/

theorem allSame_iff {α} [DecidableEq α] (f : Share → α) (l : List Share) :
    allSame f l = true ↔ l ≠ [] ∧ ∀ s ∈ l, ∀ t ∈ l, f s = f t := by
  cases l with
  | nil => simp [allSame]
  | cons s0 r =>
    simp only [allSame, List.all_eq_true, decide_eq_true_eq, ne_eq, reduceCtorEq, not_false_eq_true, true_and]
    constructor
    · intro h
      have key : ∀ s ∈ s0 :: r, f s = f s0 := by
        intro s hs
        rcases List.mem_cons.mp hs with rfl | hs
        · rfl
        · exact h s hs
      intro s hs t ht
      rw [key s hs, key t ht]
    · intro h t ht
      exact h t (List.mem_cons_of_mem _ ht) s0 List.mem_cons_self

theorem distinct_iff {α} [DecidableEq α] (l : List α) : distinct l = true ↔ l.Nodup := by
  induction l with
  | nil => simp [distinct]
  | cons a r ih =>
    simp only [distinct, Bool.and_eq_true, Bool.not_eq_true', List.contains_eq_mem, decide_eq_false_iff_not,
      ih, List.nodup_cons]

/-- what holds of every list `ShareSet.__init__` accepts (its test threshold ≤ count apart) -/
structure Consistent (shares : List Share) : Prop where
  id : ∀ s ∈ shares, ∀ t ∈ shares, s.id = t.id
  exponent : ∀ s ∈ shares, ∀ t ∈ shares, s.exponent = t.exponent
  threshold : ∀ s ∈ shares, ∀ t ∈ shares, s.groupThreshold = t.groupThreshold
  count : ∀ s ∈ shares, ∀ t ∈ shares, s.groupCount = t.groupCount
  length : ∀ s ∈ shares, ∀ t ∈ shares, s.shareBitLength = t.shareBitLength
  indices : (shares.map fun s => (s.groupIndex, s.memberIndex)).Nodup

theorem consistent_singleton (s0 : Share) : Consistent [s0] := by
  have h1 : ∀ {α} (f : Share → α), ∀ a ∈ [s0], ∀ b ∈ [s0], f a = f b := fun f a ha b hb => by
    rw [List.mem_singleton.mp ha, List.mem_singleton.mp hb]
  exact ⟨h1 _, h1 _, h1 _, h1 _, h1 _, List.nodup_cons.mpr ⟨List.not_mem_nil, List.nodup_nil⟩⟩

theorem new_eq_some_iff (s0 : Share) (r ss : List Share) :
    ShareSet.new (s0 :: r) = some ss ↔
      ss = s0 :: r ∧ Consistent (s0 :: r) ∧ (r ≠ [] → s0.groupThreshold ≤ s0.groupCount) := by
  unfold ShareSet.new
  cases r with
  | nil => simp [eq_comm, consistent_singleton]
  | cons s1 r' =>
    have hl : (s0 :: s1 :: r').length > 1 := by simp
    simp only [if_pos hl, Option.ite_none_left_eq_some, Bool.not_eq_true', Bool.not_eq_false, allSame_iff,
      distinct_iff, Option.some.injEq, ne_eq, reduceCtorEq, not_false_eq_true, true_and, forall_const,
      Nat.not_lt, gt_iff_lt]
    constructor
    · rintro ⟨h1, h2, h3, h4, h5, h6, h7, h8⟩
      exact ⟨h8.symm, ⟨h1, h2, h3, h4, h6, h7⟩, h5⟩
    · rintro ⟨h8, ⟨h1, h2, h3, h4, h6, h7⟩, h5⟩
      exact ⟨h1, h2, h3, h4, h5, h6, h7, h8.symm⟩

theorem new_some (shares ss : List Share) (h : ShareSet.new shares = some ss) :
    ss = shares ∧ shares ≠ [] ∧ Consistent shares := by
  cases shares with
  | nil => cases h
  | cons s0 r =>
    obtain ⟨h1, h2, _⟩ := (new_eq_some_iff s0 r ss).mp h
    exact ⟨h1, List.cons_ne_nil _ _, h2⟩

theorem new_none_of_not_consistent (shares : List Share) (hne : ¬ Consistent shares) :
    ShareSet.new shares = none := by
  cases h : ShareSet.new shares with
  | none => rfl
  | some ss => exact absurd (new_some shares ss h).2.2 hne

/-! ## ShareSet.recover: the loop over the groups -/

theorem gatherGroups_eq (hmac256 : Bytes → Bytes → Bytes) (shares : List Share) (is : List Nat) :
    gatherGroups hmac256 shares is =
      mapM? (fun i => groupEntry hmac256 i (shares.filter (·.groupIndex = i)))
        (is.filter fun i => !(shares.filter (·.groupIndex = i)).isEmpty) := by
  induction is with
  | nil => rfl
  | cons i r ih =>
    rw [gatherGroups, List.filter_cons]
    cases (shares.filter (·.groupIndex = i)).isEmpty
    · rw [if_neg Bool.false_ne_true, if_pos (show (!false) = true from rfl), mapM?, ih]
      cases groupEntry hmac256 i (shares.filter (·.groupIndex = i)) <;> cases mapM? _ _ <;> rfl
    · rw [if_pos rfl, if_neg (show ¬ (!true) = true from Bool.false_ne_true), ih]

theorem group_nonempty_iff (ss : List Share) (i : Nat) :
    (!(ss.filter (·.groupIndex = i)).isEmpty) = true ↔ i ∈ ss.map (·.groupIndex) := by
  rw [Bool.not_eq_true', ← Bool.not_eq_true, List.isEmpty_iff, List.filter_eq_nil_iff, List.mem_map]
  simp only [decide_eq_true_eq, not_forall, not_not, exists_prop]

theorem gatherGroups_length (hmac256 : Bytes → Bytes → Bytes) (shares : List Share) (is : List Nat)
    (hnd : is.Nodup) (l : ShareData) (h : gatherGroups hmac256 shares is = some l) :
    l.length ≤ shares.length := by
  rw [gatherGroups_eq] at h
  rw [mapM?_length _ _ _ h, ← List.length_map (f := (·.groupIndex)) (as := shares)]
  exact List.Nodup.length_le_of_subset (hnd.filter _) fun i hi =>
    (group_nonempty_iff shares i).mp (List.mem_filter.mp hi).2

/-- fewer shares than a threshold other than 1: the body of `recover` raises, whatever attributes the object holds
    and whatever its current share list is -/
theorem recoverWith_few (hmac256 : Bytes → Bytes → Bytes) (kdf : Bytes → Bytes → Nat → Nat → Bytes)
    (id e gt gc : Nat) (shares : List Share) (pass : Bytes) (hk : gt ≠ 1) (hlen : shares.length < gt) :
    recoverWith hmac256 kdf id e gt gc shares pass = none := by
  unfold recoverWith
  split
  · rfl
  · cases hg : gatherGroups hmac256 shares (List.range gc) with
    | none => rfl
    | some sd =>
      have h1 := gatherGroups_length hmac256 shares _ List.nodup_range sd hg
      simp only [beq_iff_eq, hk, if_false]
      rw [if_pos (by omega)]

end Buidl.Shamir
