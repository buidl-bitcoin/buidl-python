/-
  Buidl.Proofs.Descriptor — helper lemmas for C16: calc_core_checksum against Bitcoin Core's
  DescriptorChecksum (the loop with three state variables is the fold over the symbol stream), `bytesLe` as the
  lexicographic order behind sorted(keys), the byte layout of the multisig witness script, and the constructor as
  an iff (what a successful call says about its result, and from what it succeeds).  Mathlib-free.
-/
import Buidl.Model.Descriptor
import Buidl.Spec.DescriptorChecksum
import Buidl.Proofs.DescriptorPoly
import Buidl.Proofs.Bytes
namespace Buidl.Descriptor
open Buidl Buidl.PyStr
namespace SC
export Buidl.Spec.DescriptorChecksum (INPUT_CHARSET CHECKSUM_CHARSET polyMod position positions symbols checksumValue render descriptorChecksum)
end SC

/-! ## calc_core_checksum against Core's DescriptorChecksum -/

theorem inputCharset_eq : inputCharset = SC.INPUT_CHARSET := by
  unfold inputCharset Gen.descInputCharset Spec.DescriptorChecksum.INPUT_CHARSET
  rw [String.toList_append, String.toList_append, String.toList_ofList, String.toList_ofList, String.toList_ofList,
    String.toList_ofList]
  rfl

theorem checksumCharset_eq : checksumCharset = SC.CHECKSUM_CHARSET := rfl

theorem polyMod_eq (c v : Nat) : polyMod c v = SC.polyMod c v := by
  unfold polyMod Spec.DescriptorChecksum.polyMod
  rfl

theorem find?_eq_position (ch : Char) (l : Str) : find? ch l = SC.position ch l := by
  induction l with
  | nil => rfl
  | cons x xs ih => simp [find?, Spec.DescriptorChecksum.position, ih]

/-- the loop of calc_core_checksum on positions -/
def loopP : List Nat → Nat → Nat → Nat → Nat × Nat × Nat
  | [], c, cls, cnt => (c, cls, cnt)
  | pos :: r, c, cls, cnt =>
    let c := polyMod c (pos &&& Gen.ccSymMask)
    let cls := cls * Gen.ccClsMul + (pos >>> Gen.ccClsShift)
    let cnt := cnt + 1
    if cnt = Gen.ccGroup then loopP r (polyMod c cls) 0 0 else loopP r c cls cnt

theorem ccLoopOn_eq (cs desc : Str) (c cls cnt : Nat) :
    ccLoopOn cs desc c cls cnt = (desc.mapM fun ch => SC.position ch cs).map (fun ps => loopP ps c cls cnt) := by
  induction desc generalizing c cls cnt with
  | nil => simp [ccLoopOn, loopP]
  | cons ch r ih =>
    simp only [ccLoopOn, List.mapM_cons, find?_eq_position]
    cases hp : SC.position ch cs with
    | none => simp
    | some pos =>
      simp only [Option.bind_eq_bind, Option.bind_some]
      split <;> rw [ih] <;> cases List.mapM (fun ch => SC.position ch cs) r <;> simp [loopP, *]

def finish (s : Nat × Nat × Nat) : Nat := if s.2.2 > 0 then polyMod s.1 s.2.1 else s.1

theorem loopP_symbols : ∀ (ps : List Nat) (c : Nat),
    finish (loopP ps c 0 0) = (SC.symbols ps).foldl SC.polyMod c
  | [], c => by simp [loopP, finish, Spec.DescriptorChecksum.symbols]
  | [p1], c => by
    simp [loopP, finish, Spec.DescriptorChecksum.symbols, polyMod_eq, Gen.ccGroup, Gen.ccSymMask, Gen.ccClsMul, Gen.ccClsShift]
  | [p1, p2], c => by
    simp [loopP, finish, Spec.DescriptorChecksum.symbols, polyMod_eq, Gen.ccGroup, Gen.ccSymMask, Gen.ccClsMul, Gen.ccClsShift]
    congr 1; omega
  | p1 :: p2 :: p3 :: rest, c => by
    have ih := loopP_symbols rest
    simp only [loopP, Gen.ccGroup, Gen.ccSymMask, Gen.ccClsMul, Gen.ccClsShift, Spec.DescriptorChecksum.symbols,
      List.foldl_append, List.foldl_cons, List.foldl_nil, polyMod_eq]
    simp only [show (0 + 1 = 3) = False by simp, show (0 + 1 + 1 = 3) = False by simp, if_false, if_true]
    rw [ih]
    congr 2
    omega

theorem final_rounds_eq (c : Nat) :
    (List.range Gen.ccFinalRounds).foldl (fun c _ => polyMod c 0) c = (List.replicate 8 0).foldl SC.polyMod c := by
  rw [show polyMod = SC.polyMod from funext fun c => funext (polyMod_eq c)]
  rfl

theorem ccOutput_eq (c : Nat) : ccOutput c = SC.render c := by
  unfold ccOutput Spec.DescriptorChecksum.render
  rw [checksumCharset_eq]
  simp [Gen.ccOutLen, Gen.ccOutTop, Gen.ccOutShift, Gen.ccOutMask, List.range_succ]

theorem calcCoreChecksum_eq (desc : Str) : calcCoreChecksum desc = SC.descriptorChecksum desc := by
  unfold calcCoreChecksum ccLoop Spec.DescriptorChecksum.descriptorChecksum
  rw [inputCharset_eq, ccLoopOn_eq, ← Spec.DescriptorChecksum.positions]
  cases hp : SC.positions desc with
  | none => simp
  | some ps =>
    simp only [Option.map_some, Option.bind_eq_bind, Option.bind_some, Gen.ccInit, Gen.ccFinalXor]
    have h := loopP_symbols ps 1
    unfold finish at h
    rw [final_rounds_eq, ccOutput_eq]
    simp only [Spec.DescriptorChecksum.checksumValue, List.foldl_append]
    rw [← h]

open Buidl.HD

/-! ## sorting and permutations -/

theorem bytesLe_iff_le : ∀ (a b : Bytes), bytesLe a b = true ↔ a ≤ b
  | [], b => by simp [bytesLe, List.nil_le]
  | x :: xs, [] => by simp [bytesLe]
  | x :: xs, y :: ys => by
    rw [List.cons_le_cons_iff, ← bytesLe_iff_le xs ys, UInt8.lt_iff_toNat_lt, ← UInt8.toNat_inj]
    show (if x.toNat < y.toNat then true else if y.toNat < x.toNat then false else bytesLe xs ys) = true ↔ _
    by_cases h1 : x.toNat < y.toNat
    · simp [h1]
    · by_cases h2 : y.toNat < x.toNat
      · simp only [if_neg h1, if_pos h2]
        constructor
        · intro h; cases h
        · rintro (h | ⟨e, -⟩) <;> omega
      · simp only [if_neg h1, if_neg h2]
        exact ⟨fun h => Or.inr ⟨by omega, h⟩, fun h => h.elim (fun h => absurd h h1) (·.2)⟩

theorem bytesLe_refl (a : Bytes) : bytesLe a a = true :=
  (bytesLe_iff_le a a).mpr (List.le_refl a)

theorem bytesLe_total (a b : Bytes) : (bytesLe a b || bytesLe b a) = true := by
  simpa only [Bool.or_eq_true, bytesLe_iff_le] using List.le_total a b

theorem bytesLe_trans (a b c : Bytes) (h1 : bytesLe a b = true) (h2 : bytesLe b c = true) : bytesLe a c = true :=
  (bytesLe_iff_le a c).mpr (List.le_trans ((bytesLe_iff_le a b).mp h1) ((bytesLe_iff_le b c).mp h2))

theorem bytesLe_antisymm (a b : Bytes) (h1 : bytesLe a b = true) (h2 : bytesLe b a = true) : a = b :=
  List.le_antisymm ((bytesLe_iff_le a b).mp h1) ((bytesLe_iff_le b a).mp h2)

theorem mapM_perm {α β} (f : α → Option β) {l l' : List α} (h : l.Perm l') :
    (l.mapM f = none ∧ l'.mapM f = none) ∨ ∃ r r', l.mapM f = some r ∧ l'.mapM f = some r' ∧ r.Perm r' := by
  cases hl : l.mapM f with
  | none =>
    obtain ⟨a, ha, e⟩ := List.mapM_eq_none_iff.1 hl
    exact .inl ⟨rfl, List.mapM_eq_none_iff.2 ⟨a, h.mem_iff.1 ha, e⟩⟩
  | some r =>
    cases hl' : l'.mapM f with
    | none =>
      obtain ⟨a, ha, e⟩ := List.mapM_eq_none_iff.1 hl'
      rw [List.mapM_eq_none_iff.2 ⟨a, h.mem_iff.2 ha, e⟩] at hl
      cases hl
    | some r' =>
      refine .inr ⟨r, r', rfl, rfl, ?_⟩
      rw [List.mapM_some_eq_filterMap hl, List.mapM_some_eq_filterMap hl']
      exact h.filterMap f

/-! ## the witness script as bytes -/

/-- `OP_m <33-byte key>… OP_n OP_CHECKMULTISIG` as bytes -/
def multisigBytes (m : Nat) (keys : List Bytes) : Bytes :=
  [UInt8.ofNat (80 + m)] ++ (keys.map (fun k => (33 : UInt8) :: k)).flatten ++ [UInt8.ofNat (80 + keys.length), 174]

theorem serCmd_push33 (k : Bytes) (h : k.length = 33) : Script.serCmd (.push k) = some (33 :: k) := by
  simp [Script.serCmd, cmpAt, Gen.rawSerCmp, cmpOp, h, Script.intToByte]

theorem serCmds_push33 (keys : List Bytes) (h : ∀ k ∈ keys, k.length = 33) (tail : List Script.Cmd) :
    Script.serCmds (keys.map Script.Cmd.push ++ tail)
      = (Script.serCmds tail).map (fun t => (keys.map (fun k => (33 : UInt8) :: k)).flatten ++ t) := by
  induction keys with
  | nil => simp
  | cons k ks ih =>
    have hk := h k (by simp)
    have ih' := ih (fun x hx => h x (by simp [hx]))
    simp only [List.map_cons, List.cons_append, Script.serCmds, serCmd_push33 k hk, ih', Option.bind_eq_bind,
      Option.bind_some, Option.pure_def]
    cases Script.serCmds tail <;> simp

theorem numberToOpCode_some {n op : Nat} (h : numberToOpCode n = some op) (h1 : 1 ≤ n) : n ≤ 16 ∧ op = n + 80 := by
  simp only [numberToOpCode, Gen.opNumMax, Gen.opNumBase, Option.ite_none_left_eq_some, if_neg (Nat.ne_of_gt h1),
    Option.some.injEq] at h
  omega

theorem multisig_rawSerialize (m : Nat) (keys : List Bytes) (hk : ∀ k ∈ keys, k.length = 33)
    (hm : m ≤ 175) (hn : keys.length ≤ 175) :
    Script.rawSerialize { cmds := [Script.Cmd.op (m + 80)] ++ keys.map Script.Cmd.push ++
        [Script.Cmd.op (keys.length + 80), Script.Cmd.op Gen.opCheckMultisig] }
      = some (multisigBytes m keys) := by
  simp only [Script.rawSerialize, List.singleton_append]
  rw [List.cons_append, Script.serCmds, serCmds_push33 keys hk]
  simp [Script.serCmds, Script.serCmd, Script.intToByte, Gen.opCheckMultisig, multisigBytes, hm, hn, UInt8.add_comm]

theorem sec_length33 {X : EC.Pt} {s : Bytes} (h : EC.sec X true = some s) : s.length = 33 := by
  cases X with
  | inf => simp [EC.sec] at h
  | aff x y => simp [EC.sec] at h; subst h; simp

theorem leafSec_length {hash256 : Bytes → Bytes} {hmac : Bytes → Bytes → Bytes} {h160 : Bytes → Bytes}
    {kr : KeyRecord} {o : Nat} {c : Bool} {s : Bytes} (h : leafSec hash256 hmac h160 kr o c = some s) : s.length = 33 := by
  simp only [leafSec, Option.bind_eq_bind, Option.bind_eq_some_iff] at h
  obtain ⟨_, _, _, _, _, _, hs⟩ := h
  exact sec_length33 hs

/-! ## the constructor -/

section
variable (hash256 : Bytes → Bytes)

theorem constructCore_eq_some_iff {m : Int} {krs : List KeyRecord} {srt : Bool} {d : Desc} :
    constructCore hash256 m krs srt = some d ↔
      (1 : Int) ≤ m ∧ krs ≠ [] ∧ d.m = m.toNat ∧
      (∃ saved, checkRecords hash256 krs none = some (saved, some d.network) ∧
        d.keyRecords = (if srt then saved.mergeSort (fun a b => strLe a.xpubParent b.xpubParent) else saved)) ∧
      d.text = descriptorText d.m d.keyRecords ∧ calcCoreChecksum d.text = some d.checksum := by
  -- witnesses for the binds, not `Option.bind_some`: reducing the binds makes the kernel compare terms headed by
  -- `Option.map _ (calcCoreChecksum …)`, which it does by running the checksum over the literal prefix of the text
  simp only [constructCore, Option.ite_none_left_eq_some, Option.bind_eq_some_iff, Option.map_eq_some_iff, Gen.quorumMin]
  constructor
  · rintro ⟨h1, h2, ⟨saved, net⟩, hcr, network, rfl, c, hc, rfl⟩
    exact ⟨by omega, h2, rfl, ⟨saved, hcr, rfl⟩, rfl, hc⟩
  · rintro ⟨h1, h2, hm, ⟨saved, hcr, hkr⟩, ht, hc⟩
    refine ⟨by omega, h2, (saved, some d.network), hcr, d.network, rfl, d.checksum, ?_, ?_⟩
    · rw [← hkr, ← hm, ← ht]
      exact hc
    · cases d
      simp only at hm hkr ht
      rw [ht, hm, hkr]

theorem construct_eq_some_iff {m : Int} {krs : List KeyRecord} {cs : Str} {srt : Bool} {d : Desc} :
    construct hash256 m krs cs srt = some d ↔
      constructCore hash256 m krs srt = some d ∧ (cs ≠ [] → d.checksum = cs) := by
  simp only [construct, Option.bind_eq_some_iff, Option.ite_none_left_eq_some, Option.some.injEq, not_and, Decidable.not_not]
  exact ⟨fun ⟨_, hd, hcs, e⟩ => e ▸ ⟨hd, hcs⟩, fun ⟨hd, hcs⟩ => ⟨d, hd, hcs, rfl⟩⟩

end

end Buidl.Descriptor
