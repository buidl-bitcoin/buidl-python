/-
  Buidl.Proofs.RS1024ThreeCheck — the kernel computation behind three-word error detection.

  Three errors d₁, d₂, d₃ (< 1024) at positions p₁ < p₂ < p₃ cancel iff  L^s(d₁) ⊕ L^g(d₂) ⊕ d₃ = 0  with
  s = p₃ − p₁, g = p₃ − p₂.  As d₃ only touches the low ten bits it suffices that the 20 high parts (bits 10…29)
  of L^s(2^j), L^g(2^j), j < 10, are linearly independent over GF(2).  Independence is stated through an inverse
  matrix: `invert` (Gauss–Jordan on Nat bitmasks) computes it, `checkInv` says that it maps the 20 images back
  to the unit vectors.  `invert` is proved to invert independent rows (`checkInv_invert`), so the kernel only runs
  the cheaper elimination `indepK` on the rows, for all 1 ≤ g < s ≤ 32 (every triple of positions of
  a 20- or 33-word share), reducing the ten rows of each `s` once for all its partners `g` (`indepK_append`).
-/
import Buidl.Proofs.RS1024
namespace Buidl.Shamir
open Buidl

/-- rows `v_i | e_i` as 40-bit numbers -/
def augment : Nat → List Nat → List Nat
  | _, [] => []
  | i, v :: r => (v ||| (1 <<< (20 + i))) :: augment (i + 1) r

/-- the state is (rows done, rows to do); the pivot of column `k` is the first row to do with bit `k` -/
def gjStep (st : List Nat × List Nat) (k : Nat) : List Nat × List Nat :=
  match st.2.find? (fun r => r.testBit k) with
  | none => st
  | some p =>
    let elim := fun r : Nat => if r.testBit k then r ^^^ p else r
    (st.1.map elim ++ [p], (st.2.erase p).map elim)

/-- proposed inverse: entry `k` is the combination of the `v_i` that gives the unit vector `e_k` -/
def invert (vs : List Nat) : List Nat :=
  (((List.range 20).foldl gjStep ([], augment 0 vs)).1).map (· >>> 20)

def checkInv (vs m : List Nat) : Bool :=
  (List.range 20).all fun i => combo m (combo vs (2 ^ i)) == 2 ^ i

def checkPair (ws wg : List Nat) : Bool :=
  checkInv (ws.map hi ++ wg.map hi) (invert (ws.map hi ++ wg.map hi))

def pairsFrom (prev : List (List Nat)) : List (List Nat) → Bool
  | [] => true
  | ws :: rest => prev.all (fun wg => checkPair ws wg) && pairsFrom (prev ++ [ws]) rest

/-- `[basisAt (g+1), …, basisAt (g+n)]` for `ws = basisAt g`: `L` applied repeatedly -/
def basesChain : Nat → List Nat → List (List Nat)
  | 0, _ => []
  | n + 1, ws => ws.map rsL :: basesChain n (ws.map rsL)

/-! ## XOR combinations: closure, pigeonhole -/

theorem combo_induction {P : Nat → Prop} (h0 : P 0) (hx : ∀ a b, P a → P b → P (a ^^^ b)) :
    ∀ ws : List Nat, (∀ w ∈ ws, P w) → ∀ d, P (combo ws d)
  | [], _, _ => h0
  | w :: ws, h, d => by
    rw [combo]
    refine hx _ _ ?_ (combo_induction h0 hx ws (fun x hx => h x (List.mem_cons_of_mem w hx)) _)
    split
    · exact h w List.mem_cons_self
    · exact h0

theorem exists_combo_eq_of_mem {ws : List Nat} {w : Nat} (h : w ∈ ws) : ∃ d, combo ws d = w := by
  obtain ⟨i, hi, rfl⟩ := List.getElem_of_mem h
  exact ⟨2 ^ i, by rw [combo_two_pow, List.getD_eq_getElem?_getD, List.getElem?_eq_getElem hi]; rfl⟩

theorem exists_combo_xor {us : List Nat} {a b : Nat} (ha : ∃ d, combo us d = a) (hb : ∃ d, combo us d = b) :
    ∃ d, combo us d = a ^^^ b := by
  obtain ⟨da, rfl⟩ := ha
  obtain ⟨db, rfl⟩ := hb
  exact ⟨da ^^^ db, combo_xor us da db⟩

theorem exists_combo_eq_combo {ws us : List Nat} (h : ∀ w ∈ ws, ∃ d, combo us d = w) (e : Nat) :
    ∃ d, combo us d = combo ws e :=
  combo_induction (P := fun x => ∃ d, combo us d = x) ⟨0, combo_zero us⟩ (fun _ _ => exists_combo_xor) ws h e

/-- `r` is recovered from the row it becomes when `p` is added to it or not -/
theorem exists_combo_of_elim {us : List Nat} {p r : Nat} (b : Bool) (hp : p ∈ us)
    (he : (if b then r ^^^ p else r) ∈ us) : ∃ d, combo us d = r := by
  cases b
  · exact exists_combo_eq_of_mem he
  · have := exists_combo_xor (exists_combo_eq_of_mem he) (exists_combo_eq_of_mem hp)
    rwa [if_pos rfl, Nat.xor_assoc, Nat.xor_self, Nat.xor_zero] at this

theorem exists_eq_of_injOn {N : Nat} {g : Nat → Nat} (hlt : ∀ x, x < N → g x < N)
    (hinj : ∀ x y, x < N → y < N → g x = g y → x = y) (y : Nat) (hy : y < N) : ∃ x, x < N ∧ g x = y := by
  refine Classical.byContradiction fun hn => ?_
  have hnd : ((List.range N).map g).Nodup := by
    rw [List.nodup_iff_pairwise_ne, List.pairwise_map]
    refine List.Pairwise.imp_of_mem ?_ List.nodup_range
    intro a b ha hb hab h
    exact hab (hinj a b (List.mem_range.mp ha) (List.mem_range.mp hb) h)
  have hsub : (List.range N).map g ⊆ (List.range N).erase y := by
    intro z hz
    obtain ⟨x, hx, rfl⟩ := List.mem_map.mp hz
    have hxN := List.mem_range.mp hx
    exact (List.mem_erase_of_ne fun h => hn ⟨x, hxN, h⟩).mpr (List.mem_range.mpr (hlt x hxN))
  have hle := hnd.length_le_of_subset hsub
  rw [List.length_map, List.length_erase_of_mem (List.mem_range.mpr hy), List.length_range] at hle
  omega

theorem combo_surj {n : Nat} (V : List Nat) (hV : ∀ v ∈ V, v < 2 ^ n)
    (hind : ∀ d, d < 2 ^ n → combo V d = 0 → d = 0) (y : Nat) (hy : y < 2 ^ n) : ∃ e, e < 2 ^ n ∧ combo V e = y :=
  exists_eq_of_injOn (fun x _ => combo_lt V hV x) (fun a b ha hb h =>
    xor_eq_zero_imp (hind _ (Nat.xor_lt_two_pow ha hb) (by rw [combo_xor, h, Nat.xor_self]))) y hy

theorem mod_two_pow_succ_eq (x k : Nat) : x % 2 ^ (k + 1) = x % 2 ^ k + if x.testBit k then 2 ^ k else 0 := by
  rw [Nat.mod_pow_succ, Nat.testBit_eq_decide_div_mod_eq]
  rcases Nat.mod_two_eq_zero_or_one (x / 2 ^ k) with h | h <;> simp [h]

/-! ## Gauss–Jordan -/

theorem or_shiftLeft_eq (v i : Nat) (hv : v < 2 ^ 20) : v ||| 1 <<< (20 + i) = 2 ^ 20 * 2 ^ i + v := by
  rw [Nat.two_pow_add_eq_or_of_lt hv, Nat.or_comm, Nat.one_shiftLeft, Nat.pow_add]

theorem augment_map_mod : ∀ (vs : List Nat) (i : Nat), (∀ v ∈ vs, v < 2 ^ 20) →
    (augment i vs).map (· % 2 ^ 20) = vs
  | [], _, _ => rfl
  | v :: vs, i, h => by
    have hv := h v List.mem_cons_self
    rw [augment, List.map_cons, augment_map_mod vs (i + 1) fun x hx => h x (List.mem_cons_of_mem v hx),
      or_shiftLeft_eq v i hv, Nat.mul_add_mod, Nat.mod_eq_of_lt hv]

theorem augment_map_shiftRight : ∀ (vs : List Nat) (i : Nat), (∀ v ∈ vs, v < 2 ^ 20) →
    (augment i vs).map (· >>> 20) = (List.range' i vs.length).map (2 ^ ·)
  | [], _, _ => rfl
  | v :: vs, i, h => by
    have hv := h v List.mem_cons_self
    rw [augment, List.map_cons, augment_map_shiftRight vs (i + 1) fun x hx => h x (List.mem_cons_of_mem v hx),
      or_shiftLeft_eq v i hv, Nat.shiftRight_eq_div_pow, Nat.mul_add_div (Nat.two_pow_pos 20),
      Nat.div_eq_of_lt hv, Nat.add_zero]
    rfl

theorem combo_augment (V : List Nat) (hV : ∀ v ∈ V, v < 2 ^ 20) (e : Nat) (he : e < 2 ^ V.length) :
    combo (augment 0 V) e % 2 ^ 20 = combo V e ∧ combo (augment 0 V) e >>> 20 = e := by
  rw [combo_map (f := (· % 2 ^ 20)) fun _ _ => Nat.xor_mod_two_pow, augment_map_mod V 0 hV,
    combo_map (f := (· >>> 20)) fun _ _ => Nat.shiftRight_xor_distrib, augment_map_shiftRight V 0 hV,
    ← List.range_eq_range', combo_units _ e he]
  exact ⟨rfl, rfl⟩

theorem elim_mod (p k r : Nat) (hp0 : p % 2 ^ k = 0) (hpk : p.testBit k = true) :
    (if r.testBit k then r ^^^ p else r) % 2 ^ (k + 1) = r % 2 ^ k := by
  by_cases h : r.testBit k = true
  · simp [h, hpk, Nat.xor_mod_two_pow, hp0, mod_two_pow_succ_eq]
  · simp [h, mod_two_pow_succ_eq]

/-- the state before column `k`: modulo `2^k` the done rows are the unit vectors and the others vanish; the rows
    of `augment 0 V` are still combinations of the present ones -/
structure GJInv (V : List Nat) (k : Nat) (st : List Nat × List Nat) : Prop where
  len : st.1.length + st.2.length = V.length
  done : st.1.map (· % 2 ^ k) = (List.range k).map (2 ^ ·)
  todo : ∀ r ∈ st.2, r % 2 ^ k = 0
  span : ∀ e, ∃ d, combo (st.1 ++ st.2) d = combo (augment 0 V) e

theorem augment_length : ∀ (vs : List Nat) (i : Nat), (augment i vs).length = vs.length
  | [], _ => rfl
  | _ :: vs, i => by rw [augment, List.length_cons, List.length_cons, augment_length vs]

theorem GJInv.init (V : List Nat) : GJInv V 0 ([], augment 0 V) :=
  ⟨by rw [augment_length]; exact Nat.zero_add _, rfl, fun _ _ => Nat.mod_one _, fun e => ⟨e, rfl⟩⟩

theorem GJInv.length_done {V : List Nat} {k : Nat} {st : List Nat × List Nat} (h : GJInv V k st) :
    st.1.length = k := by
  have := congrArg List.length h.done
  rwa [List.length_map, List.length_map, List.length_range] at this

theorem GJInv.split {V : List Nat} {k : Nat} {st : List Nat × List Nat} (h : GJInv V k st) (d : Nat) :
    combo (st.1 ++ st.2) d = combo st.1 (d % 2 ^ k) ^^^ combo st.2 (d >>> k) ∧
      combo (st.1 ++ st.2) d % 2 ^ k = d % 2 ^ k := by
  have hs : combo (st.1 ++ st.2) d = combo st.1 (d % 2 ^ k) ^^^ combo st.2 (d >>> k) := by
    rw [combo_append_eq, ← combo_mod st.1 d, h.length_done]
  refine ⟨hs, ?_⟩
  rw [hs, Nat.xor_mod_two_pow, combo_map (f := (· % 2 ^ k)) fun _ _ => Nat.xor_mod_two_pow, h.done,
    combo_units k _ (Nat.mod_lt _ (Nat.two_pow_pos k)),
    combo_induction (P := fun x => x % 2 ^ k = 0) (Nat.zero_mod _)
      (fun a b ha hb => by rw [Nat.xor_mod_two_pow, ha, hb, Nat.xor_self]) st.2 h.todo, Nat.xor_zero]

/-- a column without pivot: `2^k = combo V e` would be a combination of rows without bit `k` -/
theorem GJInv.pivot {V : List Nat} {k : Nat} {st : List Nat × List Nat} (h : GJInv V k st) (hk : k < 20)
    (hV : ∀ v ∈ V, v < 2 ^ 20) {e : Nat} (he : combo V e = 2 ^ k) :
    ∃ p, st.2.find? (fun r => r.testBit k) = some p := by
  cases hf : st.2.find? (fun r => r.testBit k) with
  | some p => exact ⟨p, rfl⟩
  | none =>
    exfalso
    rw [List.find?_eq_none] at hf
    obtain ⟨d, hd⟩ := h.span e
    have hx : combo (st.1 ++ st.2) d % 2 ^ 20 = 2 ^ k := by
      rw [hd, combo_map (f := (· % 2 ^ 20)) fun _ _ => Nat.xor_mod_two_pow, augment_map_mod V 0 hV, he]
    obtain ⟨hs, hlow⟩ := h.split d
    -- below bit `k` the combination shows the selector of the done rows: none is selected
    rw [← Nat.mod_mod_of_dvd _ (Nat.pow_dvd_pow 2 (Nat.le_of_lt hk)), hx, Nat.mod_self] at hlow
    rw [← hlow, combo_zero, Nat.zero_xor] at hs
    have hbit : (combo (st.1 ++ st.2) d % 2 ^ 20).testBit k = false := by
      rw [Nat.testBit_mod_two_pow, hs, combo_induction (P := fun x => x.testBit k = false) (Nat.zero_testBit k)
        (fun a b ha hb => by rw [Nat.testBit_xor, ha, hb]; rfl) st.2 (fun r hr => by simpa using hf r hr),
        Bool.and_false]
    rw [hx, Nat.testBit_two_pow_self] at hbit
    exact Bool.noConfusion hbit

theorem GJInv.step {V : List Nat} {k : Nat} {st : List Nat × List Nat} (h : GJInv V k st) {p : Nat}
    (hf : st.2.find? (fun r => r.testBit k) = some p) : GJInv V (k + 1) (gjStep st k) := by
  have hpk : p.testBit k = true := List.find?_some (p := fun r : Nat => r.testBit k) hf
  have hpm : p ∈ st.2 := List.mem_of_find?_eq_some hf
  have hp0 := h.todo p hpm
  simp only [gjStep, hf]
  refine ⟨?_, ?_, ?_, ?_⟩
  · have := List.length_pos_of_mem hpm
    rw [List.length_append, List.length_map, List.length_map, List.length_erase_of_mem hpm, List.length_singleton,
      ← h.len]
    omega
  · rw [List.map_append, List.map_map, List.range_succ, List.map_append, List.map_singleton, List.map_singleton,
      ← h.done, mod_two_pow_succ_eq p k, hp0, if_pos hpk, Nat.zero_add]
    congr 1
    exact List.map_congr_left fun r _ => elim_mod p k r hp0 hpk
  · intro r hr
    obtain ⟨r', hr', rfl⟩ := List.mem_map.mp hr
    rw [elim_mod p k r' hp0 hpk]
    exact h.todo r' (List.mem_of_mem_erase hr')
  · intro e
    obtain ⟨d, hd⟩ := h.span e
    rw [← hd]
    refine exists_combo_eq_combo (fun r hr => ?_) d
    by_cases hrp : r = p
    · exact hrp ▸ exists_combo_eq_of_mem (List.mem_append_left _ (List.mem_append_right _ List.mem_cons_self))
    · refine exists_combo_of_elim (r.testBit k)
        (List.mem_append_left _ (List.mem_append_right _ List.mem_cons_self)) ?_
      rcases List.mem_append.mp hr with hr | hr
      · exact List.mem_append_left _ (List.mem_append_left _ (List.mem_map_of_mem hr))
      · exact List.mem_append_right _ (List.mem_map_of_mem ((List.mem_erase_of_ne hrp).mpr hr))

theorem GJInv.foldl {V : List Nat} (hV : ∀ v ∈ V, v < 2 ^ 20) (hunit : ∀ k, k < 20 → ∃ e, combo V e = 2 ^ k) :
    ∀ n, n ≤ 20 → GJInv V n ((List.range n).foldl gjStep ([], augment 0 V))
  | 0, _ => GJInv.init V
  | n + 1, hn => by
    have h := GJInv.foldl hV hunit n (Nat.le_of_succ_le hn)
    obtain ⟨e, he⟩ := hunit n hn
    obtain ⟨p, hp⟩ := h.pivot hn hV he
    rw [List.range_succ, List.foldl_append]
    exact h.step hp

/-- Gauss–Jordan inverts every `V` whose combinations reach the unit vectors (so that no column lacks a pivot): at
    the end the rows are `e_k | m_k`, and `combo V e | e` is a combination of them: the one selected by
    `combo V e`, as its low part shows; the high part says `combo (invert V) (combo V e) = e` -/
theorem invert_combo (V : List Nat) (hl : V.length = 20) (hV : ∀ v ∈ V, v < 2 ^ 20)
    (hunit : ∀ k, k < 20 → ∃ e, combo V e = 2 ^ k) (e : Nat) (he : e < 2 ^ 20) :
    combo (invert V) (combo V e) = e := by
  have h := GJInv.foldl hV hunit 20 (Nat.le_refl 20)
  rw [invert]
  generalize (List.range 20).foldl gjStep ([], augment 0 V) = st at h
  have h2 : st.2 = [] := List.eq_nil_of_length_eq_zero (by have := h.len; have := h.length_done; omega)
  obtain ⟨d, hd⟩ := h.span e
  obtain ⟨ha, hb⟩ := combo_augment V hV e (hl.symm ▸ he)
  have hlow := (h.split d).2
  rw [hd, ha] at hlow
  have hm := combo_mod (st.1.map (· >>> 20)) d
  rw [List.length_map, h.length_done] at hm
  rw [h2, List.append_nil] at hd
  rw [hlow, hm, ← combo_map (f := (· >>> 20)) fun _ _ => Nat.shiftRight_xor_distrib, hd, hb]

/-- independent rows reach every unit vector (the pigeonhole), so Gauss–Jordan inverts them -/
theorem checkInv_invert (V : List Nat) (hl : V.length = 20) (hV : ∀ v ∈ V, v < 2 ^ 20)
    (hind : ∀ d, d < 2 ^ 20 → combo V d = 0 → d = 0) : checkInv V (invert V) = true := by
  rw [checkInv, List.all_eq_true]
  intro i hi
  rw [beq_iff_eq]
  exact invert_combo V hl hV (fun k hk => (combo_surj V hV hind _ (Nat.pow_lt_pow_right (by decide) hk)).imp
    fun _ h => h.2) _ (Nat.pow_lt_pow_right (by decide) (List.mem_range.mp hi))

/-! ## the kernel computation -/

/-- the elimination within `A`: its pivots, each with its leading bit, in the order `indepK` meets them -/
def redK : Nat → List Nat → Option (List (Nat × Nat))
  | 0, _ => some []
  | _ + 1, [] => none
  | n + 1, v :: vs => if Nat.blt 0 v then (redK n (vs.map (elimK v v.log2))).map ((v, v.log2) :: ·) else none

def applyK (ps : List (Nat × Nat)) (u : Nat) : Nat := ps.foldl (fun u p => elimK p.1 p.2 u) u

/-- eliminating `A ++ B` is reducing `A` to its pivots, clearing them out of `B` and eliminating what is left: the
    first part depends on `A` alone, so it is computed once for all the `B` that `A` is paired with -/
theorem indepK_append : ∀ (m n : Nat) (A B : List Nat), A.length = m →
    indepK (n + m) (A ++ B) = match redK m A with
      | none => false
      | some ps => indepK n (B.map (applyK ps))
  | 0, n, [], B, _ => by
    rw [redK, List.nil_append, Nat.add_zero]
    exact congrArg _ (List.map_id' B).symm
  | m + 1, n, v :: A, B, h => by
    have ih := indepK_append m n (A.map (elimK v v.log2)) (B.map (elimK v v.log2))
      (by rw [List.length_map]; exact Nat.succ.inj h)
    rw [redK, List.cons_append, ← Nat.add_assoc, indepK, List.map_append, ih]
    cases Nat.blt 0 v
    · rfl
    · cases redK m (A.map (elimK v v.log2)) with
      | none => rfl
      | some ps => simp only [Bool.true_and, if_true, Option.map_some, List.map_map]; rfl

def rowsOK (ws : List Nat) : Bool := ws.length == 10 && ws.all (fun w => hi w < 2 ^ 20)

theorem rowsOK_spec {ws : List Nat} (h : rowsOK ws = true) :
    (ws.map hi).length = 10 ∧ ∀ v ∈ ws.map hi, v < 2 ^ 20 := by
  rw [rowsOK, Bool.and_eq_true, beq_iff_eq, List.all_eq_true] at h
  refine ⟨by rw [List.length_map, h.1], fun v hv => ?_⟩
  obtain ⟨w, hw, rfl⟩ := List.mem_map.mp hv
  exact of_decide_eq_true (h.2 w hw)

/-- `pairsFrom` with the elimination in place of the inversion, the ten rows `ws.map hi` reduced once (`redK`) for
    all their partners `wg` -/
def pairsFromShared (prev : List (List Nat)) : List (List Nat) → Bool
  | [] => true
  | ws :: rest =>
    rowsOK ws &&
    (match redK 10 (ws.map hi) with
     | none => false
     | some ps => prev.all fun wg => indepK 10 ((wg.map hi).map (applyK ps))) &&
    pairsFromShared (prev ++ [ws]) rest

theorem pairsFrom_of_shared : ∀ (l prev : List (List Nat)), (∀ wg ∈ prev, rowsOK wg = true) →
    pairsFromShared prev l = true → pairsFrom prev l = true
  | [], _, _, _ => rfl
  | ws :: rest, prev, hprev, h => by
    rw [pairsFromShared, Bool.and_eq_true, Bool.and_eq_true] at h
    obtain ⟨⟨hws, hp⟩, hrest⟩ := h
    rw [pairsFrom, Bool.and_eq_true, List.all_eq_true]
    refine ⟨fun wg hwg => ?_, pairsFrom_of_shared rest _ (fun wg hwg => ?_) hrest⟩
    · obtain ⟨l1, b1⟩ := rowsOK_spec hws
      obtain ⟨l2, b2⟩ := rowsOK_spec (hprev wg hwg)
      have hind : indepK 20 (ws.map hi ++ wg.map hi) = true := by
        rw [show 20 = 10 + 10 from rfl, indepK_append 10 10 _ _ l1]
        cases hr : redK 10 (ws.map hi) with
        | none => rw [hr] at hp; exact Bool.noConfusion hp
        | some ps =>
          rw [hr] at hp
          exact List.all_eq_true.mp hp wg hwg
      exact checkInv_invert _ (by rw [List.length_append, l1, l2])
        (fun v hv => (List.mem_append.mp hv).elim (b1 v) (b2 v)) (indepK_sound 20 _ hind)
    · rcases List.mem_append.mp hwg with h | h
      · exact hprev wg h
      · rw [List.mem_singleton.mp h]; exact hws

theorem three_check : pairsFrom [] (basesChain 32 (basisAt 0)) = true :=
  pairsFrom_of_shared _ [] (fun _ h => nomatch h) (by decide +kernel)

end Buidl.Shamir
