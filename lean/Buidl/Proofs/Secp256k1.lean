/-
  The group law specialised to the concrete curve of buidl/pecc.py (constants from Buidl.Gen.Ecc,
  re-extracted from /repo on every run) and to the code's operators `smul` (any integer scalar,
  reduced mod N by the code), `sadd`, `saddInt`; G has order exactly N.  The kernel computations
  (primality of P and N, `G_valid`, `pmul_N_G : N·G = ∞`) are in Buidl.Proofs.SecpPrime.

  Mathlib has no Hasse bound, so it is not known here that every curve point lies in ⟨G⟩;
  order statements are for points `smul k G` (`InG`: every point the library can produce from a
  scalar) or for `Tors Q` (valid and `pmul P A N Q = .inf`).
-/
import Buidl.Proofs.SecpPrime
import Buidl.Proofs.SecpConst

namespace Buidl.EC
open Buidl

-- keep the unifier from evaluating `pmul P A N Q` (257 unrolled doublings) when it compares types
attribute [local irreducible] pmul

/-- a valid curve point annihilated by `N` (every point of `⟨G⟩` is one; with the Hasse bound every
    curve point would be) -/
def Tors (Q : Pt) : Prop := Valid P A B Q ∧ pmul P A N Q = .inf

def InG (Q : Pt) : Prop := ∃ k : ℤ, Q = smul k G

theorem G_tors : Tors G := ⟨G_valid, pmul_N_G⟩

theorem inf_tors : Tors .inf := ⟨valid_inf, pmul_inf N⟩

theorem Tors.nsmul_toGroup {Q : Pt} (h : Tors Q) : N • toGroup P A B Q = 0 :=
  (pmul_eq_inf_iff curveOK_secp N h.1).mp h.2

theorem tors_of_nsmul {Q : Pt} (hQ : Valid P A B Q) (h : N • toGroup P A B Q = 0) : Tors Q :=
  ⟨hQ, (pmul_eq_inf_iff curveOK_secp N hQ).mpr h⟩

theorem sadd_valid {Q R : Pt} (hQ : Valid P A B Q) (hR : Valid P A B R) : Valid P A B (sadd Q R) :=
  padd_valid curveOK_secp hQ hR

theorem smul_valid {Q : Pt} (hQ : Valid P A B Q) (k : ℤ) : Valid P A B (smul k Q) :=
  pmul_valid curveOK_secp _ hQ

theorem toGroup_sadd {Q R : Pt} (hQ : Valid P A B Q) (hR : Valid P A B R) :
    toGroup P A B (sadd Q R) = toGroup P A B Q + toGroup P A B R :=
  toGroup_padd curveOK_secp hQ hR

theorem N_pos_int : (0 : ℤ) < (N : ℤ) := Int.natCast_pos.mpr (by decide)

/-- S256Point.__rmul__ is multiplication by the integer (any integer: negative, ≥ N, …) on
    points annihilated by N -/
theorem toGroup_smul {Q : Pt} (hQ : Tors Q) (k : ℤ) :
    toGroup P A B (smul k Q) = k • toGroup P A B Q := by
  unfold smul
  rw [toGroup_pmul curveOK_secp _ hQ.1, ← natCast_zsmul,
    Int.toNat_of_nonneg (Int.emod_nonneg _ N_pos_int.ne')]
  conv_rhs => rw [← Int.ediv_mul_add_emod k N, add_zsmul, mul_zsmul, natCast_zsmul, hQ.nsmul_toGroup,
    zsmul_zero, zero_add]

theorem smul_tors {Q : Pt} (hQ : Tors Q) (k : ℤ) : Tors (smul k Q) := by
  apply tors_of_nsmul (smul_valid hQ.1 k)
  rw [toGroup_smul hQ, ← natCast_zsmul, zsmul_comm, natCast_zsmul, hQ.nsmul_toGroup, zsmul_zero]

theorem sadd_tors {Q R : Pt} (hQ : Tors Q) (hR : Tors R) : Tors (sadd Q R) := by
  apply tors_of_nsmul (sadd_valid hQ.1 hR.1)
  rw [toGroup_sadd hQ.1 hR.1, nsmul_add, hQ.nsmul_toGroup, hR.nsmul_toGroup, add_zero]

theorem InG.tors {Q : Pt} (h : InG Q) : Tors Q := by
  obtain ⟨k, rfl⟩ := h; exact smul_tors G_tors k

theorem InG.valid {Q : Pt} (h : InG Q) : Valid P A B Q := h.tors.1

theorem smul_add {Q : Pt} (hQ : Tors Q) (a b : ℤ) :
    sadd (smul a Q) (smul b Q) = smul (a + b) Q := by
  apply toGroup_inj curveOK_secp (sadd_valid (smul_valid hQ.1 a) (smul_valid hQ.1 b)) (smul_valid hQ.1 _)
  rw [toGroup_sadd (smul_valid hQ.1 a) (smul_valid hQ.1 b), toGroup_smul hQ, toGroup_smul hQ,
    toGroup_smul hQ, add_zsmul]

theorem smul_smul {Q : Pt} (hQ : Tors Q) (a b : ℤ) : smul a (smul b Q) = smul (a * b) Q := by
  apply toGroup_inj curveOK_secp (smul_valid (smul_valid hQ.1 b) a) (smul_valid hQ.1 _)
  rw [toGroup_smul (smul_tors hQ b), toGroup_smul hQ, toGroup_smul hQ, mul_zsmul]

/-- the code reduces the coefficient modulo N first, so congruent coefficients act alike on every point -/
theorem smul_of_emod_eq {a b : ℤ} (h : a % (N : ℤ) = b % (N : ℤ)) (Q : Pt) : smul a Q = smul b Q := by
  unfold smul; rw [h]

theorem smul_of_cast_eq {a b : ℤ} (h : (a : ZMod N) = (b : ZMod N)) (Q : Pt) : smul a Q = smul b Q :=
  smul_of_emod_eq ((ZMod.intCast_eq_intCast_iff' a b N).mp h) Q

theorem smul_emod (k : ℤ) (Q : Pt) : smul (k % (N : ℤ)) Q = smul k Q :=
  smul_of_emod_eq (Int.emod_emod_of_dvd _ (dvd_refl _)) Q

theorem smul_add_mul_N (k j : ℤ) (Q : Pt) : smul (k + j * (N : ℤ)) Q = smul k Q :=
  smul_of_emod_eq (Int.add_mul_emod_self_right _ _ _) Q

theorem smul_natCast (k : ℕ) (X : Pt) : smul (k : ℤ) X = pmul P A (k % N) X := by
  show pmul P A ((k : ℤ) % (N : ℤ)).toNat X = _
  rw [← Int.natCast_mod, Int.toNat_natCast]

theorem smul_natCast_mod (k : ℕ) (X : Pt) : smul ((k % N : ℕ) : ℤ) X = smul (k : ℤ) X := by
  rw [Int.natCast_mod]; exact smul_emod k X

/-- `N * Q` on the code's operator is `0 * Q` -/
theorem smul_N (Q : Pt) : smul (N : ℤ) Q = .inf := by
  rw [smul_natCast, Nat.mod_self]; exact pmul_zero Q

theorem smul_one {Q : Pt} (hQ : Valid P A B Q) : smul 1 Q = Q :=
  (smul_natCast 1 Q).trans (pmul_one curveOK_secp hQ)

theorem sadd_self {Q : Pt} (hQ : Valid P A B Q) : sadd Q Q = smul 2 Q :=
  ((smul_natCast 2 Q).trans (pmul_two curveOK_secp hQ)).symm

theorem smul_inf (k : ℤ) : smul k .inf = .inf := pmul_inf _

/-- multiplication by the true order without the reduction of the coefficient:
    `Point.__rmul__(N, Q) = ∞` for every `Q ∈ ⟨G⟩` -/
theorem pmul_N_of_inG {Q : Pt} (h : InG Q) : pmul P A N Q = .inf := h.tors.2

theorem smul_neg {Q : Pt} (hQ : Tors Q) (a : ℤ) : smul (-a) Q = pneg P (smul a Q) := by
  apply toGroup_inj curveOK_secp (smul_valid hQ.1 _) (pneg_valid curveOK_secp (smul_valid hQ.1 a))
  rw [toGroup_smul hQ, toGroup_pneg curveOK_secp (smul_valid hQ.1 a), toGroup_smul hQ, neg_zsmul]

theorem smul_neg_one {Q : Pt} (hQ : Tors Q) : smul (-1) Q = pneg P Q := by
  rw [smul_neg hQ 1, smul_one hQ.1]

theorem sadd_pneg {Q : Pt} (hQ : Valid P A B Q) : sadd Q (pneg P Q) = .inf :=
  padd_pneg curveOK_secp hQ

theorem sadd_smul_neg_one {Q : Pt} (hQ : Tors Q) : sadd Q (smul (-1) Q) = .inf := by
  rw [smul_neg_one hQ]; exact sadd_pneg hQ.1

theorem sadd_comm {Q R : Pt} (hQ : Valid P A B Q) (hR : Valid P A B R) : sadd Q R = sadd R Q :=
  padd_comm curveOK_secp hQ hR

theorem sadd_assoc {Q R S : Pt} (hQ : Valid P A B Q) (hR : Valid P A B R) (hS : Valid P A B S) :
    sadd (sadd Q R) S = sadd Q (sadd R S) := padd_assoc curveOK_secp hQ hR hS

theorem sadd_inf_left (Q : Pt) : sadd .inf Q = Q := padd_inf_left Q
theorem sadd_inf_right (Q : Pt) : sadd Q .inf = Q := padd_inf_right Q

theorem smul_sadd {Q R : Pt} (hQ : Tors Q) (hR : Tors R) (k : ℤ) :
    smul k (sadd Q R) = sadd (smul k Q) (smul k R) := by
  apply toGroup_inj curveOK_secp (smul_valid (sadd_valid hQ.1 hR.1) k)
    (sadd_valid (smul_valid hQ.1 k) (smul_valid hR.1 k))
  rw [toGroup_smul (sadd_tors hQ hR), toGroup_sadd hQ.1 hR.1,
    toGroup_sadd (smul_valid hQ.1 k) (smul_valid hR.1 k), toGroup_smul hQ, toGroup_smul hR, zsmul_add]

/-- S256Point.__add__ with an int -/
theorem saddInt_eq (Q : Pt) (k : ℤ) : saddInt Q k = sadd Q (smul k G) := rfl

/-! ### the order of G is exactly N -/

theorem addOrderOf_G : addOrderOf (toGroup P A B G) = N :=
  addOrderOf_eq_prime G_tors.nsmul_toGroup (mt (toGroup_eq_zero curveOK_secp G_valid).mp G_ne_inf)

theorem smul_G_eq_iff (a b : ℤ) : smul a G = smul b G ↔ a % (N : ℤ) = b % (N : ℤ) := by
  constructor
  · intro h
    have h1 := congrArg (toGroup P A B) h
    rwa [toGroup_smul G_tors, toGroup_smul G_tors, zsmul_eq_zsmul_iff_modEq, addOrderOf_G] at h1
  · exact fun h => smul_of_emod_eq h G

theorem smul_G_eq_inf_iff (a : ℤ) : smul a G = .inf ↔ (N : ℤ) ∣ a := by
  rw [← smul_zero G, smul_G_eq_iff, Int.zero_emod, Int.dvd_iff_emod_eq_zero]

theorem smul_G_ne_inf {d : ℕ} (h1 : 1 ≤ d) (h2 : d < N) : smul (d : ℤ) G ≠ .inf := by
  intro h
  have := Int.le_of_dvd (by omega) ((smul_G_eq_inf_iff _).mp h)
  omega

theorem smul_G_inj {a b : ℤ} (h : smul a G = smul b G) : a % (N : ℤ) = b % (N : ℤ) :=
  (smul_G_eq_iff a b).mp h

end Buidl.EC
