/-
  The points the library derives from a secret are the multiples `a·G`
  (`smul a G`, any integer `a`), and on them everything happens in the scalar: `sadd`, `smul`, `pneg`
  and `even_point` act on `a`, and `a·G = b·G` exactly when `a = b` in the field `ZMod N`.  The
  signature schemes and key tweaks are identities of that field (`ring`, `linear_combination`); they need
  nothing else of the curve.
-/
import Buidl.Proofs.Secp256k1

namespace Buidl.EC
open Buidl

-- keep the unifier from evaluating `pmul P A N Q` when it compares types
attribute [local irreducible] pmul

theorem smul_G_tors (a : ℤ) : Tors (smul a G) := smul_tors G_tors a

theorem smul_G_eq_iff_cast {a b : ℤ} : smul a G = smul b G ↔ (a : ZMod N) = (b : ZMod N) := by
  rw [smul_G_eq_iff, ZMod.intCast_eq_intCast_iff']

/-- what every verification computes: a combination of `G` and a key `d·G` is a multiple of `G` -/
theorem sadd_smul_G (u v d : ℤ) : sadd (smul u G) (smul v (smul d G)) = smul (u + v * d) G := by
  rw [smul_smul G_tors, smul_add G_tors]

theorem cast_N_sub {e : ℕ} (he : e ≤ N) : (((N - e : ℕ) : ℤ) : ZMod N) = -((e : ℤ) : ZMod N) := by
  rw [Nat.cast_sub he, Int.cast_sub, Int.cast_natCast, ZMod.natCast_self, zero_sub]

theorem smul_N_sub {e : ℕ} (he : e ≤ N) (Q : Pt) : smul ((N - e : ℕ) : ℤ) Q = smul (-(e : ℤ)) Q :=
  smul_of_cast_eq (by rw [cast_N_sub he, Int.cast_neg]) Q

/-- negation keeps x: `(±k)·G` has the abscissa of `k·G` -/
theorem smul_G_sign {k : ℤ} {r y : ℕ} (h : smul k G = .aff r y) {w : ℤ}
    (hw : (w : ZMod N) = k ∨ (w : ZMod N) = -(k : ZMod N)) : ∃ y', smul w G = .aff r y' := by
  rcases hw with hw | hw
  · exact ⟨y, (smul_G_eq_iff_cast.mpr hw).trans h⟩
  · refine ⟨(P - y) % P, ?_⟩
    rw [(smul_G_eq_iff_cast (b := -k)).mpr (by rw [hw, Int.cast_neg]), smul_neg G_tors, h]
    rfl

theorem evenPoint_smul_G (a : ℤ) :
    evenPoint (smul a G) = smul (if parity (smul a G) = 1 then -a else a) G := by
  unfold evenPoint
  split
  · rw [smul_smul G_tors, neg_one_mul]
  · rfl

/-- `evenPoint_smul_G` with the scalar as the code computes it on naturals (`N - d` for `-d`):
    PrivateKey.even_secret, and the nonce flip of sign_schnorr -/
theorem evenPoint_smul_nat {d px py : ℕ} (hd : d ≤ N) (h : smul (d : ℤ) G = .aff px py) :
    evenPoint (.aff px py) = smul ((if py % 2 = 1 then N - d else d : ℕ) : ℤ) G := by
  rw [← h, evenPoint_smul_G, h]
  show smul (if py % 2 = 1 then _ else _) G = _
  split
  · exact (smul_N_sub hd G).symm
  · rfl

end Buidl.EC
