/-
  The dispatch of `address_to_script_pubkey` and `TxOut.to_address` on the strings that
  `.address(network)` produces, per template; WIF; what `TxOut.to_address` accepts on a segwit address: only the three
  (version, length) pairs the library has a script type for, and then exactly the script of THAT version.
-/
import Buidl.Proofs.Address
namespace Buidl.Address
open Buidl Buidl.Base58 Buidl.Bech32 Buidl.Script

/-! ### segwit strings through `address_to_script_pubkey` -/

/-- `address_to_script_pubkey` on a string with a segwit prefix: the character after the separator
    selects the branch (`q`: version 0, `p`: version 1), the length the template -/
theorem a2s_segwit (hash256 : Bytes → Bytes) {net : Str} {c : Char} {rest s : Str}
    (hs : s = hrpOf net ++ '1' :: c :: rest) :
    addressToScriptPubkey hash256 s =
      if c = 'q' then
        if Gen.a2sWpkhLens.contains s.length then (decodeBech32 s).map fun r => Spk.p2wpkh r.2.2
        else if Gen.a2sWshLens.contains s.length then (decodeBech32 s).map fun r => Spk.p2wsh r.2.2
        else none
      else if c = 'p' then
        if ¬ Gen.a2sTrLens.contains s.length then none else (decodeBech32 s).map fun r => Spk.p2tr r.2.2
      else none := by
  subst hs
  -- the tests against "bc1q" / "tb1q" come out as `'q' = c`, the one against "bcrt1q" as `c = 'q'`
  rcases hrpOf_cases net with e | e | e <;> rw [e] <;>
    simp [addressToScriptPubkey, Gen.a2sW0, Gen.a2sW1, Gen.a2sW2, Gen.a2sW3, Gen.a2sW4, Gen.a2sW5, inStrs,
      Gen.a2sP2pkhFirst, Gen.a2sP2shFirst, Gen.a2sV0Prefixes, Gen.a2sV1Prefixes, Gen.a2sV0Regtest, Gen.a2sV1Regtest,
      eq_comm (a := 'q'), eq_comm (a := 'p')]

/-- the lengths `address_to_script_pubkey` tests for, in terms of the prefix: 42/44 characters for
    a 20-byte program, 62/64 for a 32-byte one -/
theorem a2s_lens (net : Str) :
    Gen.a2sWpkhLens.contains ((hrpOf net).length + 40) = true ∧ Gen.a2sWpkhLens.contains ((hrpOf net).length + 60) = false ∧
      Gen.a2sWshLens.contains ((hrpOf net).length + 60) = true ∧ Gen.a2sTrLens.contains ((hrpOf net).length + 60) = true := by
  rcases hrpOf_cases net with e | e | e <;> rw [e] <;> decide

/-! ### segwit strings through `TxOut.to_address` -/

/-- the template `TxOut.to_address` has for witness version `v` and a program of that length -/
def templateOf (v : Nat) (prog : Bytes) : Option Spk :=
  if v = 0 then
    if prog.length = 20 then some (.p2wpkh prog) else if prog.length = 32 then some (.p2wsh prog) else none
  else if v = 1 then (if prog.length = 32 then some (.p2tr prog) else none)
  else none

theorem templateOf_eq_some_iff (v : Nat) (prog : Bytes) (spk : Spk) :
    templateOf v prog = some spk ↔
      (v = 0 ∧ prog.length = 20 ∧ spk = .p2wpkh prog) ∨ (v = 0 ∧ prog.length = 32 ∧ spk = .p2wsh prog) ∨
        (v = 1 ∧ prog.length = 32 ∧ spk = .p2tr prog) := by
  unfold templateOf
  constructor
  · intro h
    split at h
    · next h0 =>
      split at h
      · next h20 => exact Or.inl ⟨h0, h20, (Option.some.inj h).symm⟩
      · split at h
        · next h32 => exact Or.inr (Or.inl ⟨h0, h32, (Option.some.inj h).symm⟩)
        · cases h
    · split at h
      · next h1 =>
        split at h
        · next h32 => exact Or.inr (Or.inr ⟨h1, h32, (Option.some.inj h).symm⟩)
        · cases h
      · cases h
  · rintro (⟨rfl, hl, rfl⟩ | ⟨rfl, hl, rfl⟩ | ⟨rfl, hl, rfl⟩) <;> simp [hl]

theorem toAddress_segwit (segs : List String) (hash256 : Bytes → Bytes) (s : Str)
    (hseg : segs.any (fun p => p.toList.isPrefixOf s) = true) :
    toAddress segs hash256 s = (decodeBech32 s).bind fun r => templateOf r.2.1 r.2.2 := by
  unfold toAddress
  rw [if_pos hseg]
  cases decodeBech32 s with
  | none => rfl
  | some r => rfl

theorem segPrefixesRepaired_any (net : Str) (rest : Str) :
    segPrefixesRepaired.any (fun p => p.toList.isPrefixOf (hrpOf net ++ '1' :: rest)) = true := by
  rcases hrpOf_cases net with e | e | e <;> rw [e] <;> simp [segPrefixesRepaired, List.isPrefixOf]

theorem segPrefixesAsIs_any {net : Str} (hnet : KnownNet net) (hnr : net ≠ regtest) (rest : Str) :
    segPrefixesAsIs.any (fun p => p.toList.isPrefixOf (hrpOf net ++ '1' :: rest)) = true := by
  rcases hnet with rfl | rfl | rfl | rfl
  · rfl
  · rfl
  · rfl
  · exact absurd rfl hnr

/-! ### Base58 strings through both functions -/

theorem toAddress_base58 (segs : List String) (hash256 : Bytes → Bytes) (s : Str) (c : Char) (hc : s.take 1 = [c])
    (hseg : segs.any (fun p => p.toList.isPrefixOf s) = false) :
    toAddress segs hash256 s =
      if inStrs [c] Gen.toAddrP2shFirst then
        (match decodeBase58 hash256 s with
         | none => none
         | some h => if h.length = Gen.toAddrP2shLen then some (.p2sh h) else none)
      else if inStrs [c] Gen.toAddrP2pkhFirst then
        (match decodeBase58 hash256 s with
         | none => none
         | some h => if h.length = Gen.toAddrP2pkhLen then some (.p2pkh h) else none)
      else none := by
  unfold toAddress
  rw [if_neg (by rw [hseg]; decide)]
  cases s with
  | nil => simp at hc
  | cons x xs =>
    have : x = c := by simpa using hc
    subst this
    rfl

theorem no_segwit_prefix (segs : List String) (hsegs : segs = segPrefixesAsIs ∨ segs = segPrefixesRepaired)
    (s : Str) (c : Char) (hc : s.take 1 = [c]) (hcc : c ≠ 'b' ∧ c ≠ 't') :
    segs.any (fun p => p.toList.isPrefixOf s) = false := by
  cases s with
  | nil => simp at hc
  | cons x xs =>
    have : x = c := by simpa using hc
    subst this
    have h1 : ¬ 'b' = x := fun e => hcc.1 e.symm
    have h2 : ¬ 't' = x := fun e => hcc.2 e.symm
    rcases hsegs with e | e <;> rw [e] <;> simp [segPrefixesAsIs, segPrefixesRepaired, List.isPrefixOf, h1, h2]

/-- F09a: every string starting with "bcrt1" is refused when the prefix list is the one before the F09a fix: neither
    listed prefix matches, and 'b' is not a first character of a Base58 address -/
theorem toAddress_asis_regtest (hash256 : Bytes → Bytes) (rest : Str) :
    toAddress segPrefixesAsIs hash256 (hrpOf regtest ++ '1' :: rest) = none := by
  rw [show hrpOf regtest = ['b', 'c', 'r', 't'] by decide +kernel,
    toAddress_base58 _ _ _ 'b' rfl (by simp [segPrefixesAsIs, List.isPrefixOf])]
  rfl

theorem address_p2pkh (hash256 : Bytes → Bytes) (h : Bytes) (net : Str) :
    address hash256 (.p2pkh h) net = encodeBase58Checksum hash256 ((if net = mainnet then 0x00 else 0x6f) :: h) := by
  have hmain : Gen.p2pkhMainnetName.toList = mainnet := by decide +kernel
  by_cases hn : net = mainnet <;> simp [address, hmain, hn, Gen.p2pkhVersionMain, Gen.p2pkhVersionOther]

theorem address_p2sh (hash256 : Bytes → Bytes) (h : Bytes) (net : Str) :
    address hash256 (.p2sh h) net = encodeBase58Checksum hash256 ((if net = mainnet then 0x05 else 0xc4) :: h) := by
  have hmain : Gen.p2shMainnetName.toList = mainnet := by decide +kernel
  by_cases hn : net = mainnet <;> simp [address, hmain, hn, Gen.p2shVersionMain, Gen.p2shVersionOther]

theorem base58_dispatch (hash256 : Bytes → Bytes) (s : Str) (c : Char) (k : Bytes → Spk) (hc : s.take 1 = [c])
    (hk : (c = '1' ∨ c = 'm' ∨ c = 'n') ∧ k = Spk.p2pkh ∨ (c = '3' ∨ c = '2') ∧ k = Spk.p2sh) :
    addressToScriptPubkey hash256 s = (decodeBase58 hash256 s).map k ∧
      ∀ segs, segs = segPrefixesAsIs ∨ segs = segPrefixesRepaired →
        toAddress segs hash256 s = (decodeBase58 hash256 s).bind fun h => if h.length = 20 then some (k h) else none := by
  have hcc : c ≠ 'b' ∧ c ≠ 't' := by rcases hk with ⟨rfl | rfl | rfl, -⟩ | ⟨rfl | rfl, -⟩ <;> decide
  refine ⟨?_, fun segs hs => ?_⟩
  · rw [addressToScriptPubkey, show s.take Gen.a2sW0 = [c] from hc]
    rcases hk with ⟨rfl | rfl | rfl, rfl⟩ | ⟨rfl | rfl, rfl⟩ <;> rfl
  · rw [toAddress_base58 segs hash256 s c hc (no_segwit_prefix segs hs s c hc hcc)]
    rcases hk with ⟨rfl | rfl | rfl, rfl⟩ | ⟨rfl | rfl, rfl⟩ <;> cases decodeBase58 hash256 s <;> rfl

/-- the version byte fixes the first character ('1'; 'm' or 'n'; '3'; '2': `base58_first_char`), and that character
    alone selects the template in both functions (`base58_dispatch`) -/
theorem base58_addr (hash256 : Bytes → Bytes) (hh : ∀ b, (hash256 b).length = 32) (v : UInt8) (k : Bytes → Spk)
    (hv : (v = 0x00 ∨ v = 0x6f) ∧ k = Spk.p2pkh ∨ (v = 0x05 ∨ v = 0xc4) ∧ k = Spk.p2sh)
    (h : Bytes) (hl : h.length = 20) (s : Str) (he : encodeBase58Checksum hash256 (v :: h) = some s) :
    addressToScriptPubkey hash256 s = some (k h) ∧
      ∀ segs, segs = segPrefixesAsIs ∨ segs = segPrefixesRepaired → toAddress segs hash256 s = some (k h) := by
  obtain ⟨f0, f6f, f05, fc4⟩ := base58_first_char hash256 hh v h hl s he
  obtain ⟨c, hfc, hc⟩ : ∃ c, s.take 1 = [c] ∧
      ((c = '1' ∨ c = 'm' ∨ c = 'n') ∧ k = Spk.p2pkh ∨ (c = '3' ∨ c = '2') ∧ k = Spk.p2sh) := by
    rcases hv with ⟨rfl | rfl, hk⟩ | ⟨rfl | rfl, hk⟩
    · exact ⟨_, f0 rfl, .inl ⟨.inl rfl, hk⟩⟩
    · rcases f6f rfl with e | e
      · exact ⟨_, e, .inl ⟨.inr (.inl rfl), hk⟩⟩
      · exact ⟨_, e, .inl ⟨.inr (.inr rfl), hk⟩⟩
    · exact ⟨_, f05 rfl, .inr ⟨.inl rfl, hk⟩⟩
    · exact ⟨_, fc4 rfl, .inr ⟨.inr rfl, hk⟩⟩
  obtain ⟨a, b⟩ := base58_dispatch hash256 s c k hfc hc
  rw [a, decodeBase58_encode hash256 hh v h s he]
  exact ⟨rfl, fun segs hs => by rw [b segs hs, decodeBase58_encode hash256 hh v h s he, Option.bind_some, if_pos hl]⟩

/-! ### WIF -/

/-- a secret the constructor accepts fits the 32 bytes `wif` writes -/
theorem secret_range {secret : Nat} (hlo : 1 ≤ secret) (hhi : secret ≤ Gen.privMaxSecret) :
    secret < 256 ^ 32 ∧ ¬ (secret > Gen.privMaxSecret ∨ secret < Gen.privMinSecret) := by
  have : Gen.privMaxSecret < 256 ^ 32 := by decide
  simp only [Gen.privMinSecret]
  omega

theorem wif_parse_roundtrip (hash256 : Bytes → Bytes) (hh : ∀ b, (hash256 b).length = 32) (secret : Nat)
    (hlo : 1 ≤ secret) (hhi : secret ≤ Gen.privMaxSecret) (net : Str) (compressed : Bool) (s : Str)
    (hw : wif hash256 secret net compressed = some s) :
    wifParse hash256 s = some (secret, if net = Gen.wifMainnetName.toList then Gen.wifParseMainName.toList
      else Gen.wifParseTestName.toList, compressed) := by
  obtain ⟨h256, hrange⟩ := secret_range hlo hhi
  unfold wif at hw
  rw [if_neg hrange] at hw
  simp only [Gen.wifSecretWidth, natToBE_some h256] at hw
  have hraw := rawDecodeBase58_encodeBase58Checksum hash256 (fun b => by rw [hh b]; omega) _ _ hw
  have hsec : beToNat (natToBE' 32 secret) = secret := beToNat_natToBE' h256
  unfold wifParse
  rw [hraw]
  cases compressed with
  | true =>
    have hl : ∀ b : UInt8, (b :: natToBE' 32 secret ++ [UInt8.ofNat Gen.wifCompressedSuffix]).length =
        Gen.wifParseCompressedLen := fun b => by simp [Gen.wifParseCompressedLen]
    have hlast : ∀ b : UInt8, ((b :: natToBE' 32 secret ++ [UInt8.ofNat Gen.wifCompressedSuffix]).getLast?.map (·.toNat)) =
        some Gen.wifParseCompressedFlag := fun b => by rw [List.getLast?_concat]; rfl
    have hdl : ∀ b : UInt8, (b :: natToBE' 32 secret ++ [UInt8.ofNat Gen.wifCompressedSuffix]).dropLast =
        b :: natToBE' 32 secret := fun b => List.dropLast_concat
    simp only [if_true, hl, hlast, ne_eq, not_true_eq_false, if_false, hdl, hsec, hrange]
    by_cases hn : net = Gen.wifMainnetName.toList
    · simp [hn, Gen.wifVersionMain, Gen.wifParseTestByte, Gen.wifParseMainByte]
    · simp [hn, Gen.wifVersionOther, Gen.wifParseTestByte]
  | false =>
    have hl : ∀ b : UInt8, ¬ (b :: natToBE' 32 secret).length = Gen.wifParseCompressedLen := fun b => by
      simp [Gen.wifParseCompressedLen]
    simp only [Bool.false_eq_true, if_false, List.append_nil, hl, hsec, hrange]
    by_cases hn : net = Gen.wifMainnetName.toList
    · simp [hn, Gen.wifVersionMain, Gen.wifParseTestByte, Gen.wifParseMainByte]
    · simp [hn, Gen.wifVersionOther, Gen.wifParseTestByte]

theorem wif_isSome (hash256 : Bytes → Bytes) (secret : Nat) (hlo : 1 ≤ secret) (hhi : secret ≤ Gen.privMaxSecret)
    (net : Str) (compressed : Bool) : ∃ s, wif hash256 secret net compressed = some s := by
  obtain ⟨h256, hrange⟩ := secret_range hlo hhi
  unfold wif
  rw [if_neg hrange]
  simp only [Gen.wifSecretWidth, natToBE_some h256]
  exact encodeBase58Checksum_isSome hash256 _ _

/-! ### soundness of `TxOut.to_address` on segwit strings (from `toAddress_segwit` and `templateOf_eq_some_iff`) -/

theorem toAddress_segwit_sound (hash256 : Bytes → Bytes) (net : Str) (rest : Str) (spk : Spk)
    (h : toAddress segPrefixesRepaired hash256 (hrpOf net ++ '1' :: rest) = some spk) :
    ∃ n v prog, decodeBech32 (hrpOf net ++ '1' :: rest) = some (n, v, prog) ∧
      ((v = 0 ∧ prog.length = 20 ∧ spk = .p2wpkh prog) ∨ (v = 0 ∧ prog.length = 32 ∧ spk = .p2wsh prog) ∨
       (v = 1 ∧ prog.length = 32 ∧ spk = .p2tr prog)) := by
  rw [toAddress_segwit _ _ _ (segPrefixesRepaired_any net rest)] at h
  obtain ⟨⟨n, v, prog⟩, hd, ht⟩ := Option.bind_eq_some_iff.mp h
  exact ⟨n, v, prog, hd, (templateOf_eq_some_iff v prog spk).mp ht⟩

theorem toAddress_segwit_refuses (hash256 : Bytes → Bytes) (net : Str) (rest : Str) (n : Str) (v : Nat) (prog : Bytes)
    (hd : decodeBech32 (hrpOf net ++ '1' :: rest) = some (n, v, prog))
    (hbad : ¬ ((v = 0 ∧ (prog.length = 20 ∨ prog.length = 32)) ∨ (v = 1 ∧ prog.length = 32))) :
    toAddress segPrefixesRepaired hash256 (hrpOf net ++ '1' :: rest) = none := by
  rw [toAddress_segwit _ _ _ (segPrefixesRepaired_any net rest), hd, Option.bind_some]
  cases ht : templateOf v prog with
  | none => rfl
  | some spk =>
    rcases (templateOf_eq_some_iff v prog spk).mp ht with ⟨a, b, _⟩ | ⟨a, b, _⟩ | ⟨a, b, _⟩
    · exact absurd (Or.inl ⟨a, Or.inl b⟩) hbad
    · exact absurd (Or.inl ⟨a, Or.inr b⟩) hbad
    · exact absurd (Or.inr ⟨a, b⟩) hbad

end Buidl.Address
