/-
  C07 — the script interpreter agrees with consensus semantics on its supported opcode set.
  Property theorems only (helper lemmas, including one `conf_*` lemma per `op_*` function:
  Buidl.Proofs.Interp; whole programs, straight-line and with conditionals: Buidl.Proofs.InterpIf).

  Model: Buidl.Model.Interp (`encodeNum`, `decodeNum`, every `op_*`, `evaluate`; dispatch tables and
  timelock constants from Buidl.Gen.Op, re-extracted from /repo on every run), configuration
  `Cfg.repaired` = /repo with work/C07/fix-F07a.diff, fix-F07c.diff, fix-F07d.diff applied.
  Specification: Buidl.Spec.Consensus (transcription of Bitcoin Core's EvalScript for the subset).
  Hash functions are arbitrary (`Env` fields).

  Results are compared as consensus sees them: `liftS` / `Out.toSpec` map "returned False" and
  "raised" to failure.  `Consensus.Res.oversize` / `Consensus.Out.oversize` mark a numeric operand longer
  than 4 bytes (5 for CLTV/CSV): the property covers operands of at most 4 bytes, so the
  theorems assume the consensus result is not `oversize` and say nothing else about operands.

  Known finding F07b (op_2rot copies instead of moving; test_op_2rot expects it): the model
  reproduces it, `F07b_witness` exhibits it, the opcode theorems are `_partial` (every opcode but
  OP_2ROT; OP_2ROT itself on stacks of fewer than 6 items).

  N07e: "properly nested" is read as at most one ELSE per IF (`Bal`); with a repeated ELSE consensus
  and the implementation differ (`N07e_witness`), such programs are outside the theorems.
  N07f: a 5-byte CHECKSEQUENCEVERIFY operand ≥ 2^32 (outside the property's operand range) raises
  ValueError in the implementation (`N07f_witness`); the theorems assume that did not happen.
-/
import Buidl.Proofs.Interp
import Buidl.Proofs.InterpIf
namespace Buidl.Props.C07
open Buidl Buidl.Script Buidl.Interp Buidl.Spec

/-! ## script numbers -/

/-- decoding inverts encoding, for every integer -/
theorem encodeNum_roundtrip (n : Int) : decodeNum (encodeNum n) = n := decodeNum_encodeNum n

/-- the encoding is minimal: no redundant most-significant byte (Core's minimal-encoding test) -/
theorem encodeNum_minimal (n : Int) : Consensus.minimal (encodeNum n) = true := minimal_encodeNum n

/-- the encoder is `CScriptNum::serialize` -/
theorem encodeNum_eq_serialize (n : Int) : encodeNum n = Consensus.serialize n :=
  Interp.encodeNum_eq_serialize n

/-- `decode_num` is total and is `CScriptNum::set_vch` on byte strings of EVERY length -/
theorem decodeNum_eq_scriptNum (b : Bytes) : decodeNum b = Consensus.scriptNum b :=
  Interp.decodeNum_eq_scriptNum b

/-- on operands of at most 4 bytes it is the consensus operand value -/
theorem decodeNum_num4 (b : Bytes) (h : b.length ≤ 4) : Consensus.num4 b = some (decodeNum b) := by
  simp [Consensus.num4, Consensus.numMax, h, Interp.decodeNum_eq_scriptNum]

/-- a consensus number operand is out of range exactly when longer than 4 bytes -/
theorem num4_none_iff (b : Bytes) : Consensus.num4 b = none ↔ 4 < b.length := by
  simp only [Consensus.num4, Consensus.numMax]
  split <;> simp <;> omega

/-- truth of a stack element: `decode_num(x) != 0` is `CastToBool` (negative zero and all-zero
    strings of any length are false) -/
theorem truth_is_castToBool (b : Bytes) : Consensus.castToBool b = true ↔ decodeNum b ≠ 0 :=
  castToBool_iff b

example : encodeNum 0 = [] ∧ encodeNum 127 = [0x7f] ∧ encodeNum 128 = [0x80, 0x00]
    ∧ encodeNum (-128) = [0x80, 0x80] ∧ encodeNum (-1) = [0x81] ∧ encodeNum 2147483647 = [0xff, 0xff, 0xff, 0x7f]
    ∧ decodeNum [0x80] = 0 ∧ decodeNum [0x00, 0x80] = 0 ∧ decodeNum [0x01, 0x00] = 1 := by decide

/-! ## single opcodes, every stack -/

/- op_conforms (the property at full strength) — FALSE on today's code because of F07b:
   for every opcode `c` of the subset, every state `st` with the legacy table,
   `execOp (ctxOf env) c st.stack st.alt ≠ .oversize →
    stepSpec (stepOp Cfg.repaired env st c) = execOp (ctxOf env) c st.stack st.alt`. -/

/-- Every opcode of the subset except OP_2ROT (and IF/NOTIF, below), dispatched through /repo's
    OP_CODE_FUNCTIONS exactly as `Script.evaluate` does, maps EVERY stack (no depth bound) to the
    stack or failure consensus specifies, whenever consensus does not reject a numeric operand as
    longer than 4 bytes.  `hve`: for CHECKSEQUENCEVERIFY the implementation did not raise
    ValueError (operand ≥ 2^32, outside the property's operand range: note N07f). -/
theorem op_conforms_partial (env : Env) (hlt : env.locktime ≤ 4294967295) (st : St) (htap : st.tap = false)
    (c : Nat) (fn : OpFn) (hp : (c, fn) ∈ opPairs)
    (hve : c = 178 → op_checksequenceverify Cfg.repaired env st.stack ≠ .err .valueError)
    (h : Consensus.execOp (ctxOf env) c st.stack st.alt ≠ .oversize) :
    stepSpec (stepOp Cfg.repaired env st c) = Consensus.execOp (ctxOf env) c st.stack st.alt :=
  ((OpIs.of_pair hp).stepSpec _ env st htap).trans (fn_conforms env c fn hp st.stack st.alt hlt hve h)

/-- the subset covered by `op_conforms_partial`: 75 opcodes (constants, NOPs, VERIFY, RETURN, stack
    manipulation, SIZE, EQUAL(VERIFY), arithmetic and comparisons, hashes, CLTV, CSV) -/
theorem opPairs_codes : opPairs.map (·.1) =
    [0, 79, 81, 82, 83, 84, 85, 86, 87, 88, 89, 90, 91, 92, 93, 94, 95, 96, 97, 105, 106, 109, 110, 111,
     112, 114, 115, 116, 117, 118, 119, 120, 121, 122, 123, 124, 125, 130, 135, 136, 139, 140, 143, 144,
     145, 146, 147, 148, 154, 155, 156, 157, 158, 159, 160, 161, 162, 163, 164, 165, 166, 167, 168, 169,
     170, 176, 177, 178, 179, 180, 181, 182, 183, 184, 185] := rfl

/-- OP_TOALTSTACK / OP_FROMALTSTACK on every stack and alt-stack -/
theorem altstack_conforms (env : Env) (st : St) (htap : st.tap = false) :
    stepSpec (stepOp Cfg.repaired env st 107) = Consensus.execOp (ctxOf env) 107 st.stack st.alt ∧
    stepSpec (stepOp Cfg.repaired env st 108) = Consensus.execOp (ctxOf env) 108 st.stack st.alt := by
  obtain ⟨_, _, h107, h108, _⟩ := table_flow
  rw [← htap] at h107 h108
  constructor
  · rw [stepOp_resolved Cfg.repaired env st 107 _ h107 rfl, stepSpec_toOut_alt]
    exact conf_toaltstack (ctxOf env) st.stack st.alt
  · rw [stepOp_resolved Cfg.repaired env st 108 _ h108 rfl, stepSpec_toOut_alt]
    exact conf_fromaltstack (ctxOf env) st.stack st.alt

/-- OP_2ROT agrees with consensus on every stack of fewer than six items (both fail) … -/
theorem op_2rot_conforms_short (env : Env) (s alt : Stack) (h : s.length < 6) :
    liftS (op_2rot s) alt = Consensus.execOp (ctxOf env) 113 s alt := conf_2rot_short _ s alt h

/-- … and on NO stack of six or more items: it copies the third pair to the top instead of
    moving it (known finding F07b; `test_op_2rot` expects the 8-item result) -/
theorem F07b_witness :
    op_2rot [[6], [5], [4], [3], [2], [1]] = .ok [[2], [1], [6], [5], [4], [3], [2], [1]] ∧
    ∀ ctx, Consensus.execOp ctx 113 [[6], [5], [4], [3], [2], [1]] [] = .ok ([[2], [1], [6], [5], [4], [3]], []) :=
  ⟨rfl, fun _ => rfl⟩

theorem F07b_everywhere (ctx : Consensus.Ctx) (f e d c b a : Bytes) (s alt : Stack) :
    liftS (op_2rot (f :: e :: d :: c :: b :: a :: s)) alt
      ≠ Consensus.execOp ctx 113 (f :: e :: d :: c :: b :: a :: s) alt := by
  intro h
  have : (b :: a :: f :: e :: d :: c :: b :: a :: s).length = (b :: a :: f :: e :: d :: c :: s).length := by
    have h' : Consensus.Res.ok (b :: a :: f :: e :: d :: c :: b :: a :: s, alt)
        = Consensus.Res.ok (b :: a :: f :: e :: d :: c :: s, alt) := h
    injection h' with h'
    injection h' with h1 _
    rw [h1]
  simp at this
  omega

/-! ## CHECKLOCKTIMEVERIFY / CHECKSEQUENCEVERIFY -/

/-- for every locktime, sequence and stack (operand of any sign and at most 5 bytes): the model's
    outcome is `CheckLockTime`'s, including the 500000000 boundary and the final-sequence rule -/
theorem cltv_conforms (env : Env) (s alt : Stack) (hlt : env.locktime ≤ 4294967295)
    (h : Consensus.execOp (ctxOf env) 177 s alt ≠ .oversize) :
    liftS (op_checklocktimeverify env s) alt = Consensus.execOp (ctxOf env) 177 s alt :=
  conf_cltv env s alt hlt h

/-- for every sequence, version and operand in [-2^39, 2^32 - 1]: the model's outcome is
    `CheckSequence`'s, including the disable flag (bit 31: NOP), the type flag (bit 22), the
    0x0000ffff mask and the version ≥ 2 rule -/
theorem csv_conforms (env : Env) (s alt : Stack)
    (hop : ∀ top rest, s = top :: rest → decodeNum top < 4294967296)
    (h : Consensus.execOp (ctxOf env) 178 s alt ≠ .oversize) :
    liftS (op_checksequenceverify Cfg.repaired env s) alt = Consensus.execOp (ctxOf env) 178 s alt :=
  conf_csv env s alt hop h

/-- the consensus constants are the ones timelock.py defines -/
theorem timelock_constants :
    Gen.blockLimit = Consensus.LOCKTIME_THRESHOLD ∧ Gen.opMaxSequence = Consensus.SEQUENCE_FINAL ∧
    Gen.seqDisableFlag = Consensus.SEQUENCE_LOCKTIME_DISABLE_FLAG ∧
    Gen.seqTimeFlag = Consensus.SEQUENCE_LOCKTIME_TYPE_FLAG ∧
    Gen.seqMask = Consensus.SEQUENCE_LOCKTIME_MASK ∧ Gen.opMaxLocktime = 4294967295 ∧ Gen.csvMinVersion = 2 := by
  decide

/-! ## final stack test -/

/-- after the loop `evaluate` accepts exactly when `CastToBool(stack.back())` (F07a repaired) -/
theorem finalTest_castToBool (stack : Stack) :
    finalTest Cfg.repaired stack = .accept ↔ ∃ top s, stack = top :: s ∧ Consensus.castToBool top = true := by
  rcases stack with _ | ⟨top, s⟩
  · simp [finalTest]
  · simp [finalTest_accept, castToBool_iff]

/-! ## straight-line programs -/

/- evaluate_straightline (full strength) additionally allows OP_2ROT — false today (F07b). -/

/-- For EVERY program (any length) made of data pushes and the opcodes of the subset other than
    IF/NOTIF and 2ROT — pushes of 20 or 32 bytes excluded, they are what `evaluate` by design treats
    as P2SH / witness programs — `Script.evaluate` with an empty witness accepts exactly when
    consensus (`EvalScript` + `CastToBool` of the top) accepts, given enough fuel (one unit per
    command), unless consensus rejected a numeric operand as oversized or the implementation
    raised ValueError (5-byte CSV operand ≥ 2^32, N07f). -/
theorem evaluate_straightline_partial (env : Env) (hlt : env.locktime ≤ 4294967295)
    (prog : List Cmd) (fuel : Nat) (hsl : prog.all slCmd = true) (hfuel : prog.length ≤ fuel)
    (hve : evaluate Cfg.repaired env prog [] fuel ≠ .err .valueError)
    (hov : Consensus.eval (ctxOf env) prog ≠ .oversize) :
    (evaluate Cfg.repaired env prog [] fuel).toSpec = some (Consensus.eval (ctxOf env) prog) :=
  run_straightline env hlt prog [] [] fuel hsl hfuel hve hov

/-- in particular: accepted by the implementation ⇔ accepted by consensus, and fuel never runs out -/
theorem evaluate_straightline_accept (env : Env) (hlt : env.locktime ≤ 4294967295)
    (prog : List Cmd) (fuel : Nat) (hsl : prog.all slCmd = true) (hfuel : prog.length ≤ fuel)
    (hve : evaluate Cfg.repaired env prog [] fuel ≠ .err .valueError)
    (hov : Consensus.eval (ctxOf env) prog ≠ .oversize) :
    (evaluate Cfg.repaired env prog [] fuel = .accept ↔ Consensus.eval (ctxOf env) prog = .accept) ∧
    evaluate Cfg.repaired env prog [] fuel ≠ .outOfFuel := by
  have h := evaluate_straightline_partial env hlt prog fuel hsl hfuel hve hov
  generalize evaluate Cfg.repaired env prog [] fuel = o at h ⊢
  generalize Consensus.eval (ctxOf env) prog = c at h ⊢
  cases o <;> cases h <;> simp

/-! ## properly nested IF / NOTIF / ELSE / ENDIF -/

/- evaluate_nested (full strength) additionally allows OP_2ROT — false today (F07b). -/

/-- For EVERY properly nested program (`Bal`: base commands — plain pushes, the 75 opcodes of
    `opPairs`, TOALTSTACK, FROMALTSTACK — and IF/NOTIF … [ELSE …] ENDIF blocks nested to any depth with
    at most one ELSE per IF), of any length, the implementation's splicing of the command list
    (`op_if` / `op_notif`) accepts exactly when consensus' exec-stack evaluation accepts; same
    provisos as for straight-line programs. -/
theorem evaluate_nested_partial (env : Env) (hlt : env.locktime ≤ 4294967295)
    (prog : List Cmd) (fuel : Nat) (hb : Bal prog) (hfuel : prog.length ≤ fuel)
    (hve : evaluate Cfg.repaired env prog [] fuel ≠ .err .valueError)
    (hov : Consensus.eval (ctxOf env) prog ≠ .oversize) :
    (evaluate Cfg.repaired env prog [] fuel).toSpec = some (Consensus.eval (ctxOf env) prog) :=
  run_nested env hlt hb [] [] fuel hfuel hve hov

/-- the scan of `op_if` / `op_notif` returns exactly the two branches and the continuation of a
    properly nested conditional -/
theorem op_if_splits (a b rest : List Cmd) (ha : Bal a) (hb : Bal b) :
    scanIf (a ++ ELSE :: (b ++ ENDIF :: rest)) 1 false [] [] = some (a, b, rest) ∧
    scanIf (a ++ ENDIF :: rest) 1 false [] [] = some (a, [], rest) :=
  ⟨scanIf_ifElse ha hb rest, scanIf_ifThen ha rest⟩

/-- `Bal` is inhabited by programs with nested conditionals -/
example : Bal [.op 81, .op 99, .op 82, .op 100, .op 83, .op 104, .op 103, .op 84, .op 104, .op 81] :=
  Bal.cmd _ _ (by decide)
    (Bal.ifElse false [.op 82, .op 100, .op 83, .op 104] [.op 84] [.op 81]
      (Bal.cmd _ _ (by decide) (Bal.ifThen true [.op 83] [] (Bal.cmd _ _ (by decide) Bal.nil) Bal.nil))
      (Bal.cmd _ _ (by decide) Bal.nil) (Bal.cmd _ _ (by decide) Bal.nil))

/-- N07e (outside "properly nested"): with a second ELSE consensus toggles execution again, the
    implementation keeps filling the false branch: `1 IF 0 ELSE 0 ELSE 1 ENDIF` is accepted by
    consensus and rejected by the implementation -/
theorem N07e_witness :
    evaluate Cfg.repaired (testEnv 0 0 1)
      [.op 81, .op 99, .op 0, .op 103, .op 0, .op 103, .op 81, .op 104] [] 100 = .reject ∧
    Consensus.eval (ctxOf (testEnv 0 0 1))
      [.op 81, .op 99, .op 0, .op 103, .op 0, .op 103, .op 81, .op 104] = .accept := by decide +kernel

/-- `slCmd` admits a program that exercises pushes, arithmetic, a hash and a comparison -/
example : ([.op 82, .op 83, .op 147, .op 85, .op 156, .op 105, .push [1, 2, 3], .op 168, .op 130,
    .push [32], .op 135] : List Cmd).all slCmd = true := by decide

/-! ## the repairs are needed: today's code (Cfg.asIs) deviates on these inputs -/

/-- F07a: a final `b"\x00"` (and `b"\x80"`, negative zero) is accepted by today's final test -/
theorem F07a_witness :
    finalTest Cfg.asIs [[0x00]] = .accept ∧ finalTest Cfg.asIs [[0x80]] = .accept ∧
    Consensus.castToBool [0x00] = false ∧ Consensus.castToBool [0x80] = false ∧
    finalTest Cfg.repaired [[0x00]] = .reject ∧ finalTest Cfg.repaired [[0x80]] = .reject := by decide

/-- F07c: OP_PICK / OP_ROLL with index -1 pick from the bottom today; consensus fails -/
theorem F07c_witness :
    op_pick Cfg.asIs [[0x81], [2], [1]] = .ok [[1], [2], [1]] ∧
    op_roll Cfg.asIs [[0x81], [2], [1]] = .ok [[1], [2]] ∧
    op_pick Cfg.repaired [[0x81], [2], [1]] = .fail ∧ op_roll Cfg.repaired [[0x81], [2], [1]] = .fail ∧
    (∀ ctx, Consensus.execOp ctx 121 [[0x81], [2], [1]] [] = .fail ∧
            Consensus.execOp ctx 122 [[0x81], [2], [1]] [] = .fail) :=
  ⟨by decide, by decide, by decide, by decide, fun _ => ⟨rfl, rfl⟩⟩

/-- F07d: CSV with the disable flag (bit 31) in the operand must be a NOP (BIP112) whatever the
    transaction says; today's code returns False -/
theorem F07d_witness :
    op_checksequenceverify Cfg.asIs (testEnv 0 10 2) [[0, 0, 0, 0x80, 0]] = .fail ∧
    op_checksequenceverify Cfg.repaired (testEnv 0 10 2) [[0, 0, 0, 0x80, 0]] = .ok [[0, 0, 0, 0x80, 0]] ∧
    op_checksequenceverify Cfg.repaired (testEnv 0 0xffffffff 1) [[0, 0, 0, 0x80, 0]] = .ok [[0, 0, 0, 0x80, 0]] ∧
    Consensus.execOp (ctxOf (testEnv 0 0xffffffff 1)) 178 [[0, 0, 0, 0x80, 0]] []
      = .ok ([[0, 0, 0, 0x80, 0]], []) := by decide

/-- N07f (outside the property's operand range): a 5-byte CSV operand 2^32 + 5 is masked by
    consensus and raises ValueError in the implementation -/
theorem N07f_witness :
    op_checksequenceverify Cfg.repaired (testEnv 0 10 2) [[5, 0, 0, 0, 1]] = .err .valueError ∧
    Consensus.execOp (ctxOf (testEnv 0 10 2)) 178 [[5, 0, 0, 0, 1]] [] = .ok ([[5, 0, 0, 0, 1]], []) := by
  decide

/-! ## the source still has the thresholds the model was written against -/

/-- first `len(stack) < k` test of every `op_*` function -/
theorem gen_depth_checks : Gen.opDepthChecks =
    [("op_0notequal:Lt", 1), ("op_1add:Lt", 1), ("op_1sub:Lt", 1), ("op_2drop:Lt", 2), ("op_2dup:Lt", 2),
     ("op_2over:Lt", 4), ("op_2rot:Lt", 6), ("op_2swap:Lt", 4), ("op_3dup:Lt", 3), ("op_abs:Lt", 1),
     ("op_add:Lt", 2), ("op_booland:Lt", 2), ("op_boolor:Lt", 2), ("op_checklocktimeverify:Lt", 1),
     ("op_checkmultisig:Lt", 1), ("op_checksequenceverify:Lt", 1), ("op_checksig:Lt", 2),
     ("op_checksig_schnorr:Lt", 2), ("op_checksigadd_schnorr:Lt", 3), ("op_drop:Lt", 1), ("op_dup:Lt", 1),
     ("op_equal:Lt", 2), ("op_fromaltstack:Lt", 1), ("op_greaterthan:Lt", 2), ("op_greaterthanorequal:Lt", 2),
     ("op_hash160:Lt", 1), ("op_hash256:Lt", 1), ("op_if:Lt", 1), ("op_ifdup:Lt", 1), ("op_lessthan:Lt", 2),
     ("op_lessthanorequal:Lt", 2), ("op_max:Lt", 2), ("op_min:Lt", 2), ("op_negate:Lt", 1), ("op_nip:Lt", 2),
     ("op_not:Lt", 1), ("op_notif:Lt", 1), ("op_numequal:Lt", 2), ("op_numnotequal:Lt", 2), ("op_over:Lt", 2),
     ("op_pick:Lt", 1), ("op_ripemd160:Lt", 1), ("op_roll:Lt", 1), ("op_rot:Lt", 3), ("op_sha1:Lt", 1),
     ("op_sha256:Lt", 1), ("op_size:Lt", 1), ("op_sub:Lt", 2), ("op_swap:Lt", 2), ("op_toaltstack:Lt", 1),
     ("op_tuck:Lt", 2), ("op_verify:Lt", 1), ("op_within:Lt", 3)] := rfl

/-- comparison operators of the `op_*` functions, source order (op_pick / op_roll excluded: F07c) -/
theorem gen_compare_ops : Gen.opCompareOps =
    ["op_0notequal:Eq", "op_abs:Lt", "op_checklocktimeverify:Eq;Lt;Lt", "op_checksequenceverify:Lt;Lt;Lt",
     "op_equal:Eq", "op_greaterthan:Gt", "op_greaterthanorequal:GtE", "op_if:In;Eq;Eq;Eq;Eq;Eq",
     "op_ifdup:NotEq", "op_lessthan:Lt", "op_lessthanorequal:LtE", "op_max:Gt", "op_min:Lt", "op_not:Eq",
     "op_notif:In;Eq;Eq;Eq;Eq;Eq", "op_numequal:Eq", "op_numnotequal:Eq", "op_verify:Eq", "op_within:GtE;Lt"] :=
  rfl

/-- integer literals of encode_num / decode_num (0xFF, 8, 0x80, 0x7F, …) -/
theorem gen_num_literals : Gen.encodeNumLiterals = [0, 0, 255, 8, 1, 128, 128, 0, 1, 128] ∧
    Gen.decodeNumLiterals = [0, 1, 0, 128, 0, 127, 0, 1, 8] := ⟨rfl, rfl⟩

end Buidl.Props.C07
