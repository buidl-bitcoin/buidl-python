/-
  C20 — BCUR / bc32 / CBOR air-gap transport reassembles exactly or fails loudly.
  Models: Buidl.Model.Bech32 (cbor_*, convertbits, bc32*) and
  Buidl.Model.Bcur (constants from Buidl.Gen.*, re-extracted from /repo on every run).
  `sha256` is an arbitrary function returning 32 bytes where the length matters.
-/
import Buidl.Proofs.BcurRoundtrip
import Buidl.Proofs.Base58Check
namespace Buidl.Props.C20
open Buidl Buidl.Base58 Buidl.Bech32 Buidl.Bcur

/-! ## CBOR byte strings -/

/-- `cbor_encode` is defined exactly for lengths below 2^32 -/
theorem cbor_encode_domain (d : Bytes) : (cborEncode d).isSome ↔ d.length < 2 ^ 32 :=
  cborEncode_isSome_iff d

/-- the four layouts, switching exactly at 24, 256 and 65536 (N20a: the prefix byte for the
    4-byte length is 0x60 in this code, where CBOR has 0x5a) -/
theorem cbor_encode_layout (d : Bytes) (h : d.length < 2 ^ 32) :
    cborEncode d = some (
      if d.length ≤ 23 then UInt8.ofNat (0x40 + d.length) :: d
      else if d.length ≤ 255 then 0x58 :: UInt8.ofNat d.length :: d
      else if d.length ≤ 65535 then 0x59 :: (natToBE' 2 d.length ++ d)
      else 0x60 :: (natToBE' 4 d.length ++ d)) :=
  cborEncode_eq d h

/-- `cbor_decode (cbor_encode d) = d` for every length the encoder accepts, hence at every
    prefix boundary -/
theorem cbor_roundtrip (d e : Bytes) (h : cborEncode d = some e) : cborDecode e = some d :=
  cborDecode_cborEncode d e h

theorem cbor_encode_injective (d1 d2 e : Bytes) (h1 : cborEncode d1 = some e) (h2 : cborEncode d2 = some e) : d1 = d2 :=
  cborEncode_injective d1 d2 e h1 h2

example : cborEncode [1, 2, 3] = some [0x43, 1, 2, 3] ∧ cborDecode [0x43, 1, 2, 3] = some [1, 2, 3] ∧
    (cborEncode (List.replicate 24 7)).map (·.take 2) = some [0x58, 24] := by decide +kernel

/-! ## convertbits and bc32 -/

/-- the bc32 checksum constant (BCR-2020-004) on both sides, over the bech32 generator and character set -/
theorem spec_constants :
    Gen.bc32ChkXor = 0x3fffffff ∧ Gen.bc32DecConst = 0x3fffffff ∧
    Gen.bech32Gen = [0x3b6a57b2, 0x26508e6d, 0x1ea119fa, 0x3d4233dd, 0x2a1462b3] ∧
    Gen.bech32Alphabet = "qpzry9x8gf2tvdw0s3jn54khce6mua7l" := ⟨rfl, rfl, rfl, rfl⟩

/-- 8 → 5 bits with padding, then 5 → 8 bits without padding, is the identity on byte strings -/
theorem convertbits_roundtrip (data : Bytes) :
    ∃ dd, convertbits (data.map (·.toNat)) 8 5 true = some dd ∧ (∀ d ∈ dd, d < 32) ∧
      convertbits dd 5 8 false = some (data.map (·.toNat)) :=
  Bech32.convertbits_roundtrip data

/-- `bc32encode` never fails on bytes -/
theorem bc32_encode_total (data : Bytes) : (bc32encode data).isSome := bc32encode_isSome data

/-- `bc32decode (bc32encode d) = d` -/
theorem bc32_roundtrip (data : Bytes) (s : Str) (h : bc32encode data = some s) : bc32decode s = some data :=
  bc32decode_bc32encode data s h

/-- a bc32 text in which one character is replaced by a character with a different lower-case
    form is refused, at every length (replacing a letter by its other case gives the same text
    after `lower()` or a mixed-case text, which is refused too) -/
theorem bc32_single_substitution (pre post : Str) (x y : Char) (hl : asciiLower x ≠ asciiLower y) (d : Bytes)
    (h : bc32decode (pre ++ x :: post) = some d) : bc32decode (pre ++ y :: post) = none := by
  cases h' : bc32decode (pre ++ y :: post) with
  | none => rfl
  | some d' =>
    exfalso
    -- both texts pass the checksum test, and their symbols differ at one position
    obtain ⟨res, _, hm, hp, _⟩ := bc32decode_inv h
    obtain ⟨res', _, hm', hp', _⟩ := bc32decode_inv h'
    obtain ⟨rfl, hc⟩ := mapM_index_b32index hm
    obtain ⟨rfl, hc'⟩ := mapM_index_b32index hm'
    simp only [List.map_append, List.map_cons] at hp hp' hc hc'
    have cx := hc (asciiLower x) (by simp)
    have cy := hc' (asciiLower y) (by simp)
    have hab : b32index (asciiLower x) ≠ b32index (asciiLower y) := fun e => hl (by rw [← cx.2, e, cy.2])
    rw [polymod, ← List.append_assoc] at hp hp'
    exact polymodFrom_single Gen.polymodInit _ _ _ _ (by omega) (by omega) hab (by rw [hp, hp'])

/-- `bc32decode` accepts canonical texts only: `bc32encode (bc32decode s)` is `s` in lower case
    (for texts that have room for the six checksum characters) -/
theorem bc32_decode_canonical (s : Str) (d : Bytes) (h : bc32decode s = some d) (hlen : 6 ≤ s.length) :
    bc32encode d = some (s.map asciiLower) := by
  obtain ⟨res, out, hm, hp, hcv, htb⟩ := bc32decode_inv h
  obtain ⟨hs, hlt⟩ := mapM_index_some hm
  have hrl : 6 ≤ res.length := by
    have := congrArg List.length hs
    simp only [List.length_map] at this
    omega
  -- the word is its front with the front's checksum, and the front regroups to the bytes and back
  have hres := (polymod_eq_iff_withChk [0] hlt hrl (by decide)).mp hp
  have hddlt : ∀ v ∈ pyButLast 6 res, v < 2 ^ 5 := fun v hv =>
    hlt v (pyButLast_append_pyLast 6 res ▸ List.mem_append_left _ hv)
  have henc := convertbits_8_5_of_5_8 _ out hddlt hcv
  rw [← toBytes_some htb] at henc
  rw [bc32encode_of_groups henc hddlt, hs]
  exact congrArg (fun l => some (l.map b32char)) hres.symm

example : (bc32encode []).isSome ∧ bc32decode [] = none := ⟨bc32encode_isSome [], rfl⟩

/-! ## BCURMulti.encode: chunking -/

/-- integer ceiling arithmetic of the chunking: for a text of `L ≥ 1` characters and
    `max_size_per_chunk = m ≥ 1`, with `n = ⌈L/m⌉` parts of `cl = ⌈L/n⌉` characters:
    `1 ≤ cl ≤ m`, and `(n-1)·cl < L ≤ n·cl` (every part non-empty, the last possibly shorter) -/
theorem chunk_arithmetic (L m : Nat) (hL : 1 ≤ L) (hm : 1 ≤ m) :
    let n := (L + m - 1) / m
    let cl := (L + n - 1) / n
    1 ≤ n ∧ 1 ≤ cl ∧ cl ≤ m ∧ (n - 1) * cl < L ∧ L ≤ n * cl := by
  intro n cl
  obtain ⟨h1, h2⟩ : L ≤ n * m ∧ n * m < L + m := ceilDiv_spec L m hm
  have hn : 1 ≤ n := Nat.pos_of_ne_zero fun h => by rw [h, Nat.zero_mul] at h1; omega
  obtain ⟨h3, h4⟩ : L ≤ cl * n ∧ cl * n < L + n := ceilDiv_spec L n hn
  have hcl : 1 ≤ cl := Nat.pos_of_ne_zero fun h => by rw [h, Nat.zero_mul] at h3; omega
  have hclm : cl ≤ m := by
    have : cl * n < (m + 1) * n := by rw [Nat.add_mul, Nat.one_mul, Nat.mul_comm m n]; omega
    exact Nat.le_of_lt_succ (Nat.lt_of_mul_lt_mul_right this)
  refine ⟨hn, hcl, hclm, ?_, by rw [Nat.mul_comm]; exact h3⟩
  -- (n-1)·cl ≤ (n-1)·m = n·m - m < L
  have a : (n - 1) * cl ≤ (n - 1) * m := Nat.mul_le_mul_left _ hclm
  rw [Nat.sub_one_mul n m] at a
  omega

/-- What BCURMulti(data).encode(m) returns, for every payload below 2^32 bytes and every chunk
    size m ≥ 1: `n = ⌈L/m⌉` parts `ur:bytes/{i+1}of{n}/{enc_hash}/{chunk_i}` whose chunks have
    `cl = ⌈L/n⌉ ≤ m` characters except the last, which has between 1 and `cl`; the chunks
    concatenate to the single-part text.  (The code computes the two ceilings with float
    division; that equals the integer ceiling because `L < 2^36 < 2^53`, see ASSUMPTIONS in harness/c20.py.) -/
theorem multi_encode_chunks (sha256 : Bytes → Bytes) (hh : ∀ b, (sha256 b).length = 32) (data : Bytes)
    (hd : data.length < 2 ^ 32) (m : Nat) (hm : 1 ≤ m) :
    ∃ enc encHash n cl, bcurEncode sha256 data = some (enc, encHash) ∧ enc.length < 2 ^ 53 ∧
      multiEncode sha256 data m true =
        some ((List.range n).map fun i => partStr (i + 1) n encHash ((enc.drop (i * cl)).take cl)) ∧
      n = (enc.length + m - 1) / m ∧ cl = (enc.length + n - 1) / n ∧ 1 ≤ n ∧ 1 ≤ cl ∧ cl ≤ m ∧
      ((List.range n).map fun i => (enc.drop (i * cl)).take cl).flatten = enc ∧
      (∀ i, i + 1 < n → ((enc.drop (i * cl)).take cl).length = cl) ∧
      (1 ≤ ((enc.drop ((n - 1) * cl)).take cl).length ∧ ((enc.drop ((n - 1) * cl)).take cl).length ≤ cl) := by
  obtain ⟨enc, encHash, he, hl, hea, hha, hL6, hL36⟩ := bcurEncode_facts sha256 hh data hd
  obtain ⟨n, cl, hn, hcl, a1, a2, a3, a4, a5⟩ : ∃ n cl, n = (enc.length + m - 1) / m ∧ cl = (enc.length + n - 1) / n ∧
      1 ≤ n ∧ 1 ≤ cl ∧ cl ≤ m ∧ (n - 1) * cl < enc.length ∧ enc.length ≤ n * cl :=
    ⟨_, _, rfl, rfl, chunk_arithmetic enc.length m (Nat.le_trans (by decide) hL6) hm⟩
  refine ⟨enc, encHash, n, cl, he, Nat.lt_trans hL36 (by decide),
    multiEncode_eq sha256 data enc encHash he m true n cl (hn ▸ floatCeilDiv_pos _ m hm) (hcl ▸ floatCeilDiv_pos _ n a1),
    hn, hcl, a1, a2, a3, ?_, chunk_lengths enc n cl a2 a4⟩
  rw [chunks_flatten, List.take_of_length_le a5]

/-! ## parse ∘ encode -/

/-- BCURSingle: `parse (encode x) = x`, with and without the checksum field -/
theorem single_roundtrip (sha256 : Bytes → Bytes) (hh : ∀ b, (sha256 b).length = 32) (data : Bytes)
    (hd : data.length < 2 ^ 32) (useChecksum : Bool) :
    ∃ s, singleEncode sha256 data useChecksum = some s ∧ singleParse sha256 s = some data := by
  obtain ⟨enc, encHash, he, hl, hea, hha, _, _⟩ := bcurEncode_facts sha256 hh data hd
  have hchk : (if useChecksum then some encHash else none) = none ∨
      (if useChecksum then some encHash else none) = some encHash := by
    cases useChecksum <;> simp
  refine ⟨_, singleEncode_eq sha256 data enc encHash he useChecksum, singleParse_eq_some_iff.mpr ⟨_, _,
    parseBcurHelper_single (if useChecksum then some encHash else none) enc ?_ hea, rfl, rfl,
    bcurDecode_bcurEncode he hchk, construct_ok he (Or.inr rfl) hchk⟩⟩
  intro c hc'
  cases useChecksum <;> cases hc'
  exact ⟨hl, hha⟩

/-- BCURMulti: `parse (encode x, chunk size m) = x` for every m ≥ 1, animated or not; the parsed
    object carries the checksum of the encoder -/
theorem multi_roundtrip (sha256 : Bytes → Bytes) (hh : ∀ b, (sha256 b).length = 32) (data : Bytes)
    (hd : data.length < 2 ^ 32) (m : Nat) (hm : 1 ≤ m) (animate : Bool) :
    ∃ parts enc encHash, bcurEncode sha256 data = some (enc, encHash) ∧
      multiEncode sha256 data m animate = some parts ∧ multiParse sha256 parts = some (data, some encHash) := by
  obtain ⟨enc, encHash, he, hl, hea, hha, hL6, hL36⟩ := bcurEncode_facts sha256 hh data hd
  obtain ⟨n, cl, hn, hn1, hcl, hcover, hnL⟩ : ∃ n cl, (if animate then floatCeilDiv enc.length m else some 1) = some n ∧
      1 ≤ n ∧ floatCeilDiv enc.length n = some cl ∧ enc.length ≤ n * cl ∧ n ≤ enc.length := by
    cases animate with
    | true =>
      obtain ⟨a1, a2, _, a4, a5⟩ := chunk_arithmetic enc.length m (Nat.le_trans (by decide) hL6) hm
      -- n - 1 ≤ (n - 1)·cl < L
      exact ⟨_, _, floatCeilDiv_pos _ m hm, a1, floatCeilDiv_pos _ _ a1, a5,
        Nat.le_of_pred_lt (Nat.lt_of_le_of_lt (Nat.le_mul_of_pos_right _ a2) a4)⟩
    | false =>
      exact ⟨1, enc.length, rfl, Nat.le_refl 1, by rw [floatCeilDiv_pos _ 1 (Nat.le_refl 1), Nat.add_sub_cancel, Nat.div_one],
        Nat.le_of_eq (Nat.one_mul _).symm, Nat.le_trans (by decide) hL6⟩
  refine ⟨_, enc, encHash, he, multiEncode_eq sha256 data enc encHash he m animate n cl hn hcl, ?_⟩
  have hn16 : n < 10 ^ 16 := Nat.lt_of_le_of_lt hnL (Nat.lt_trans hL36 (by decide))
  have hparse : ∀ i, i < n → parseBcurHelper (partStr (i + 1) n encHash ((enc.drop (i * cl)).take cl)) =
      some ⟨(enc.drop (i * cl)).take cl, some encHash, ((i + 1 : Nat) : Int), (n : Int)⟩ :=
    fun i hi => parseBcurHelper_part (i + 1) n encHash _ hi hn16 hl hha
      fun c hc' => hea c (List.mem_of_mem_drop (List.mem_of_mem_take hc'))
  refine multiParse_eq_some_iff.mpr ⟨_, _, multiLoop_parts _ (fun i => (enc.drop (i * cl)).take cl) encHash n hn1 hparse, ?_,
    construct_ok he (Or.inl rfl) (Or.inr rfl)⟩
  rw [chunks_flatten enc cl n, List.take_of_length_le hcover]
  exact bcurDecode_bcurEncode he (Or.inr rfl)

/-- BCURSingle.parse accepts canonical strings only: x = y = 1, the payload field is the text
    `bcur_encode` computes for the returned data, and a non-empty checksum field is its checksum -/
theorem single_parse_canonical (sha256 : Bytes → Bytes) (s : Str) (d : Bytes) (h : singleParse sha256 s = some d) :
    ∃ p enc encHash, parseBcurHelper s = some p ∧ p.x = 1 ∧ p.y = 1 ∧ bcurEncode sha256 d = some (enc, encHash) ∧
      (p.payload = [] ∨ p.payload = enc) ∧ (∀ cs, p.checksum = some cs → cs = [] ∨ cs = encHash) := by
  obtain ⟨p, r, hp, hx, hy, -, hr⟩ := singleParse_eq_some_iff.mp h
  obtain ⟨he, ha, hb⟩ := construct_eq_some_iff.mp hr
  exact ⟨p, r.1, r.2, hp, hx, hy, he, ha _ rfl, hb⟩

/-! ## rejection -/

/-- a part that is not at its own position (x ≠ index + 1) makes BCURMulti.parse fail:
    parts out of order, a missing earlier part, a duplicated part -/
theorem multi_out_of_order (sha256 : Bytes → Bytes) (parts : List Str) (j : Nat) (hj : j < parts.length) (p : Parsed)
    (hp : parseBcurHelper parts[j] = some p) (hx : p.x ≠ (j : Int) + 1) : multiParse sha256 parts = none := by
  rw [multiParse, multiLoop_eq_none hj hp fun hgood => hx (by simpa using hgood.1)]

/-- a later part whose checksum field differs from that of the first part makes it fail -/
theorem multi_checksum_mismatch (sha256 : Bytes → Bytes) (s0 : Str) (rest : List Str) (p0 : Parsed)
    (hp0 : parseBcurHelper s0 = some p0) (j : Nat) (hj : j < rest.length) (p : Parsed)
    (hp : parseBcurHelper rest[j] = some p) (hne : p.checksum ≠ p0.checksum) :
    multiParse sha256 (s0 :: rest) = none := by
  rw [multiParse, multiLoop_mismatch hp0 hj hp (Or.inl hne)]

/-- a later part whose y (total number of parts) differs from that of the first part makes it fail -/
theorem multi_y_mismatch (sha256 : Bytes → Bytes) (s0 : Str) (rest : List Str) (p0 : Parsed)
    (hp0 : parseBcurHelper s0 = some p0) (j : Nat) (hj : j < rest.length) (p : Parsed)
    (hp : parseBcurHelper rest[j] = some p) (hne : p.y ≠ p0.y) :
    multiParse sha256 (s0 :: rest) = none := by
  rw [multiParse, multiLoop_mismatch hp0 hj hp (Or.inr hne)]

/-- the hypotheses about parsed parts are satisfiable: the two parts of BCURMulti(b"hello").encode(8) -/
example :
    parseBcurHelper "ur:bytes/1of2/jtga66vjruluzz2pqv4a085078ymuujhffvmcs3r9lk0l0fmp5cq87zent/g45x2mrv".toList =
      some ⟨"g45x2mrv".toList, some "jtga66vjruluzz2pqv4a085078ymuujhffvmcs3r9lk0l0fmp5cq87zent".toList, 1, 2⟩ ∧
    (parseBcurHelper "UR:BYTES/2OF2/JTGA66VJRULUZZ2PQV4A085078YMUUJHFFVMCS3R9LK0L0FMP5CQ87ZENT/DUPCCGRQ ".toList).map (·.x) = some 2 ∧
    bc32decode "g45x2mrvdupccgrq".toList = some [0x45, 0x68, 0x65, 0x6c, 0x6c, 0x6f] ∧
    cborDecode [0x45, 0x68, 0x65, 0x6c, 0x6c, 0x6f] = some [0x68, 0x65, 0x6c, 0x6c, 0x6f] := by
  -- a string literal is `String.ofList` of its characters, so this spares the kernel the UTF-8 decoder
  repeat rw [String.toList_ofList]
  decide +kernel

/-! ## collision extraction -/

/-- If BCURMulti.parse accepts ANY sequence of parts (missing parts, parts of another payload,
    corrupted characters, …) under a non-empty checksum text `cs`, and `cs` is the checksum that
    `bcur_encode` computes for the payload `d0`, then the accepted data is `d0`, or two different
    byte strings with the same SHA-256 are exhibited. -/
theorem multi_collision_extraction (sha256 : Bytes → Bytes) (parts : List Str) (d : Bytes) (cs : Str) (hcs : cs ≠ [])
    (h : multiParse sha256 parts = some (d, some cs)) (d0 : Bytes) (enc0 : Str)
    (h0 : bcurEncode sha256 d0 = some (enc0, cs)) :
    d = d0 ∨ ∃ c c0 : Bytes, c ≠ c0 ∧ sha256 c = sha256 c0 := by
  obtain ⟨pls, r, -, -, hr⟩ := multiParse_eq_some_iff.mp h
  exact construct_collision hcs hr h0

/-- the same for BCURSingle.parse of a string that carries a checksum field -/
theorem single_collision_extraction (sha256 : Bytes → Bytes) (s : Str) (d : Bytes) (p : Parsed) (cs : Str) (hcs : cs ≠ [])
    (hp : parseBcurHelper s = some p) (hpc : p.checksum = some cs) (h : singleParse sha256 s = some d)
    (d0 : Bytes) (enc0 : Str) (h0 : bcurEncode sha256 d0 = some (enc0, cs)) :
    d = d0 ∨ ∃ c c0 : Bytes, c ≠ c0 ∧ sha256 c = sha256 c0 := by
  obtain ⟨q, r, hq, -, -, -, hr⟩ := singleParse_eq_some_iff.mp h
  rw [hp] at hq
  cases hq
  rw [hpc] at hr
  exact construct_collision hcs hr h0

/-! ## unique decodability (corollaries of the round trips) -/

/-- bc32 text encoding is injective: two payloads with the same bc32 text are equal -/
theorem bc32_encode_injective (d₁ d₂ : Bytes) (s : Str) (h₁ : bc32encode d₁ = some s) (h₂ : bc32encode d₂ = some s) :
    d₁ = d₂ :=
  bc32encode_injective d₁ d₂ s h₁ h₂

/-- single-part UR text is injective in the payload (with or without the checksum field) -/
theorem single_encode_injective (sha256 : Bytes → Bytes) (hh : ∀ b, (sha256 b).length = 32) (d₁ d₂ : Bytes)
    (h₁ : d₁.length < 2 ^ 32) (h₂ : d₂.length < 2 ^ 32) (c : Bool) (s : Str)
    (e₁ : singleEncode sha256 d₁ c = some s) (e₂ : singleEncode sha256 d₂ c = some s) : d₁ = d₂ := by
  obtain ⟨t₁, a₁, p₁⟩ := single_roundtrip sha256 hh d₁ h₁ c
  obtain ⟨t₂, a₂, p₂⟩ := single_roundtrip sha256 hh d₂ h₂ c
  rw [e₁] at a₁; rw [e₂] at a₂; cases a₁; cases a₂
  rw [p₂] at p₁; exact (Option.some.inj p₁).symm

/-- multi-part UR: the list of parts determines the payload -/
theorem multi_encode_injective (sha256 : Bytes → Bytes) (hh : ∀ b, (sha256 b).length = 32) (d₁ d₂ : Bytes)
    (h₁ : d₁.length < 2 ^ 32) (h₂ : d₂.length < 2 ^ 32) (m₁ m₂ : Nat) (hm₁ : 1 ≤ m₁) (hm₂ : 1 ≤ m₂) (a₁ a₂ : Bool)
    (parts : List Str)
    (e₁ : multiEncode sha256 d₁ m₁ a₁ = some parts) (e₂ : multiEncode sha256 d₂ m₂ a₂ = some parts) : d₁ = d₂ := by
  obtain ⟨q₁, _, _, _, x₁, p₁⟩ := multi_roundtrip sha256 hh d₁ h₁ m₁ hm₁ a₁
  obtain ⟨q₂, _, _, _, x₂, p₂⟩ := multi_roundtrip sha256 hh d₂ h₂ m₂ hm₂ a₂
  rw [e₁] at x₁; rw [e₂] at x₂; cases x₁; cases x₂
  rw [p₂] at p₁
  exact (Prod.mk.inj (Option.some.inj p₁)).1.symm
end Buidl.Props.C20
