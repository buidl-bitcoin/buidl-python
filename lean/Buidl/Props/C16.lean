/-
  C16 — multisig descriptors: checksum, error detection, address derivation.

  `parse (str d) = d` and the checksum link are theorems about the model of `parse` itself, in which the two
  regular expressions are the hand-written matchers `matchDescriptor` / `matchKeyRecord` (compared with Python's
  `re.match` on the source patterns on every run); they are stated for the text layout the constructor emits
  (`descriptor_text_layout`), not for general regular-expression semantics.

  Model: Buidl.Model.Descriptor (constants from Buidl.Gen.Descriptor, re-extracted from /repo on every run);
  specification of the checksum: Buidl.Spec.DescriptorChecksum (Bitcoin Core's `DescriptorChecksum`, with its
  own literal constants — a changed generator constant, charset, shift or mask in descriptor.py makes
  `checksum_eq_core` fail to compile).  `hash256`, `sha256`, `hmac`, `h160` are arbitrary functions.
-/
import Buidl.Proofs.Descriptor
import Buidl.Proofs.DescriptorParse
import Buidl.Proofs.HD
namespace Buidl.Props.C16
open Buidl Buidl.PyStr Buidl.HD Buidl.Descriptor

/-! ## calc_core_checksum = Bitcoin Core's DescriptorChecksum -/

theorem charsets_eq_core :
    inputCharset = Spec.DescriptorChecksum.INPUT_CHARSET ∧ checksumCharset = Spec.DescriptorChecksum.CHECKSUM_CHARSET :=
  ⟨inputCharset_eq, checksumCharset_eq⟩

/-- calc_poly_mod (a fold over the extracted generator table) is Core's `PolyMod` -/
theorem polymod_eq_core (c val : Nat) : polyMod c val = Spec.DescriptorChecksum.polyMod c val :=
  polyMod_eq c val

/-- for every text: same refusal (a character outside the charset) and same eight characters.  Core's
    algorithm is written as the symbol / class-symbol stream followed by a fold; the code interleaves them in
    one loop with three state variables. -/
theorem checksum_eq_core (desc : Str) : calcCoreChecksum desc = Spec.DescriptorChecksum.descriptorChecksum desc :=
  calcCoreChecksum_eq desc

/-! ## error detection -/

/-- replacing any one character of the body by a different one changes the checksum — for every body, every
    position and every pair of characters (if the new character is outside the charset the text is refused
    altogether: `calcCoreChecksum = none`) -/
theorem checksum_detects_substitution (pre post : Str) (ch ch' : Char) (hne : ch ≠ ch') (cs cs' : Str)
    (h : calcCoreChecksum (pre ++ ch :: post) = some cs) (h' : calcCoreChecksum (pre ++ ch' :: post) = some cs') :
    cs ≠ cs' := by
  rw [calcCoreChecksum_eq] at h h'
  exact Spec.DescriptorChecksum.descriptorChecksum_detects_substitution pre post ch ch' hne cs cs' h h'

/-- the underlying code property: two symbol streams that differ only inside a window of at most eight
    consecutive symbols (a burst of up to 40 bits) reach different 40-bit states, whatever precedes and follows -/
theorem polymod_detects_window (S G G' T : List Nat) (c0 : Nat) (hc0 : c0 < 2 ^ 40)
    (hS : ∀ x ∈ S, x < 32) (hG : ∀ x ∈ G, x < 32) (hG' : ∀ x ∈ G', x < 32)
    (hl : G.length = G'.length) (h8 : G.length ≤ 8) (hne : G ≠ G') :
    (S ++ G ++ T).foldl polyMod c0 ≠ (S ++ G' ++ T).foldl polyMod c0 := by
  have e : polyMod = Spec.DescriptorChecksum.polyMod := by funext c v; exact polyMod_eq c v
  rw [e]
  exact Spec.DescriptorChecksum.fold_detects_window S G G' T c0 hG hG' hl h8 hne

/-- the constructor keeps `checksum = calc_core_checksum(descriptor_text)` and accepts a supplied checksum only
    if it is that one -/
theorem construct_checksum_accept (hash256 : Bytes → Bytes) (m : Int) (krs : List KeyRecord) (cs : Str) (srt : Bool)
    (d : Desc) (h : construct hash256 m krs cs srt = some d) :
    calcCoreChecksum d.text = some d.checksum ∧ (cs ≠ [] → d.checksum = cs) :=
  have ⟨hd, hcs⟩ := (construct_eq_some_iff hash256).mp h
  ⟨((constructCore_eq_some_iff hash256).mp hd).2.2.2.2.2, hcs⟩

/-- any alteration of the eight checksum characters (or of their number) is detected: if a descriptor was
    accepted with checksum `cs`, the same body with any other non-empty checksum is refused -/
theorem construct_checksum_mismatch_rejected (hash256 : Bytes → Bytes) (m : Int) (krs : List KeyRecord)
    (cs cs' : Str) (srt : Bool) (d : Desc) (h : construct hash256 m krs cs srt = some d)
    (hcs : cs ≠ []) (hcs' : cs' ≠ []) (hne : cs' ≠ cs) : construct hash256 m krs cs' srt = none := by
  obtain ⟨h1, h2⟩ := (construct_eq_some_iff hash256).mp h
  refine Option.eq_none_iff_forall_ne_some.mpr fun d' h' => ?_
  obtain ⟨h1', h2'⟩ := (construct_eq_some_iff hash256).mp h'
  cases Option.some.inj (h1.symm.trans h1')
  exact hne ((h2' hcs').symm.trans (h2 hcs))

/-- what `str(d)` is made of -/
theorem descriptor_text_layout (hash256 : Bytes → Bytes) (m : Int) (krs : List KeyRecord) (cs : Str) (srt : Bool)
    (d : Desc) (h : construct hash256 m krs cs srt = some d) :
    d.repr = descriptorText d.m d.keyRecords ++ '#' :: d.checksum ∧ (1 : Int) ≤ m ∧ d.m = m.toNat := by
  obtain ⟨hm1, -, hm, -, ht, -⟩ := (constructCore_eq_some_iff hash256).mp ((construct_eq_some_iff hash256).mp h).1
  exact ⟨by rw [Desc.repr, ht], hm1, hm⟩

/-! ## parse (str d) = d, and the checksum inside `parse` -/

section
variable (hash256 : Bytes → Bytes) (hmac : Bytes → Bytes → Bytes) (h160 : Bytes → Bytes)

/-- `P2WSHSortedMulti.parse(str(d)) = d` for every descriptor the constructor returns — any m, any key records,
    sorted or not, xpubs in any of the ten prefixes (they are stored in the default one) — provided `d` satisfies
    `ReprWF`: the three things `parse` insists on and the constructor does not check, namely m ≤ n; fingerprints
    in lower-case hex and paths written `m/…` without `] , ( ) * \` / newline (the constructor also takes `ABCDEF12`
    or `M/…`, whose text `parse` then refuses or reads back as another path); and the account child of every xpub
    being derivable and serialisable (`full_key_record_child_check`: exactly what parse_full_key_record adds).
    The EC and Base58Check round trips are C03's / C09's theorems; `hash256` is any function returning ≥ 4 bytes. -/
theorem parse_str_roundtrip (hh : ∀ b, 4 ≤ (hash256 b).length) (m : Int) (krs : List KeyRecord) (cs : Str)
    (srt : Bool) (d : Desc) (hc : construct hash256 m krs cs srt = some d) (wf : ReprWF hash256 hmac h160 d) :
    parse hash256 hmac h160 d.repr = some d := by
  have hb := b58RoundTrip hash256 hh
  have hsec : ∀ b Q, EC.parsePoint b = some Q → SecOK Q := fun _ _ hb s hs => sec_roundtrip (EC.parsePoint_valid hb) s hs
  have hd := ((construct_eq_some_iff hash256).mp hc).1
  obtain ⟨hm1, -, hm, -, htext, hcalc⟩ := (constructCore_eq_some_iff hash256).mp hd
  obtain ⟨hne, hS⟩ := constructCore_records hash256 hb hsec hd
  have hT : ∀ kr ∈ d.keyRecords, RecText kr := fun kr hk => by
    obtain ⟨norm, -, -, -, hx⟩ := (hS kr hk).key
    obtain ⟨hxne, hxch⟩ := xpub_chars hash256 hx
    exact ⟨wf.xfpLen kr hk, wf.xfpHex kr hk, wf.pathM kr hk, fun c hc => by simpa using wf.pathSafe kr hk c hc,
      hxne, fun c hc => alphabet_alnum c (hxch c hc)⟩
  obtain ⟨hcslen, hcsb⟩ := calcCoreChecksum_spec hcalc
  rw [Desc.repr, htext, parse_generated hash256 hmac h160 d.m d.keyRecords d.checksum hne hT hcsb hcslen
    (fun kr hk => by
      obtain ⟨norm, hp, -, -, -⟩ := (hS kr hk).key
      exact parseFullKeyRecord_generated hash256 hmac h160 kr (hT kr hk) (hS kr hk).path norm hp (wf.child kr hk norm hp))
    wf.quorum]
  exact construct_saved hash256 (by omega) hne hS htext hcalc

/-- the keys in a descriptor carry only the plain BIP32 version bytes: whatever SLIP-132 prefix (ypub, zpub, Ypub,
    Zpub, upub, vpub, Upub, Vpub) a cosigner's key was supplied with, the xpub the constructor stores — the one the text
    shows, the records are ordered by and the checksum covers — parses to a key whose version is XPUB[network] -/
theorem descriptor_keys_plain_version (hh : ∀ b, 4 ≤ (hash256 b).length) (m : Int) (krs : List KeyRecord) (cs : Str)
    (srt : Bool) (d : Desc) (hc : construct hash256 m krs cs srt = some d) :
    ∀ kr ∈ d.keyRecords, ∃ pk, HDPub.parse hash256 kr.xpubParent = some pk ∧ pk.network = d.network ∧
      dictGet Gen.hdXpub pk.network = some pk.pubVersion := by
  obtain ⟨-, hS⟩ := constructCore_records hash256 (b58RoundTrip hash256 hh)
    (fun _ _ hb s hs => sec_roundtrip (EC.parsePoint_valid hb) s hs) ((construct_eq_some_iff hash256).mp hc).1
  intro kr hk
  obtain ⟨norm, h1, h2, h3, -⟩ := (hS kr hk).key
  refine ⟨norm, h1, h2, ?_⟩
  simp only [normPub, mkPub, versionOr, Option.bind_eq_bind, Option.pure_def, Option.bind_eq_some_iff] at h3
  obtain ⟨pv, hpv, h3⟩ := h3
  have e := Option.some.inj h3
  rw [hpv, ← e]

/-- the condition `ReprWF.child` is what parse_full_key_record itself establishes for every record it returns -/
theorem full_key_record_child_check (s : Str) (kr : KeyRecord)
    (h : parseFullKeyRecord hash256 hmac h160 s = some kr) :
    ∃ pk c x, HDPub.parse hash256 kr.xpubParent = some pk ∧ pk.childI hmac h160 kr.accountIndex = some c ∧
      c.xpub hash256 none = some x := by
  simp only [parseFullKeyRecord, Option.ite_none_left_eq_some, Option.bind_eq_some_iff, Option.map_eq_some_iff] at h
  obtain ⟨-, -, -, ⟨xfp, path, xpub, net⟩, -, ai, -, pk, hpk, c, hc, x, hx, rfl⟩ := h
  exact ⟨pk, c, x, hpk, hc, hx⟩

/-- the regular expression of `parse` on generated text: threshold digits, key-record text, checksum group -/
theorem descriptor_regex_on_generated_text (m : Nat) (recs cs : Str)
    (hrec : ∀ c ∈ recs, c ≠ '(' ∧ c ≠ ')' ∧ c ≠ '\n') (hcs : ∀ c ∈ cs, isBech32Char c = true) (hlen : cs.length = 8) :
    matchDescriptor (wshLiteral ++ (natStr m ++ ',' :: recs ++ ')' :: ')' :: '#' :: cs)) = some (natStr m, recs, some cs) :=
  matchDescriptor_generated m recs cs hrec hcs hlen

/-- checksum differs ⇒ parse refuses: whatever text `parse` accepts, the descriptor it returns carries the
    recomputed checksum of its own (regenerated) text -/
theorem parse_checksum_checked (r : Str) (d : Desc) (h : parse hash256 hmac h160 r = some d) :
    calcCoreChecksum d.text = some d.checksum := by
  simp only [parse, Option.bind_eq_some_iff, Option.ite_none_left_eq_some] at h
  obtain ⟨_, -, _, -, _, -, _, -, -, h⟩ := h
  exact ((constructCore_eq_some_iff hash256).mp ((construct_eq_some_iff hash256).mp h).1).2.2.2.2.2

/-- single-character substitution in the body, as a theorem about `parse`: take any body with its checksum `cs`
    and replace one character; no input whatsoever makes `parse` return a descriptor whose text is the altered body
    with `cs`.  (With `parse_str_roundtrip`: the genuine text parses to itself, a substituted one never does.
    What remains outside is a parse that *normalises* the altered body into a different text — xpub version bytes,
    text before `wsh(` — which then must itself carry `cs`; the exhaustive substitution run on the real parse covers it.) -/
theorem parse_detects_body_substitution (pre post : Str) (ch ch' : Char) (hne : ch ≠ ch') (cs : Str)
    (horig : calcCoreChecksum (pre ++ ch :: post) = some cs) (r : Str) (d : Desc)
    (hp : parse hash256 hmac h160 r = some d) : d.repr ≠ (pre ++ ch' :: post) ++ '#' :: cs := fun hrepr =>
  checksum_detects_substitution pre post ch ch' hne cs cs horig
    (repr_checksum (parse_checksum_checked hash256 hmac h160 r d hp) (calcCoreChecksum_spec horig).1 hrepr) rfl

/-- … and any alteration of the eight checksum characters -/
theorem parse_detects_checksum_substitution (body cs cs' : Str) (hne : cs' ≠ cs) (hlen : cs'.length = 8)
    (horig : calcCoreChecksum body = some cs) (r : Str) (d : Desc)
    (hp : parse hash256 hmac h160 r = some d) : d.repr ≠ body ++ '#' :: cs' := fun hrepr =>
  hne (Option.some.inj ((repr_checksum (parse_checksum_checked hash256 hmac h160 r d hp) hlen hrepr).symm.trans horig))

end

/-! ## addresses -/

section
variable (hash256 sha256 : Bytes → Bytes) (hmac : Bytes → Bytes → Bytes) (h160 : Bytes → Bytes)

/-- sorted(child keys) does not depend on the order of the child keys -/
theorem sort_keys_perm {l l' : List Bytes} (h : l.Perm l') : sortKeys l = sortKeys l' :=
  List.mergeSort_eq_of_perm bytesLe bytesLe_trans bytesLe_total bytesLe_antisymm h

/-- get_address is invariant under any permutation of the key records (same m, same network) -/
theorem get_address_perm_invariant (d d' : Desc) (hm : d.m = d'.m) (hn : d.network = d'.network)
    (hp : d.keyRecords.Perm d'.keyRecords) (offset : Nat) (isChange : Bool) :
    getAddress hash256 sha256 hmac h160 d offset isChange = getAddress hash256 sha256 hmac h160 d' offset isChange := by
  unfold getAddress
  rcases mapM_perm (fun kr => leafSec hash256 hmac h160 kr offset isChange) hp with ⟨h1, h2⟩ | ⟨r, r', h1, h2, hr⟩
  · simp [h1, h2]
  · simp only [h1, h2, Option.bind_eq_bind, Option.bind_some, if_true, sort_keys_perm hr, hm, hn, hp.length_eq]

/-- get_address(offset, is_change) is the P2WSH address — witness version 0, program sha256(script) — of
    `OP_m <33-byte child key>… OP_n OP_CHECKMULTISIG` over the cosigners' child keys in lexicographic order,
    each child key being `xpub / (account_index [+1 for change]) / offset` (`leafSec`) -/
theorem get_address_eq_p2wsh (hs : ∀ b, (sha256 b).length = 32) (d : Desc) (hm1 : 1 ≤ d.m)
    (hn1 : 1 ≤ d.keyRecords.length) (offset : Nat) (isChange : Bool) (addr : Str)
    (h : getAddress hash256 sha256 hmac h160 d offset isChange = some addr) :
    ∃ keys, d.keyRecords.mapM (fun kr => leafSec hash256 hmac h160 kr offset isChange) = some keys ∧
      keys.length = d.keyRecords.length ∧ d.m ≤ 16 ∧ keys.length ≤ 16 ∧
      Bech32.encodeBech32Checksum (0 :: 32 :: sha256 (multisigBytes d.m (sortKeys keys))) d.network.toList = some addr := by
  simp only [getAddress, Option.bind_eq_bind, Option.bind_eq_some_iff, if_true] at h
  obtain ⟨keys, hkeys, mOp, hmOp, nOp, hnOp, h⟩ := h
  have hlen := List.mapM_some_length hkeys
  have hlen33 : ∀ s ∈ keys, s.length = 33 := fun s hs =>
    (List.mapM_some_mem_right hkeys hs).elim fun _ h => leafSec_length h.2
  obtain ⟨hm16, rfl⟩ := numberToOpCode_some hmOp hm1
  obtain ⟨hn16, rfl⟩ := numberToOpCode_some hnOp hn1
  refine ⟨keys, hkeys, hlen, hm16, by omega, ?_⟩
  have hperm := List.mergeSort_perm keys bytesLe
  have hs33 : ∀ k ∈ sortKeys keys, k.length = 33 := fun k hk => hlen33 k (hperm.subset hk)
  have hsl : (sortKeys keys).length = d.keyRecords.length := by
    rw [← hlen]; exact hperm.length_eq
  have hser := multisig_rawSerialize d.m (sortKeys keys) hs33 (by omega) (by omega)
  rw [hsl] at hser
  simp only [p2wshAddress, hser, Option.bind_eq_bind, Option.bind_some] at h
  have hspk : Script.rawSerialize { cmds := [Script.Cmd.op Gen.p2wshVersionOp,
        Script.Cmd.push (sha256 (multisigBytes d.m (sortKeys keys)))] }
      = some (0 :: 32 :: sha256 (multisigBytes d.m (sortKeys keys))) := by
    simp [Script.rawSerialize, Script.serCmds, Script.serCmd, Script.intToByte, Gen.p2wshVersionOp, cmpAt,
      Gen.rawSerCmp, cmpOp, hs]
  rw [hspk] at h
  exact h

/-- the script bytes, spelled out -/
theorem p2wsh_script_bytes (m : Nat) (keys : List Bytes) :
    multisigBytes m keys = [UInt8.ofNat (80 + m)] ++ (keys.map (fun k => (33 : UInt8) :: k)).flatten ++
      [UInt8.ofNat (80 + keys.length), 174] := rfl

/-- receive and change branches use different child indices of every cosigner: change = receive + 1 -/
theorem change_index_eq_succ (kr : KeyRecord) : accountFor kr true = accountFor kr false + 1 := by
  simp only [accountFor, Gen.changeOffset, if_true, Bool.false_eq_true, if_false]; omega

theorem change_index_ne_receive (kr : KeyRecord) : accountFor kr true ≠ accountFor kr false := by
  rw [change_index_eq_succ]
  omega

end

/-! ## non-vacuity -/

example : calcCoreChecksum "wsh(sortedmulti(1,))".toList = Spec.DescriptorChecksum.descriptorChecksum "wsh(sortedmulti(1,))".toList :=
  checksum_eq_core _

-- evaluated on explicit character lists: the kernel reads `"…".toList` off a literal only by encoding and
-- decoding UTF-8, `String.toList_ofList` gives the list for nothing
example : (calcCoreChecksum "raw(deadbeef)".toList).isSome = true := by
  unfold calcCoreChecksum ccLoop ccOutput inputCharset checksumCharset Gen.descInputCharset Gen.descChecksumCharset
  rw [String.toList_ofList, String.toList_ofList, String.toList_ofList]
  decide +kernel

example : calcCoreChecksum "raw(deadbeef)".toList ≠ calcCoreChecksum "raw(deadbeff)".toList := by
  unfold calcCoreChecksum ccLoop ccOutput inputCharset checksumCharset Gen.descInputCharset Gen.descChecksumCharset
  rw [String.toList_ofList, String.toList_ofList, String.toList_ofList, String.toList_ofList]
  decide +kernel

example : regexesAsModelled = true := by
  unfold regexesAsModelled Gen.keyRecordRegex Gen.descriptorRegex
  simp only [and_self, decide_true]

/-- the textual conditions of `ReprWF` hold for an ordinary key origin -/
example : (∀ c ∈ "/48h/1h/0h/2h".toList,
    c ≠ ']' ∧ c ≠ ',' ∧ c ≠ '(' ∧ c ≠ ')' ∧ c ≠ '\n' ∧ c ≠ '\\' ∧ c ≠ '*') ∧
    (∀ c ∈ "c7d0648a".toList, isHexLower c = true) ∧ "c7d0648a".toList.length = 8 := by
  rw [String.toList_ofList, String.toList_ofList]
  decide

end Buidl.Props.C16
