/-
  C18 — BIP158 compact filters and BIP37 bloom filters have no false negatives and match the
  specified encoding.  The models are Buidl.Model.Filters (constants from Buidl.Gen.Filters,
  re-extracted from /repo on every run); the specifications are Buidl.Spec.Filters.
-/
import Buidl.Proofs.Golomb
import Buidl.Proofs.Murmur
import Buidl.Proofs.MerkleTree
namespace Buidl.Props.C18
open Buidl Buidl.Filters

/-! ## SipHash-2-4 -/

/-- siphash.py (Python integers with masks, unmasked intermediates) computes SipHash-2-4 on 64-bit
    words, for every 16-byte key and every message of every length -/
theorem siphash_eq_spec (key msg : Bytes) (hk : key.length = 16) :
    siphash key msg = some (Spec.Filters.sipHash24 key msg).toNat :=
  Filters.siphash_eq_spec key msg hk

/-- any other key length is refused -/
theorem siphash_key_length (key msg : Bytes) (hk : key.length ≠ 16) : siphash key msg = none :=
  Filters.siphash_none key msg hk

/-! ## Golomb-Rice coding and bit packing -/

/-- decoding inverts encoding for every value, every parameter, with any continuation -/
theorem golomb_roundtrip (x p : Nat) (r : List Bool) : decodeGolomb (encodeGolomb x p ++ r) p = some (x, r) :=
  decodeGolomb_encodeGolomb x p r

/-- running out of bits is an error, never a wrong value -/
theorem golomb_truncated (x p k : Nat) (hk : k < (encodeGolomb x p).length) :
    decodeGolomb ((encodeGolomb x p).take k) p = none :=
  cut_rejected (par := (decodeGolomb · p)) (fun _ _ _ => decodeGolomb_eq_some_iff) x k hk

/-- the encoder is BIP158's golomb_encode (quotient in unary, a zero, the remainder most significant bit first) -/
theorem golomb_eq_bip158 (x p : Nat) : encodeGolomb x p = Spec.Filters.golombEncode x p :=
  encodeGolomb_eq_spec x p

/-- unpack ∘ pack is the identity up to zero padding to a whole byte -/
theorem unpack_pack (bits : List Bool) :
    unpackBits (packBits bits) = bits ++ List.replicate ((8 - bits.length % 8) % 8) false :=
  unpackBits_packBits bits

theorem pack_unpack (bs : Bytes) : packBits (unpackBits bs) = bs := by
  rw [packBits_eq_spec]
  induction bs with
  | nil => exact bitsToBytes_nil
  | cons x xs ih =>
    rw [unpackBits_cons, bitsToBytes_append (lowBits_length _ 8), ih, bitsToNatBE_lowBits,
      Nat.mod_eq_of_lt x.toNat_lt, UInt8.ofNat_toNat]

/-- pack_bits (one big integer, `to_bytes`) writes the stream most significant bit first, zero padded -/
theorem pack_eq_bip158 (bits : List Bool) : packBits bits = Spec.Filters.bitsToBytes bits := packBits_eq_spec bits

/-! ## Golomb-coded sets -/

/-- decode_gcs inverts serialize_gcs on every non-decreasing list (duplicates included) -/
theorem gcs_roundtrip (xs : List Nat) (hs : xs.Pairwise (· ≤ ·)) (b : Bytes) (h : serializeGcs xs = some b) :
    decodeGcs b = some xs :=
  decodeGcs_serializeGcs xs hs b h

theorem gcs_domain (xs : List Nat) : (serializeGcs xs).isSome ↔ xs.length < 2 ^ 64 := by
  unfold serializeGcs
  rw [Option.isSome_map, encodeVarint_isSome_iff]

/-- encode_gcs is the BIP158 construction byte for byte: N = number of items, F = N·M with M = 784931,
    values `siphash(k, item)·F >> 64` sorted, deltas Golomb-Rice coded with P = 19, packed -/
theorem encode_gcs_eq_bip158 (key : Bytes) (items : List Bytes) (hk : key.length = 16) :
    encodeGcs key items = Spec.Filters.gcsFilter (Spec.Filters.sipHash24 key) items := by
  unfold encodeGcs hashedItems Spec.Filters.gcsFilter
  simp only [hashToRange_eq_spec _ _ _ hk]
  rw [← Option.pure_def, List.mapM_pure]
  simp only [Option.pure_def, Option.map_some, Option.bind_eq_bind, Option.bind_some, serializeGcs, sortNat]
  rw [List.length_mergeSort, List.length_map, gcsBits_eq_spec, packBits_eq_spec]
  rfl

/-- decoding a built filter gives the sorted hashed values -/
theorem decode_encode_gcs (key : Bytes) (items : List Bytes) (fb : Bytes) (h : encodeGcs key items = some fb) :
    ∃ hs, hashedItems key items = some hs ∧ decodeGcs fb = some hs := by
  obtain ⟨raw, _, h2, h3⟩ := encodeGcs_eq h
  exact ⟨sortNat raw, h2, decodeGcs_serializeGcs _ (sortNat_pairwise raw) _ h3⟩

/-! ## compact filter: no false negatives (code after fix F18a) -/

/-- every element of the list a filter was built from is reported present, for every key and element list -/
theorem compact_no_false_negatives (key : Bytes) (items : List Bytes) (fb : Bytes) (h : encodeGcs key items = some fb)
    (x : Bytes) (hx : x ∈ items) :
    ∃ cf, CompactFilter.parse false key fb = some cf ∧ cf.f = items.length * 784931 ∧ cf.contains x = some true :=
  Filters.compact_no_false_negatives key items fb h x hx

/-- a parsed filter serialises to the bytes it was parsed from (hence the same filter hash and header) -/
theorem compact_parse_serialize (key : Bytes) (items : List Bytes) (fb : Bytes) (h : encodeGcs key items = some fb) :
    ∃ cf, CompactFilter.parse false key fb = some cf ∧ cf.serialize = some fb :=
  Filters.compact_parse_serialize key items fb h

/-- … hence CompactFilter.hash of a parsed filter is the hash256 of the received bytes (CFilterMessage.hash) -/
theorem compact_filter_hash (hash256 : Bytes → Bytes) (key : Bytes) (items : List Bytes) (fb : Bytes)
    (h : encodeGcs key items = some fb) :
    ∃ cf, CompactFilter.parse false key fb = some cf ∧ cf.hash hash256 = some (cfilterHash hash256 fb) := by
  obtain ⟨cf, h1, h2⟩ := Filters.compact_parse_serialize key items fb h
  exact ⟨cf, h1, by simp [CompactFilter.hash, h2, cfilterHash]⟩

/-- the same for any received filter that encodes a non-decreasing list: N is the transmitted count -/
theorem compact_parse_received (key : Bytes) (xs : List Nat) (hs : xs.Pairwise (· ≤ ·)) (fb : Bytes)
    (h : serializeGcs xs = some fb) :
    ∃ cf, CompactFilter.parse false key fb = some cf ∧ cf.hashes = xs ∧ cf.f = xs.length * 784931 ∧ cf.serialize = some fb :=
  ⟨_, parse_serializeGcs key xs hs fb h, rfl, rfl, h⟩

/-- F18a, the behaviour before the fix (`set(hashes)`): two inserted scripts with the same hashed value make
    N shrink, F = 1·M instead of 2·M, both inserted scripts are reported absent and the filter re-serialises
    to other bytes -/
theorem F18a_witness :
    let key : Bytes := List.replicate 16 0
    let a : Bytes := [0x02, 0x82, 0x03]
    let b : Bytes := [0x02, 0xb4, 0x05]
    encodeGcs key [a, b] = some [0x02, 0x98, 0xf0, 0x20, 0x00, 0x00, 0x00] ∧
    (∃ cf, CompactFilter.parse true key [0x02, 0x98, 0xf0, 0x20, 0x00, 0x00, 0x00] = some cf ∧
       cf.contains a = some false ∧ cf.contains b = some false ∧ cf.serialize ≠ some [0x02, 0x98, 0xf0, 0x20, 0x00, 0x00, 0x00]) :=
  Filters.F18a_witness

/-! ## filter headers -/

/-- CFHeadersMessage folds `header_i = hash256(filter_hash_i ‖ header_{i-1})` from the previous header -/
theorem filter_header_chain (hash256 : Bytes → Bytes) (prev : Bytes) (hashes : List Bytes) :
    Wire.cfheadersLast hash256 prev hashes
      = hashes.foldl (fun cur fh => Spec.Filters.filterHeader hash256 fh cur) prev := rfl

theorem filter_header_step (hash256 : Bytes → Bytes) (prev fh : Bytes) (hashes : List Bytes) :
    Wire.cfheadersLast hash256 prev (hashes ++ [fh]) = hash256 (fh ++ Wire.cfheadersLast hash256 prev hashes) := by
  simp [Wire.cfheadersLast, List.foldl_append]

/-! ## MurmurHash3 and the bloom filter -/

/-- helper.murmur3 (Python integers, never masked between steps) computes MurmurHash3_x86_32 of the message
    with the seed reduced modulo 2^32, for every message shorter than 2^32 bytes (every tail length) and every seed -/
theorem murmur3_eq_spec (data : Bytes) (seed : Nat) (hl : data.length < 2 ^ 32) :
    murmur3 data seed = some (Spec.Filters.murmur3_32 data (UInt32.ofNat seed)).toNat :=
  Filters.murmur3_eq_spec data seed hl

/-- bit positions: MurmurHash3(item, i·0xFBA4C795 + tweak mod 2^32) mod (8·size) -/
theorem bloom_position_eq_spec (size fc tweak i : Nat) (item : Bytes) (bits : List Bool) (hs : 0 < size)
    (hl : item.length < 2 ^ 32) :
    Bloom.position { size := size, bitField := bits, fc := fc, tweak := tweak } item i
      = some (Spec.Filters.bloomBit size tweak i item) :=
  Filters.bloom_position_eq_spec size fc tweak i item bits hs hl

/-- bits are only ever set -/
theorem bloom_add_mono (bf bf' : Bloom) (item : Bytes) (h : bf.add item = some bf') (k : Nat)
    (hk : bf.bitField[k]? = some true) : bf'.bitField[k]? = some true :=
  Filters.bloom_add_mono bf bf' item h k hk

theorem bloom_add_params (bf bf' : Bloom) (item : Bytes) (h : bf.add item = some bf') :
    bf'.bitField.length = bf.bitField.length ∧ bf'.size = bf.size ∧ bf'.fc = bf.fc ∧ bf'.tweak = bf.tweak :=
  (addFrom_spec item bf.fc bf bf' 0 h).1.1

/-- adding never fails on a well-formed filter -/
theorem bloom_add_total (bf : Bloom) (item : Bytes) (hs : 0 < bf.size) (hb : bf.bitField.length = bf.size * 8)
    (hl : item.length < 2 ^ 32) : (bf.add item).isSome :=
  addFrom_isSome item hl bf.fc bf 0 hs hb

/-- no false negatives, as an invariant over the whole history of `add` calls: afterwards every function position
    of every added element is set -/
theorem bloom_no_false_negatives (bf bf' : Bloom) (items : List Bytes)
    (h : items.foldlM (fun b it => b.add it) bf = some bf') (item : Bytes) (hm : item ∈ items) (i : Nat) (hi : i < bf.fc) :
    ∃ pos, bf.position item i = some pos ∧ bf'.bitField[pos]? = some true :=
  Filters.bloom_no_false_negatives bf bf' items h item hm i hi

/-- filter_bytes stores bit `p` of the field in byte `p / 8`, bit `p % 8` (reading the bytes back least
    significant bit first returns the field) -/
theorem bloom_filter_bytes (bf : Bloom) (fb : Bytes) (h : bf.filterBytes = some fb) :
    Merkle.bytesToBitField fb = bf.bitField :=
  Merkle.bytesToBitField_bitFieldToBytes bf.bitField fb h

/-- filterload payload: CompactSize(size) ‖ filter bytes ‖ nHashFuncs (4 LE) ‖ nTweak (4 LE) ‖ nFlags (1) -/
theorem bloom_filterload_layout (bf : Bloom) (flag : Nat) (sz fb : Bytes) (hsz : encodeVarint bf.size = some sz)
    (hfb : bf.filterBytes = some fb) (hfc : bf.fc < 2 ^ 32) (htw : bf.tweak < 2 ^ 32) (hfl : flag ≤ 255) :
    bf.filterload flag = some (sz ++ fb ++ natToLE' 4 bf.fc ++ natToLE' 4 bf.tweak ++ [UInt8.ofNat flag]) := by
  have h1 : bf.fc < 256 ^ 4 := by omega
  have h2 : bf.tweak < 256 ^ 4 := by omega
  simp only [Bloom.filterload, hsz, hfb, natToLE_some h1, natToLE_some h2, Option.bind_eq_bind, Option.bind_some,
    Option.pure_def, if_neg (show ¬ flag > 255 by omega)]

/-! ## the hypotheses are satisfiable -/

example : (List.replicate 16 (0 : UInt8)).length = 16 := by decide
example : ([3, 3, 7, 9] : List Nat).Pairwise (· ≤ ·) := by decide
example : 0 < (Bloom.new 10 5 99).size ∧ (Bloom.new 10 5 99).bitField.length = (Bloom.new 10 5 99).size * 8 := by decide

end Buidl.Props.C18
