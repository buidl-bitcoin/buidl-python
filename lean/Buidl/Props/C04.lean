/-
  C04 — the transaction wire codec is lossless and the txid is the witness-stripped hash.
  Models: Buidl.Model.Script and Buidl.Model.Tx, with constants from Buidl.Gen.{Script,Tx} (extracted
  from /repo).  `hash256` is an arbitrary function.

  Notes.  N04c: the empty data element and OP_0 are the same byte; parsing yields OP_0, so round
  trips are stated up to `canon` (and exactly for scripts without an empty data element).
  N04d: a legacy serialisation with zero inputs is byte-identical to a segwit marker
  (`zero_input_legacy_ambiguous`); the legacy form is therefore covered for ≥ 1 input.
  F04b (fixed): the fetcher theorem is about the code that compares `tx.id()` with the request.
-/
import Buidl.Proofs.TxParse
namespace Buidl.Props.C04
open Buidl Buidl.Script Buidl.Tx

/-! ## scripts -/

/-- `Script.parse(raw=…)` inverts `raw_serialize` on every command list made of opcodes outside
    1..78 and data elements of 0..520 bytes: the serialiser accepts it, and the bytes parse back to
    the same commands with the empty data element read as OP_0 (N04c), consuming every byte. -/
theorem script_roundtrip (cs : List Cmd) (wf : ∀ c ∈ cs, CmdWF c) :
    ∃ b, rawSerialize { cmds := cs } = some b ∧ parseRaw b = { cmds := canon cs, raw := none } := by
  obtain ⟨b, hb⟩ := serCmds_isSome wf
  exact ⟨b, (rawSerialize_of_raw_none rfl).trans hb, parseRaw_serCmds cs b wf hb⟩

/-- … and exactly the same commands when no data element is empty -/
theorem script_roundtrip_exact (cs : List Cmd) (wf : ∀ c ∈ cs, CmdWF c) (hne : Cmd.push [] ∉ cs) :
    ∃ b, rawSerialize { cmds := cs } = some b ∧ parseRaw b = { cmds := cs, raw := none } := by
  obtain ⟨b, h1, h2⟩ := script_roundtrip cs wf
  refine ⟨b, h1, ?_⟩
  rw [h2, canon_eq_self hne]

/-- N04c stated: the canonical form has the same bytes -/
theorem script_canon_serialize (cs : List Cmd) :
    rawSerialize { cmds := canon cs } = rawSerialize { cmds := cs } := by
  simp [rawSerialize, serCmds_canon]

/-- direct pushes are used exactly up to 75 bytes, OP_PUSHDATA1 up to 255, OP_PUSHDATA2 up to 520
    (minimal encodings), and longer elements are refused -/
theorem push_encoding (d : Bytes) :
    serCmd (.push d) =
      if d.length ≤ 75 then some (UInt8.ofNat d.length :: d)
      else if d.length < 256 then some (76 :: UInt8.ofNat d.length :: d)
      else if d.length ≤ 520 then some (77 :: natToLE' 2 d.length ++ d)
      else none :=
  serCmd_push d

/-- a script on a stream (length-prefixed), followed by anything -/
theorem script_stream_roundtrip (s : Script) (rest : Bytes) (wf : ScriptWF s) :
    ∃ e, Script.serialize s = some e ∧ Script.parse (e ++ rest) = some (canonScript s, rest) :=
  (script_roundTrip wf).at_rest rest

example : ScriptWF { cmds := [.op 0x76, .op 0xA9, .push (List.replicate 20 7), .op 0x88, .op 0xAC] } := by decide
example : ScriptWF { cmds := [.push (List.replicate 520 1), .push [], .op 0] } := by decide +kernel
example : ¬ ScriptWF { cmds := [.push (List.replicate 521 1)] } := by decide +kernel

/-! ## witness, input, output -/

theorem witness_roundtrip (w : Witness) (rest : Bytes) (wf : WitnessWF w) :
    ∃ e, w.serialize = some e ∧ Witness.parse (e ++ rest) = some (w, rest) :=
  (witness_roundTrip wf).at_rest rest

/-- an input: the wire carries outpoint, scriptSig and sequence (`stripIn`: canonical scriptSig, no
    witness, no spent-output annotation) -/
theorem txin_roundtrip (i : TxIn) (rest : Bytes) (wf : TxInWF i) :
    ∃ e, i.serialize = some e ∧ TxIn.parse (e ++ rest) = some (stripIn i, rest) :=
  (txin_roundTrip_wf wf).at_rest rest

theorem txout_roundtrip (o : TxOut) (rest : Bytes) (wf : TxOutWF o) :
    ∃ e, o.serialize = some e ∧ TxOut.parse (e ++ rest) = some (canonOut o, rest) :=
  (txout_roundTrip_wf wf).at_rest rest

/-! ## transactions -/

/-- legacy form (`TxWF` asks for ≥ 1 input there, N04d) -/
theorem tx_roundtrip_legacy (t : Tx) (rest : Bytes) (wf : TxWF t) (hl : t.segwit = false) :
    ∃ e, t.serialize = some e ∧ t.serializeLegacy = some e ∧ Tx.parse (e ++ rest) = some (canonTx t, rest) := by
  obtain ⟨e, he, hp⟩ := tx_roundTrip_wf wf
  have hser : t.serialize = t.serializeLegacy := by rw [Tx.serialize, hl, if_neg Bool.false_ne_true]
  exact ⟨e, he, hser ▸ he, hp rest⟩

/-- segwit form (any number of inputs, zero included) -/
theorem tx_roundtrip_segwit (t : Tx) (rest : Bytes) (wf : TxWF t) (hs : t.segwit = true) :
    ∃ e, t.serialize = some e ∧ t.serializeSegwit = some e ∧ Tx.parse (e ++ rest) = some (canonTx t, rest) := by
  obtain ⟨e, he, hp⟩ := tx_roundTrip_wf wf
  have hser : t.serialize = t.serializeSegwit := by rw [Tx.serialize, hs, if_pos rfl]
  exact ⟨e, he, hser ▸ he, hp rest⟩

/-- Serialising then parsing any well-formed transaction reproduces every wire field and leaves
    exactly the continuation of the stream unread. -/
theorem tx_roundtrip (t : Tx) (rest : Bytes) (wf : TxWF t) :
    ∃ e, t.serialize = some e ∧ Tx.parse (e ++ rest) = some (canonTx t, rest) :=
  (tx_roundTrip_wf wf).at_rest rest

/-- when nothing is lost: canonical scripts, no annotations, and in the legacy form no witnesses -/
theorem canonTx_eq_self (t : Tx)
    (hi : ∀ i ∈ t.ins, canonScript i.scriptSig = i.scriptSig ∧ i.value = none ∧ i.scriptPubkey = none ∧
      (t.segwit = false → i.witness = {}))
    (ho : ∀ o ∈ t.outs, canonScript o.scriptPubkey = o.scriptPubkey) : canonTx t = t := by
  have eo : t.outs.map canonOut = t.outs :=
    (List.map_congr_left fun o h => canonOut_eq_self (ho o h)).trans (List.map_id _)
  unfold canonTx
  cases hs : t.segwit with
  | true =>
    have ei : t.ins.map canonIn = t.ins :=
      (List.map_congr_left fun i h => canonIn_eq_self (hi i h).1 (hi i h).2.1 (hi i h).2.2.1).trans (List.map_id _)
    rw [if_pos rfl, ei, eo]
    exact Tx.eta_segwit t hs
  | false =>
    have ei : t.ins.map stripIn = t.ins :=
      (List.map_congr_left fun i h =>
        stripIn_eq_self (hi i h).1 (hi i h).2.1 (hi i h).2.2.1 ((hi i h).2.2.2 hs)).trans (List.map_id _)
    rw [if_neg Bool.false_ne_true, ei, eo]
    exact Tx.eta_segwit t hs

/-- "Parsing and re-serialising any canonically encoded transaction reproduces the input bytes":
    for every byte string in the image of `serialize` on well-formed transactions -/
theorem tx_parse_serialize (t : Tx) (b : Bytes) (wf : TxWF t) (h : t.serialize = some b) :
    ∃ t', Tx.parse b = some (t', []) ∧ t'.serialize = some b := by
  refine ⟨canonTx t, ?_, ?_⟩
  · have := parse_serialize [] wf h
    rwa [List.append_nil] at this
  · rw [serialize_canonTx wf, h]

/-- a stream shorter than five bytes is refused -/
theorem tx_parse_short (s : Bytes) (h : s.length < 5) : Tx.parse s = none := by
  rw [parse_eq, if_pos h]

/-- N04d: the legacy serialisation of this zero-input transaction parses — as a *segwit*
    transaction with no outputs; the wire format itself cannot tell them apart -/
theorem zero_input_legacy_ambiguous :
    ∃ b t' rest, (⟨1, [], [⟨0, ⟨[], none⟩⟩], 0, false⟩ : Tx).serializeLegacy = some b ∧ Tx.parse b = some (t', rest) ∧
      t'.segwit = true ∧ t'.outs = [] ∧ t' ≠ canonTx (⟨1, [], [⟨0, ⟨[], none⟩⟩], 0, false⟩ : Tx) := by
  refine ⟨[1, 0, 0, 0, 0, 1, 0, 0, 0, 0, 0, 0, 0, 0, 0, 0, 0, 0, 0],
    ⟨1, [], [], 0, true⟩, [0, 0, 0, 0, 0, 0, 0], ?_, ?_, rfl, rfl, ?_⟩
  · decide
  · decide
  · decide

example : TxWF ⟨2, [⟨List.replicate 32 9, 1, ⟨[.push [1, 2, 3]], none⟩, 0xFFFFFFFE, ⟨[[], [1]]⟩, none, none⟩],
    [⟨2 ^ 64 - 1, ⟨[.op 0, .push (List.replicate 20 5)], none⟩⟩], 500000000, true⟩ := by
  decide

/-! ## transaction id -/

/-- the id is the byte-reversed double-SHA256 of the legacy (witness-stripped) serialisation, in hex -/
theorem txid_def (hash256 : Bytes → Bytes) (t : Tx) :
    t.hash hash256 = (t.serializeLegacy).map (fun b => (hash256 b).reverse) ∧
    t.id hash256 = (t.hash hash256).map toHex := ⟨rfl, rfl⟩

/-- the bytes that are hashed: version ‖ #inputs ‖ inputs (outpoint, scriptSig, sequence) ‖ #outputs ‖
    outputs ‖ locktime — no marker, no flag, no witness -/
theorem txid_legacy_bytes (hash256 : Bytes → Bytes) (t : Tx) (wf : TxWF t) :
    ∃ n i m o, encodeVarint t.ins.length = some n ∧ serIns t.ins = some i ∧ encodeVarint t.outs.length = some m ∧
      serOuts t.outs = some o ∧
      t.hash hash256 = some (hash256 (natToLE' 4 t.version ++ n ++ i ++ m ++ o ++ natToLE' 4 t.locktime)).reverse := by
  obtain ⟨hv, hl, hn, hm, hi, ho, _⟩ := wf
  obtain ⟨n, en⟩ := encodeVarint_some hn
  obtain ⟨m, em⟩ := encodeVarint_some hm
  obtain ⟨i, ei, _⟩ := ins_roundTrip fun i h => txin_roundTrip_wf (hi i h)
  obtain ⟨o, eo, _⟩ := outs_roundTrip fun o h => txout_roundTrip_wf (ho o h)
  exact ⟨n, i, m, o, en, ei, em, eo, by rw [Tx.hash, serializeLegacy_eq hv hl en ei em eo]; rfl⟩

/-- the id is unchanged by any change to witness data (witness stacks, the segwit flag) and to the
    spent-output annotations: two transactions that agree on version, locktime, outputs and on the
    inputs with witnesses removed have the same id -/
theorem txid_witness_invariant (hash256 : Bytes → Bytes) (t t' : Tx)
    (hv : t.version = t'.version) (hl : t.locktime = t'.locktime) (ho : t.outs = t'.outs)
    (hi : t.ins.map noWit = t'.ins.map noWit) : t.hash hash256 = t'.hash hash256 := by
  have e : serIns t.ins = serIns t'.ins := by rw [← serIns_noWit t.ins, ← serIns_noWit t'.ins, hi]
  have len : t.ins.length = t'.ins.length := by
    have := congrArg List.length hi
    rwa [List.length_map, List.length_map] at this
  simp only [Tx.hash, Tx.serializeLegacy, hv, hl, ho, e, len]

/-- the legacy serialisation determines every non-witness field -/
theorem serializeLegacy_injective (t₁ t₂ : Tx) (b : Bytes) (wf₁ : TxWF t₁) (wf₂ : TxWF t₂)
    (h₁ : t₁.serializeLegacy = some b) (h₂ : t₂.serializeLegacy = some b) : coreTx t₁ = coreTx t₂ :=
  ((legacy_roundTrip_wf wf₁).prefix_free (legacy_roundTrip_wf wf₂) (r₁ := []) (r₂ := []) h₁ h₂ rfl).1

/-- "changed by any change to non-witness data", as collision extraction: if two well-formed
    transactions differ in a non-witness field and have the same id, their legacy serialisations
    are two different byte strings with the same `hash256` -/
theorem txid_collision_extraction (hash256 : Bytes → Bytes) (t₁ t₂ : Tx) (h : Bytes)
    (wf₁ : TxWF t₁) (wf₂ : TxWF t₂) (hne : coreTx t₁ ≠ coreTx t₂)
    (e₁ : t₁.hash hash256 = some h) (e₂ : t₂.hash hash256 = some h) :
    ∃ b₁ b₂, t₁.serializeLegacy = some b₁ ∧ t₂.serializeLegacy = some b₂ ∧ b₁ ≠ b₂ ∧ hash256 b₁ = hash256 b₂ := by
  simp only [Tx.hash, Option.map_eq_some_iff] at e₁ e₂
  obtain ⟨b₁, s₁, r₁⟩ := e₁
  obtain ⟨b₂, s₂, r₂⟩ := e₂
  refine ⟨b₁, b₂, s₁, s₂, ?_, ?_⟩
  · intro hb
    subst hb
    exact hne (serializeLegacy_injective t₁ t₂ b₁ wf₁ wf₂ s₁ s₂)
  · exact List.reverse_inj.mp (r₁.trans r₂.symm)

/-! ## fetcher -/

/-- Whatever text the server returns: if `fetch` returns a transaction at all, that transaction's
    id is the requested one. -/
theorem fetch_sound (hash256 : Bytes → Bytes) (network txId response : String) (t : Tx)
    (h : fetch hash256 network txId response = some t) : t.id hash256 = some txId :=
  fetch_id h

/-- a non-hex response, an unknown network and a response that does not parse are refused -/
theorem fetch_refuses (hash256 : Bytes → Bytes) (network txId response : String)
    (h : ¬ Gen.fetchNetworks.contains network ∨ fromHex (pyStrip response.toList) = none) :
    fetch hash256 network txId response = none := by
  unfold fetch
  rcases h with h | h
  · rw [if_pos h]
  · split
    · rfl
    · rw [h]

/-! ## fetcher histories on the shared class-level cache -/

/-- the invariant of `TxFetcher.cache`: every cached transaction hashes to the id it is stored under.
    It holds for the empty cache and is preserved by every call, whatever the server answers. -/
theorem fetch_cache_invariant (hash256 : Bytes → Bytes) (c : FetchCache) (ok : CacheOK hash256 c) (calls : List FetchCall) :
    CacheOK hash256 [] ∧ CacheOK hash256 (fetchRun hash256 c calls).2 :=
  ⟨cacheOK_nil hash256, (fetchRun_sound calls ok).1⟩

/-- For every history of `fetch` calls on one cache — any ids (repeated or not), `fresh` or not, any
    networks, and any sequence of server responses (honest, lying, non-hex, with trailing bytes) —
    starting from the empty cache: whatever any call returns hashes to the id that call requested.
    In particular a response refused once is never served from the cache later. -/
theorem fetch_history_sound (hash256 : Bytes → Bytes) (calls : List FetchCall) (n : Nat) (call : FetchCall) (t : Tx)
    (hc : calls[n]? = some call) (ha : (fetchRun hash256 [] calls).1[n]? = some (some t)) :
    t.id hash256 = some call.txId :=
  (fetchRun_sound calls (cacheOK_nil hash256)).2 n call t hc ha

/-- the cache is written only after the id check: a call that raises leaves the cache as it was -/
theorem fetch_failure_leaves_cache (hash256 : Bytes → Bytes) (c : FetchCache) (call : FetchCall)
    (h : (fetchStep hash256 c call).1 = none) : (fetchStep hash256 c call).2 = c := by
  unfold fetchStep at h ⊢
  split
  · next hc =>
    rw [if_pos hc] at h
    cases hf : fetch hash256 call.network call.txId call.response with
    | none => rfl
    | some tx => rw [hf] at h; cases h
  · rfl

/-! ## arbitrary byte strings (malformed, truncated, non-minimally encoded streams) -/

/-- **The script parser never runs out of fuel**: `Script.parse(raw=…)` is modelled with fuel `len + 1`; any
    two fuels above the number of remaining bytes give the same result, so the fuel is no restriction -/
theorem script_parse_fuel_independent (f1 f2 : Nat) (s : Bytes) (acc : List Cmd) (h1 : s.length < f1) (h2 : s.length < f2) :
    parseLoop f1 s acc = parseLoop f2 s acc :=
  (parseLoop_eq f1 s acc h1).trans (parseLoop_eq f2 s acc h2).symm

/-- whatever the bytes, an opcode the parser returns is 0 or 79..255 — never a push opcode -/
theorem script_parse_opcodes (raw : Bytes) : ∀ c ∈ (parseRaw raw).cmds, OpOK c :=
  parseRaw_ops raw

/-- `raw` is set only to the (non-empty) input itself, when a push ran past the end -/
theorem script_parse_raw (raw : Bytes) : (parseRaw raw).raw = none ∨ ((parseRaw raw).raw = some raw ∧ raw ≠ []) :=
  parseRaw_raw raw

/-- **Exactly which parsed scripts are fixed points of serialise ∘ parse.**  For the parse of ANY bytes
    (shorter than 2^63): it is a fixed point if it carries `raw`, or no data element is empty or longer than
    520 bytes — this covers every non-minimal push encoding (OP_PUSHDATA1/2/4 where a shorter form exists),
    which re-serialises minimally and parses to the same commands … -/
theorem parsed_script_fixpoint (raw : Bytes) (hl : raw.length < 2 ^ 63) (hr : Reencodable (parseRaw raw)) :
    ScriptFix (parseRaw raw) :=
  parsedScript_fix ⟨raw, hl, rfl⟩ hr

/-- … and it is not one otherwise: an empty data element (only reachable as `4c 00`, `4d 00 00`, …) reads
    back as OP_0 (N04c), a data element of more than 520 bytes is refused by the serialiser -/
theorem parsed_script_not_fixpoint (raw : Bytes) (hnone : (parseRaw raw).raw = none)
    (hbad : ∃ c ∈ (parseRaw raw).cmds, ¬ PushOK c) : ¬ ScriptFix (parseRaw raw) :=
  fun hfix =>
    have ⟨c, hc, hnp⟩ := hbad
    hnp (((scriptFix_iff hnone (parseRaw_ops raw)).mp hfix).1 c hc)

/-- every parser leaves a suffix of its input unread (nothing is invented, nothing re-ordered) and refuses the
    empty stream -/
theorem parsers_leave_suffix :
    (∀ (s r : Bytes) (sc : Script), Script.parse s = some (sc, r) → r <:+ s ∧ s ≠ []) ∧
    (∀ (s r : Bytes) (w : Witness), Witness.parse s = some (w, r) → r <:+ s) ∧
    (∀ (s r : Bytes) (i : TxIn), TxIn.parse s = some (i, r) → r <:+ s) ∧
    (∀ (s r : Bytes) (o : TxOut), TxOut.parse s = some (o, r) → r <:+ s) ∧
    (∀ (s r : Bytes) (t : Tx), Tx.parse s = some (t, r) → r <:+ s) :=
  ⟨fun _ _ _ h => ⟨(script_yields _ _ h).2, fun e => by subst e; cases h⟩, fun _ _ _ h => (witness_yields _ _ h).2,
   fun _ _ _ h => (txin_yields _ _ h).2, fun _ _ _ h => (txout_yields _ _ h).2, fun _ _ _ h => (parse_yields _ _ h).2⟩

/-- every witness the parser returns — from any bytes — is a fixed point: it serialises, and the bytes parse
    back to exactly it -/
theorem witness_parse_sound (s r : Bytes) (w : Witness) (h : Witness.parse s = some (w, r)) :
    ∃ e, w.serialize = some e ∧ ∀ rest, Witness.parse (e ++ rest) = some (w, rest) :=
  witness_roundTrip (witness_yields _ _ h).1

/-- **Parse soundness** (what a fetcher / PSBT consumer relies on).  For ANY byte string `b`: if
    `Tx.parse b = (t, rest)` then `b = consumed ++ rest`; every field of `t` is within its wire width
    (`ParsedTx`: 32-byte outpoint hashes, 4-byte indices / sequences / version / locktime, 8-byte amounts,
    counts and lengths the codec can write); and if `t` is `Reenc` — a decidable condition on `t` alone: no
    empty or > 520-byte data element in a script without `raw`, not the zero-input legacy form — then `t`
    serialises and its serialisation followed by anything parses back to exactly `t`.  Non-minimal varints,
    non-minimal pushes, short reads of a push (kept in `raw`), short reads of witness items and of the
    locktime are all inside this statement: they change `consumed`, not the fixed-point property. -/
theorem tx_parse_sound (b rest : Bytes) (t : Tx) (h : Tx.parse b = some (t, rest)) :
    (∃ consumed, b = consumed ++ rest) ∧ ParsedTx t ∧
    (Reenc t → ∃ e, t.serialize = some e ∧ ∀ r, Tx.parse (e ++ r) = some (t, r)) :=
  parse_sound h

/-- **Truncation.**  Python's `read(n)` returns fewer bytes silently, so a strict prefix `p` of a valid
    serialisation `e` CAN be accepted (`truncated_locktime_accepted`).  What holds: whatever `Tx.parse p`
    returns does not stand for `p` — it never re-serialises to `p` (for `Reenc` results, the only ones
    that re-parse to themselves) -/
theorem tx_truncation (t : Tx) (e p x : Bytes) (wf : TxWF t) (he : t.serialize = some e) (hpx : e = p ++ x) (hx : x ≠ [])
    (t' : Tx) (r : Bytes) (hp : Tx.parse p = some (t', r)) (hr : Reenc t') : t'.serialize ≠ some p :=
  truncation t e p x wf he hpx hx t' r hp hr

/-- serialisations of well-formed transactions are prefix-free: none is a strict prefix of another -/
theorem serialization_prefix_free (t₁ t₂ : Tx) (e₁ e₂ x : Bytes) (wf₁ : TxWF t₁) (wf₂ : TxWF t₂)
    (h₁ : t₁.serialize = some e₁) (h₂ : t₂.serialize = some e₂) (hx : e₂ = e₁ ++ x) : x = [] ∧ canonTx t₁ = canonTx t₂ :=
  ((tx_roundTrip_wf wf₁).prefix_free (tx_roundTrip_wf wf₂) h₁ h₂ (by rw [List.append_nil, hx])).symm

/-- the silent short read, concretely: this 1-input 1-output legacy transaction with its last two locktime
    bytes cut off still parses — to a transaction with another locktime, leaving nothing unread -/
theorem truncated_locktime_accepted :
    ∃ (e p : Bytes) (t t' : Tx), TxWF t ∧ t.serialize = some e ∧ p = e.take (e.length - 2) ∧
      Tx.parse p = some (t', []) ∧ t'.locktime ≠ t.locktime ∧ t'.serialize ≠ some p := by
  refine ⟨_, _, ⟨1, [⟨List.replicate 32 7, 0, ⟨[], none⟩, 0xFFFFFFFF, ⟨[]⟩, none, none⟩], [⟨5, ⟨[.op 0x51], none⟩⟩], 0x01020304, false⟩,
    ⟨1, [⟨List.replicate 32 7, 0, ⟨[], none⟩, 0xFFFFFFFF, ⟨[]⟩, none, none⟩], [⟨5, ⟨[.op 0x51], none⟩⟩], 0x0304, false⟩,
    by decide, rfl, rfl, ?_, by decide, ?_⟩ <;> decide +kernel

end Buidl.Props.C04
