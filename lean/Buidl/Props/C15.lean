/-
  C15 — SLIP39 shares: any k recover, fewer never do, corruption is detected.

  Model: Buidl.Model.Shamir (buidl/shamir.py).  HMAC-SHA256 (`hmac256`), PBKDF2-HMAC-SHA256 (`kdf`) and
  SHA-256 are arbitrary functions; the code's randomness is the explicit argument `ρ` (and `id`).
  `GF256` is the 256-element type on which the tables computed as `ShareSet._load` does define a Mathlib
  `Field` (`Buidl.Shamir.GF256.instField`): addition is XOR, multiplication `exp[(log a + log b) % 255]`.

  What the code supports (and the model mirrors): `generate_shares` makes a single-level split — each share
  is its own group with a 1-of-1 member.  Observation O15a: for k = 1 `split_secret` returns the single
  share (0, secret) whatever n (theorem `split_k1`).
-/
import Buidl.Proofs.ShamirEndToEnd
import Buidl.Proofs.RS1024Two
import Buidl.Proofs.RS1024Three
namespace Buidl.Props.C15
open Buidl Buidl.Mnemonic Buidl.Shamir Polynomial

/-! ## the GF(256) tables define a field -/

/-- the tables computed as `_load` does: 255 / 256 entries, `exp` and `log2` mutually inverse on the non-zero
    bytes, `exp[i+1]` is `exp[i]` times the generator, `log2[0] = 0` (the "cheat" `interpolate` relies on) -/
theorem gf256_tables :
    tables.exp.length = 255 ∧ tables.log.length = 256 ∧ logN 0 = 0 ∧ expN 0 = 1 ∧
    (∀ i, i < 255 → 0 < expN i ∧ expN i < 256 ∧ logN (expN i) = i ∧ expN ((i + 1) % 255) = gfNext (expN i)) ∧
    (∀ a, a < 256 → a ≠ 0 → logN a < 255 ∧ expN (logN a) = a) :=
  tables_facts

/-- the field structure is the code's arithmetic: `+` is XOR, `*` is the log/exp product, `⁻¹` the log/exp
    inverse (the `Field GF256` instance itself is `Buidl.Shamir.GF256.instField`) -/
theorem gf256_field_ops (a b : GF256) :
    (a + b).val = a.val ^^^ b.val ∧
    (a * b).val = (if a.val = 0 ∨ b.val = 0 then 0 else expN ((logN a.val + logN b.val) % 255)) ∧
    (a⁻¹).val = (if a.val = 0 then 0 else expN ((255 - logN a.val) % 255)) ∧
    (a - b = a + b) ∧ (a ≠ 0 → a * a⁻¹ = 1) :=
  ⟨rfl, rfl, rfl, GF256.sub_eq_add' a b, fun h => mul_inv_cancel₀ h⟩

/-! ## interpolation -/

/-- `ShareSet.interpolate x shares` is Lagrange interpolation over GF256: for byte coordinates, pairwise
    distinct share indices and `x` outside them, every byte `j` of the result is the Mathlib Lagrange
    interpolant through the points `(index, byte j of the share)` evaluated at `x` -/
theorem interpolate_is_lagrange (x : Nat) (sd : ShareData) (wf : WF x sd) (hne : sd ≠ []) (L : Nat)
    (hL : ∀ sh ∈ sd, sh.2.length = L) :
    ∃ out, interpolate x sd = some out ∧ out.length = L ∧
      ∀ j, j < L → toF (col j out)
        = eval (natF x) (Lagrange.interpolate (nodesF sd).toFinset id (valF sd j)) :=
  interpolate_eq_lagrange wf hne L hL

/-! ## split / recover -/

/-- **any m ≥ k distinct shares of `split_secret s k n ρ` recover `s`** (and pass the digest check), for
    every 2 ≤ k ≤ n ≤ 16, every randomness ρ, both secret lengths, every order of the shares -/
theorem any_k_shares_recover (hmac256 : Bytes → Bytes → Bytes) (hh : ∀ k m, 4 ≤ (hmac256 k m).length)
    (secret : Bytes) (k n : Nat) (ρ : List Nat) (shares : ShareData) (rest : List Nat) (hk : 2 ≤ k)
    (h : splitSecret hmac256 secret k n ρ = .ok shares rest)
    (sub : ShareData) (hsub : ∀ p ∈ sub, p ∈ shares) (hnd : (sub.map (·.1)).Nodup) (hlen : k ≤ sub.length) :
    recoverSecret hmac256 sub = some secret :=
  recoverSecret_of_split hmac256 hh secret k n ρ shares rest hk h sub hsub hnd hlen

/-- **end to end**: the share mnemonics of `generate_shares(mnemonic, k, n, passphrase, exponent)` — for every
    accepted 12- or 24-word mnemonic, 1 ≤ k ≤ n ≤ 16, passphrase, id < 2^15 (`randbits(15)`), exponent < 32,
    randomness ρ — are such that ANY k or more distinct ones, in any order, make
    `recover_mnemonic(·, passphrase)` return the canonical BIP39 mnemonic of the same secret
    (`bytes_to_mnemonic(mnemonic_to_bytes(mnemonic))`; by C14 `roundtrip` this decodes to the original entropy) -/
theorem generate_then_recover (sha256 : Bytes → Bytes) (hmac256 : Bytes → Bytes → Bytes)
    (kdf : Bytes → Bytes → Nat → Nat → Bytes) (hh : ∀ k m, 4 ≤ (hmac256 k m).length)
    (hkdf : ∀ p s c n, (kdf p s c n).length = n) (bip39 slip39 : WordList) (hwl : SLIP39? = some slip39)
    (mnemonic : PyStr) (k n : Nat) (pass : Bytes) (e id : Nat) (ρ : List Nat) (ms : List PyStr)
    (hid : id < 2 ^ 15) (he : e < 32)
    (hgen : generateShares sha256 hmac256 kdf bip39 slip39 mnemonic k n pass e id ρ = .ok ms)
    (sub : List PyStr) (hsub : ∀ m ∈ sub, m ∈ ms) (hnd : sub.Nodup) (hlen : k ≤ sub.length) :
    ∃ secret, mnemonicToBytes sha256 bip39 mnemonic = some secret ∧
      recoverMnemonic sha256 hmac256 kdf bip39 slip39 sub pass
        = bytesToMnemonic sha256 bip39 secret (secret.length * 8) := by
  have tok := tableOK_of_check slip39_check hwl
  obtain ⟨secret, enc, data, rest, shares, hsec, hbits, henc, hsp, hmk, hms⟩ :=
    generateShares_unpack sha256 hmac256 kdf bip39 slip39 mnemonic k n pass e id ρ ms hgen
  refine ⟨secret, hsec, ?_⟩
  obtain ⟨hdec, henclen⟩ := Shamir.decrypt_encrypt kdf hkdf secret id e pass enc henc
  obtain ⟨hk1, hkn, hn16, _, hdata, hdnd, _⟩ := split_data_facts hmac256 hh enc k n ρ data rest hsp
  have hdata' : ∀ p ∈ data, p.1 ≤ 15 ∧ p.2.length = secret.length * 8 / 8 := fun p hp =>
    ⟨by have := (hdata p hp).1; omega, by rw [(hdata p hp).2, henclen]; omega⟩
  have hshares : shares = data.map (mkShare (secret.length * 8) id e k n) :=
    Option.some.inj (hmk.symm.trans (mkShares_eq _ id e k n hk1 hkn hn16 data hdata'))
  -- `parse` reads every share mnemonic back, so the chosen ones parse to a selection `l` of the shares
  obtain ⟨l, hmap, hlsh, hlsub⟩ := mapM?_inverse_subset hms (g := Share.parse slip39) (fun sh hsh m hm => by
    rw [hshares, List.mem_map] at hsh
    obtain ⟨p, hp, rfl⟩ := hsh
    obtain ⟨m', h1, h2⟩ := parse_mnemonic slip39 tok _
      (mkShare_ok _ id e k n hbits hid he hk1 hkn hn16 p (hdata' p hp).1 (hdata' p hp).2)
    rw [hm] at h1
    cases h1
    exact h2) sub hsub
  have hlmk : ∀ sh ∈ l, ∃ p ∈ data, sh = mkShare (secret.length * 8) id e k n p := fun sh hsh => by
    obtain ⟨p, hp, rfl⟩ := List.mem_map.mp (hshares ▸ hlsh sh hsh)
    exact ⟨p, hp, rfl⟩
  -- distinct split entries have distinct indices, so the parsed shares have distinct group indices
  have hgind : (l.map (·.groupIndex)).Nodup := by
    refine List.Nodup.map_on (fun s hs t ht hst => ?_) (mapM?_nodup hlsub hnd)
    obtain ⟨p, hp, rfl⟩ := hlmk s hs
    obtain ⟨q, hq, rfl⟩ := hlmk t ht
    rw [List.inj_on_of_nodup_map hdnd hp hq hst]
  rw [mapM?_length _ _ _ hlsub] at hlen
  cases l with
  | nil => rw [List.length_nil] at hlen; omega
  | cons s0 r =>
    obtain ⟨p0, _, rfl⟩ := hlmk s0 List.mem_cons_self
    have hnew : ShareSet.new (mkShare (secret.length * 8) id e k n p0 :: r) = some _ :=
      (new_eq_some_iff _ r _).mpr
        ⟨rfl, consistent_mkShare _ id e k n _ (fun sh hsh => (hlmk sh hsh).imp fun _ h => h.2) hgind, fun _ => hkn⟩
    -- `recover` sees the parsed shares' (index, value) pairs, which are entries of the split
    have hrec : ShareSet.recover hmac256 kdf (mkShare (secret.length * 8) id e k n p0 :: r) pass = some secret :=
      (recoverWith_of_split hmac256 kdf hh hsp _
        (fun sh hsh => by obtain ⟨p, _, rfl⟩ := hlmk sh hsh; rfl)
        (fun sh hsh => by obtain ⟨p, hp, rfl⟩ := hlmk sh hsh; exact hp) hgind hlen id e pass).trans hdec
    rw [recoverMnemonic, hmap]
    simp only [hnew, hrec]
    rfl

/-- the shape of a split for k ≥ 2: `n` shares with indices 0 … n−1 (in this order), k ≤ n ≤ 16,
    secret of 16 or 32 bytes -/
theorem split_shape (hmac256 : Bytes → Bytes → Bytes) (secret : Bytes) (k n : Nat) (ρ : List Nat)
    (shares : ShareData) (rest : List Nat) (hk : 2 ≤ k)
    (h : splitSecret hmac256 secret k n ρ = .ok shares rest) :
    k ≤ n ∧ n ≤ 16 ∧ (secret.length = 16 ∨ secret.length = 32) ∧ shares.map (·.1) = List.range n := by
  have ⟨_, h1, h2, h3⟩ := splitSecret_guard h
  exact ⟨h1, h2, h3, split_nodes hmac256 secret k n ρ shares rest hk h⟩

/-- Observation O15a: with k = 1 the code returns ONE share, `(0, secret)`, whatever `n` is; no randomness is
    used.  (`recover` then decrypts that share's value directly.) -/
theorem split_k1 (hmac256 : Bytes → Bytes → Bytes) (secret : Bytes) (n : Nat) (ρ : List Nat)
    (hn : 1 ≤ n ∧ n ≤ 16) (hl : secret.length = 16 ∨ secret.length = 32) :
    splitSecret hmac256 secret 1 n ρ = .ok [(0, secret)] ρ :=
  splitSecret_k1 hmac256 secret n ρ hn.1 hn.2 hl

/-- parameters outside 1 ≤ k ≤ n ≤ 16 or a secret of another length are refused -/
theorem split_rejects (hmac256 : Bytes → Bytes → Bytes) (secret : Bytes) (k n : Nat) (ρ : List Nat)
    (h : n < 1 ∨ n > 16 ∨ k < 1 ∨ k > n ∨ ¬ (secret.length = 16 ∨ secret.length = 32)) :
    splitSecret hmac256 secret k n ρ = .reject :=
  splitSecret_reject hmac256 secret k n ρ h

/-! ## too few shares, mixed shares -/

/-- fewer shares than the group threshold k ≥ 2 they carry: `ShareSet.recover` raises -/
theorem fewer_than_k_rejected (hmac256 : Bytes → Bytes → Bytes) (kdf : Bytes → Bytes → Nat → Nat → Bytes)
    (s0 : Share) (r : List Share) (pass : Bytes) (hk : s0.groupThreshold ≠ 1)
    (hlen : (s0 :: r).length < s0.groupThreshold) :
    ShareSet.recover hmac256 kdf (s0 :: r) pass = none :=
  recoverWith_few hmac256 kdf _ _ _ _ _ pass hk hlen

/-- the same for `recover_mnemonic` on share mnemonics -/
theorem fewer_than_k_mnemonics_rejected (sha256 : Bytes → Bytes) (hmac256 : Bytes → Bytes → Bytes)
    (kdf : Bytes → Bytes → Nat → Nat → Bytes) (bip39 slip39 : WordList) (ms : List PyStr) (pass : Bytes)
    (s0 : Share) (r : List Share) (hp : mapM? (Share.parse slip39) ms = some (s0 :: r))
    (hk : s0.groupThreshold ≠ 1) (hlen : ms.length < s0.groupThreshold) :
    recoverMnemonic sha256 hmac256 kdf bip39 slip39 ms pass = none := by
  unfold recoverMnemonic
  rw [hp]
  simp only
  cases hn : ShareSet.new (s0 :: r) with
  | none => rfl
  | some ss =>
    obtain ⟨hss, _, _⟩ := new_some _ _ hn
    subst hss
    simp only
    rw [fewer_than_k_rejected hmac256 kdf s0 r pass hk (by rw [mapM?_length _ _ _ hp]; exact hlen)]

/-- no shares at all: REJECT -/
theorem no_shares_rejected (sha256 : Bytes → Bytes) (hmac256 : Bytes → Bytes → Bytes)
    (kdf : Bytes → Bytes → Nat → Nat → Bytes) (bip39 slip39 : WordList) (pass : Bytes) :
    recoverMnemonic sha256 hmac256 kdf bip39 slip39 [] pass = none := rfl

/-- shares that differ in id, exponent, threshold, count or length, or repeat a (group, member) index, are
    refused by `ShareSet.__init__`: anything accepted is consistent -/
theorem accepted_sets_consistent (shares ss : List Share) (h : ShareSet.new shares = some ss) :
    ss = shares ∧ shares ≠ [] ∧ (1 < shares.length → Consistent shares) :=
  (new_some shares ss h).imp id (.imp id fun c _ => c)

theorem mismatching_id_rejected (shares : List Share) (s t : Share) (hs : s ∈ shares) (ht : t ∈ shares)
    (hne : s.id ≠ t.id) : ShareSet.new shares = none :=
  new_none_of_not_consistent shares fun c => hne (c.id s hs t ht)

theorem mismatching_exponent_rejected (shares : List Share) (s t : Share) (hs : s ∈ shares) (ht : t ∈ shares)
    (hne : s.exponent ≠ t.exponent) : ShareSet.new shares = none :=
  new_none_of_not_consistent shares fun c => hne (c.exponent s hs t ht)

theorem mismatching_threshold_rejected (shares : List Share) (s t : Share) (hs : s ∈ shares) (ht : t ∈ shares)
    (hne : s.groupThreshold ≠ t.groupThreshold ∨ s.groupCount ≠ t.groupCount) : ShareSet.new shares = none :=
  new_none_of_not_consistent shares fun c =>
    hne.elim (fun h => h (c.threshold s hs t ht)) (fun h => h (c.count s hs t ht))

theorem mismatching_length_rejected (shares : List Share) (s t : Share) (hs : s ∈ shares) (ht : t ∈ shares)
    (hne : s.shareBitLength ≠ t.shareBitLength) : ShareSet.new shares = none :=
  new_none_of_not_consistent shares fun c => hne (c.length s hs t ht)

/-- the same at the level of `recover_mnemonic` -/
theorem recover_mnemonic_accepts_only_consistent (sha256 : Bytes → Bytes) (hmac256 : Bytes → Bytes → Bytes)
    (kdf : Bytes → Bytes → Nat → Nat → Bytes) (bip39 slip39 : WordList) (ms : List PyStr) (pass : Bytes)
    (m : PyStr) (h : recoverMnemonic sha256 hmac256 kdf bip39 slip39 ms pass = some m) :
    ∃ shares, mapM? (Share.parse slip39) ms = some shares ∧ shares ≠ [] ∧
      (1 < shares.length → Consistent shares) := by
  unfold recoverMnemonic at h
  cases hp : mapM? (Share.parse slip39) ms with
  | none => rw [hp] at h; cases h
  | some shares =>
    rw [hp] at h
    simp only at h
    cases hn : ShareSet.new shares with
    | none => rw [hn] at h; cases h
    | some ss =>
      exact ⟨shares, rfl, (accepted_sets_consistent _ _ hn).2⟩

/-! ## encryption -/

/-- `decrypt (encrypt x) = x` for every round function of the requested output length (Feistel structure),
    every payload, id, exponent and passphrase on which `encrypt` succeeds -/
theorem decrypt_encrypt (kdf : Bytes → Bytes → Nat → Nat → Bytes) (hk : ∀ p s c n, (kdf p s c n).length = n)
    (payload : Bytes) (id exponent : Nat) (pass c : Bytes)
    (h : encrypt kdf payload id exponent pass = some c) :
    decrypt kdf c id exponent pass = some payload ∧ c.length = payload.length :=
  Shamir.decrypt_encrypt kdf hk payload id exponent pass c h

/-- `encrypt` succeeds exactly on non-empty even-length payloads with `id < 2^16` and an iteration count
    `2500 << e` that fits a C int -/
theorem encrypt_domain (kdf : Bytes → Bytes → Nat → Nat → Bytes) (payload : Bytes) (id exponent : Nat)
    (pass : Bytes) :
    (encrypt kdf payload id exponent pass).isSome ↔
      payload.length % 2 = 0 ∧ 2 ≤ payload.length ∧ 2500 <<< exponent ≤ 2147483647 ∧ id < 2 ^ 16 := by
  rw [encrypt, crypt_eq]
  split
  · rename_i h; exact ⟨fun _ => h, fun _ => rfl⟩
  · rename_i h; exact ⟨fun hs => (nomatch hs), fun hc => absurd hc h⟩

/-! ## share mnemonics -/

/-- `Share.parse (share.mnemonic()) = share` for every share whose fields are in range
    (id < 2^15, exponent < 32, indices < 16, 1 ≤ thresholds ≤ counts ≤ 16, length a multiple of 16 and
    ≥ 128, value < 2^length) -/
theorem parse_mnemonic_roundtrip (slip39 : WordList) (hwl : SLIP39? = some slip39) (s : Share)
    (ok : ShareOK s) : ∃ m, Share.mnemonic slip39 s = some m ∧ Share.parse slip39 m = some s :=
  parse_mnemonic slip39 (tableOK_of_check slip39_check hwl) s ok

/-- `Share(...)` accepts exactly in-range arguments and stores them with the big-endian value bytes -/
theorem share_init_iff (sbl id e gi gt gc mi mt v : Nat) (sh : Share) :
    Share.new sbl id e gi gt gc mi mt v = some sh ↔
      (gi ≤ 15 ∧ 1 ≤ gt ∧ gt ≤ gc ∧ gc ≤ 16 ∧ mi ≤ 15 ∧ 1 ≤ mt ∧ mt ≤ 16 ∧ v < 256 ^ (sbl / 8) ∧
        sh = ⟨sbl, id, e, gi, gt, gc, mi, mt, v, natToBE' (sbl / 8) v⟩) :=
  share_new_some_iff sbl id e gi gt gc mi mt v sh

/-- soundness of `Share.parse`: whatever it returns has in-range fields, re-encodes (`mnemonic()`), and the
    re-encoding parses to the same share — also for the non-canonical word counts `parse` tolerates -/
theorem parse_sound (slip39 : WordList) (hwl : SLIP39? = some slip39) (m : PyStr) (sh : Share)
    (h : Share.parse slip39 m = some sh) :
    ShareOK sh ∧ ∃ m', Share.mnemonic slip39 sh = some m' ∧ Share.parse slip39 m' = some sh := by
  have tok := tableOK_of_check slip39_check hwl
  unfold Share.parse at h
  cases hidx : lookupAll slip39 (pySplit m) with
  | none => rw [hidx] at h; cases h
  | some idx =>
    rw [hidx] at h
    have ok := ofIndices_ok idx sh (fun i hi => tok.hlen ▸ lookupAll_lt slip39 _ idx hidx i hi) h
    exact ⟨ok, parse_mnemonic slip39 tok sh ok⟩

/-- histories on ONE `ShareSet` object: `recover` does not change the object — asking again (after any other
    `recover`, whatever its passphrase or outcome) gives the same answer; only assignments to `.shares` matter,
    and the id / exponent / threshold / count used are those fixed at construction -/
theorem shareset_recover_repeatable (hmac256 : Bytes → Bytes → Bytes) (kdf : Bytes → Bytes → Nat → Nat → Bytes)
    (o : ShareSetObj) (p q : Bytes) :
    ∃ a b, o.run hmac256 kdf [.recover p, .recover q, .recover p] = [a, b, a] :=
  ⟨_, _, rfl⟩

theorem shareset_history_step (hmac256 : Bytes → Bytes → Bytes) (kdf : Bytes → Bytes → Nat → Nat → Bytes)
    (o : ShareSetObj) (p : Bytes) (l : List Share) (ops : List SsOp) :
    o.run hmac256 kdf (.recover p :: ops)
      = recoverWith hmac256 kdf o.id o.exponent o.groupThreshold o.groupCount o.shares p :: o.run hmac256 kdf ops ∧
    o.run hmac256 kdf (.setShares l :: ops) = ({ o with shares := l } : ShareSetObj).run hmac256 kdf ops :=
  ⟨rfl, rfl⟩

/-- a freshly constructed object answers as `ShareSet.recover` on its share list -/
theorem shareset_fresh (hmac256 : Bytes → Bytes → Bytes) (kdf : Bytes → Bytes → Nat → Nat → Bytes)
    (shares : List Share) (o : ShareSetObj) (h : ShareSetObj.new shares = some o) (p : Bytes) :
    o.run hmac256 kdf [.recover p] = [ShareSet.recover hmac256 kdf shares p] := by
  unfold ShareSetObj.new at h
  cases hn : ShareSet.new shares with
  | none => rw [hn] at h; cases h
  | some ss =>
    obtain ⟨hss, _, _⟩ := new_some _ _ hn
    subst hss
    rw [hn] at h
    cases ss with
    | nil => cases h
    | cons s0 r =>
      simp only [Option.some.injEq] at h
      subst h
      rfl

/-- the SLIP39 table: 1024 lower-case words, every stored key (word, four-letter prefix) unique -/
theorem slip39_table_facts :
    ∃ wl, SLIP39? = some wl ∧ wl.words.length = 1024 ∧ KeysUnique wl.words ∧
      ∀ w ∈ wl.words, IsWord w := by
  obtain ⟨wl, h⟩ := checkWL_some slip39_check
  have tok := tableOK_of_check slip39_check h
  exact ⟨wl, h, tok.hlen, tok.huniq, fun w hw => (tok.hlower w hw).1⟩

/-! ## RS1024 -/

/-- the checksum words of `rs1024_create_checksum` verify -/
theorem rs1024_create_verifies (cs : Bytes) (data : List Nat) (hd : ∀ v ∈ data, v < 1024) :
    rs1024Verify cs (data ++ rs1024Create cs data) = true :=
  verify_append_create cs data

/-- any single-word error is detected, at every length and position: if a sequence of word indices verifies,
    no sequence differing from it in exactly one position does -/
theorem rs1024_single_error (cs : Bytes) (pre post : List Nat) (a a' : Nat) (ha : a < 1024) (ha' : a' < 1024)
    (hne : a ≠ a') (hok : rs1024Verify cs (pre ++ a :: post) = true) :
    rs1024Verify cs (pre ++ a' :: post) = false :=
  verify_single_error cs pre post a a' (by omega) (by omega) hne hok

/-- at the level of `Share.parse`: replacing one word of a share mnemonic that parses by a word with another
    table index, or by an unknown word, gives REJECT -/
theorem share_single_word_error (slip39 : WordList) (hwl : SLIP39? = some slip39) (pre post : List PyStr)
    (w w' : PyStr) (sh : Share)
    (h : (lookupAll slip39 (pre ++ w :: post)).bind Share.ofIndices = some sh)
    (hne : slip39.lookup w' ≠ slip39.lookup w) :
    (lookupAll slip39 (pre ++ w' :: post)).bind Share.ofIndices = none :=
  parse_single_word_error slip39 (by rw [(tableOK_of_check slip39_check hwl).hlen]; decide) pre post w w' sh h hne

/-- two wrong words are detected whenever they are at most 63 positions apart — hence at every pair of
    positions of a 20- or 33-word share (26 / 39 values with the customization string).  Kernel computation
    `two_check`: for 1 ≤ g ≤ 63 no non-zero XOR combination of `L^g(2^j)`, j < 10, is below 1024. -/
theorem rs1024_two_errors_partial (cs : Bytes) (pre mid post : List Nat) (a a' b b' : Nat) (ha : a < 1024)
    (ha' : a' < 1024) (hb : b < 1024) (hb' : b' < 1024) (hna : a ≠ a') (hmid : mid.length + 1 ≤ 63)
    (hok : rs1024Verify cs (pre ++ a :: (mid ++ b :: post)) = true) :
    rs1024Verify cs (pre ++ a' :: (mid ++ b' :: post)) = false :=
  verify_false_of_polymod_ne cs pre _ _ hok fun p => polymod_two_errors p mid post a a' b b' ha ha' hb hb' hna hmid

/-- **up to three wrong words** — the first and the last at most 32 positions apart, i.e. every choice of
    positions in a 20- or 33-word share — are never accepted (`b = b'` / `c = c'` allowed: one and two wrong
    words are included).  Kernel certificate `three_check`: for all 1 ≤ g < s ≤ 32 the 20 high parts of
    `L^s(2^j)`, `L^g(2^j)` (j < 10) are linearly independent over GF(2) (stated through the inverse matrix a Gauss–Jordan
    elimination computes; the elimination is proved to invert independent rows, and the kernel checks independence). -/
theorem rs1024_three_errors_partial (cs : Bytes) (pre mid1 mid2 post : List Nat) (a a' b b' c c' : Nat)
    (ha : a < 1024) (ha' : a' < 1024) (hb : b < 1024) (hb' : b' < 1024) (hc : c < 1024) (hc' : c' < 1024)
    (hna : a ≠ a') (hspan : mid1.length + 1 + (mid2.length + 1) ≤ 32)
    (hok : rs1024Verify cs (pre ++ a :: (mid1 ++ b :: (mid2 ++ c :: post))) = true) :
    rs1024Verify cs (pre ++ a' :: (mid1 ++ b' :: (mid2 ++ c' :: post))) = false :=
  verify_false_of_polymod_ne cs pre _ _ hok fun p =>
    polymod_three_errors p mid1 mid2 post a a' b b' c c' ha ha' hb hb' hc hc' hna hspan

-- UNPROVED: two- and three-word errors in sequences LONGER than shares can be (three errors spanning more
--   than 33 positions, two errors more than 63 apart): the general minimum-distance-4 statement of the
--   Reed–Solomon code over GF(1024) for all lengths up to 1023.  Not needed for any share the code can
--   produce or parse as 20 / 33 words; the finite certificates above cover those completely.

/-! ## extracted constants the model's literals stand for -/

/-- the RS1024 generator and customization string are those of SLIP-0039 -/
theorem rs1024_is_slip39 :
    Gen.rs1024Gen = [0xE0E040, 0x1C1C080, 0x3838100, 0x7070200, 0xE0E0009, 0x1C0C2412, 0x38086C24, 0x3090FC48,
      0x21B1F890, 0x3F3F120] ∧ Gen.rsGenCount = 10 ∧ Gen.rsTopShift = 20 ∧ Gen.rsLowMask = 0xFFFFF ∧
    Gen.rsWordBits = 10 ∧ Gen.parseCustomization = [115, 104, 97, 109, 105, 114] :=
  ⟨rfl, rfl, rfl, rfl, rfl, rfl⟩

theorem layout_constants :
    Gen.shareParseInts = [0, 5, 1, 5, 1, 31, 2, 6, 2, 2, 15, 1, 2, 3, 2, 3, 8, 1, 3, 4, 15, 3, 15, 1, 0, 4, 3,
      10, 7, 10, 16, 16, 0, 128] ∧
    Gen.shareMnemonicInts = [5, 4, 4, 1, 4, 1, 4, 4, 1, 10, 10, 4, 10, 10, 1, 1023] ∧
    Gen.shareInitCmp = [("Lt", 0), ("Gt", 15), ("Lt", 1), ("Lt", 1), ("Gt", 16), ("Lt", 0), ("Gt", 15),
      ("Lt", 1), ("Gt", 16)] ∧
    Gen.rsCreateInts = [0, 0, 0, 1, 10, 2, 1023, 3] ∧ Gen.rsInit = 1 ∧ Gen.rsVerifyConst = 1 ∧
    Gen.setInitCmp = [("Gt", 1), ("NotEq", 1), ("NotEq", 1), ("NotEq", 1), ("NotEq", 1), ("NotEq", 1)] ∧
    Gen.recoverCmp = [("Eq", 0), ("NotEq", 1), ("Eq", 1), ("Eq", 1)] ∧
    Gen.splitCmp = [("Lt", 1), ("Gt", 16), ("Lt", 1), ("Eq", 1)] ∧
    Gen.splitInts = [1, 16, 1, 16, 32, 1, 0, 8, 4, 8, 2, 254, 255, 2] ∧
    Gen.interpolateInts = [0, 1, 255, 255, 0, 0] ∧ Gen.cryptInts = [2, 2, 2, 2500] ∧
    Gen.genSharesInts = [0, 8, 128, 256, 15, 0, 1] ∧ Gen.kdfHash = "sha256" ∧
    Gen.encryptRounds = [0, 1, 2, 3] ∧ Gen.decryptRounds = [3, 2, 1, 0] ∧
    Gen.recSecretX = Gen.splitSecretX ∧ Gen.recDigestX = Gen.splitDigestX ∧
    Gen.parseCustomization = Gen.mnemonicCustomization ∧ Gen.gfReduce = 0x11B ∧ rsGenOK = true :=
  ⟨rfl, rfl, rfl, rfl, rfl, rfl, rfl, rfl, rfl, rfl, rfl, rfl, rfl, rfl, rfl, rfl, rfl, rfl, rfl, rfl, by decide⟩

/-! ## non-vacuity -/

example : ∃ wl, SLIP39? = some wl := by
  obtain ⟨wl, h, _⟩ := slip39_table_facts; exact ⟨wl, h⟩

example : WF 255 [(0, [1, 2]), (1, [3, 4])] := ⟨by decide, by decide, by decide, by decide⟩

end Buidl.Props.C15
