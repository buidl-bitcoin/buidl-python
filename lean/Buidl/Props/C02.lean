/-
  C02 — BIP340 Schnorr: signatures equal the specification and verify exactly per spec.
  Models: Buidl.Model.Schnorr over Buidl.Model.EC (tags, comparison operators, read widths from
  Buidl.Gen.Schnorr, re-extracted from /repo on every run).  Specification: Buidl.Spec.BIP340.
  `sha256` is an arbitrary function.
-/
import Buidl.Proofs.SchnorrSign
namespace Buidl.Props.C02
open Buidl Buidl.EC Buidl.Schnorr

/-! ## tagged hashes: the cache is transparent -/

/-- For every history of `tagged_hash` calls starting from the empty TAG_HASH_CACHE, every result is
    `sha256(sha256(tag) ‖ sha256(tag) ‖ msg)` — whatever was cached in between. -/
theorem taggedHash_cache_transparent (sha256 : Bytes → Bytes) (calls : List (Bytes × Bytes)) :
    ∃ c, taggedHistory sha256 [] calls =
      some (calls.map (fun tm => Spec.BIP340.hashTag sha256 tm.1 tm.2), c) := by
  obtain ⟨c, h, _⟩ := taggedHistory_ok sha256 calls [] (cacheOK_nil sha256)
  exact ⟨c, h⟩

/-- The invariant behind it (every cached entry is `sha256 tag` doubled) is kept by every call, and
    under it a call never raises and returns the specification's tagged hash. -/
theorem taggedHash_invariant (sha256 : Bytes → Bytes) (c : Cache) (hc : CacheOK sha256 c) (tag msg : Bytes) :
    ∃ c', taggedHash sha256 c tag msg = some (Spec.BIP340.hashTag sha256 tag msg, c') ∧ CacheOK sha256 c' :=
  taggedHash_spec sha256 c hc tag msg

/-- the three tags are the BIP's -/
theorem tags : Gen.schnorrTagAux = Spec.BIP340.tagAux ∧ Gen.schnorrTagNonce = Spec.BIP340.tagNonce ∧
    Gen.schnorrTagChallenge = Spec.BIP340.tagChallenge := ⟨tagAux_eq, tagNonce_eq, tagChallenge_eq⟩

example : CacheOK (fun b => b) [([1], [1, 1])] := by
  intro tag v h
  simp only [cacheGet] at h
  split at h
  · next e => cases h; subst e; rfl
  · cases h

/-! ## the 64-byte codec -/

/-- what SchnorrSignature.parse accepts: at least 32 bytes, the first 32 an x-only encoding that lifts
    (or zero: the point at infinity, which verification then rejects), `s < n` -/
theorem parse_sound (b : Bytes) (R : Pt) (s : Nat) (h : parse b = some (R, s)) :
    32 ≤ b.length ∧ parseXonly (b.take 32) = some R ∧ s = beToNat ((b.drop 32).take 32) ∧ s < N :=
  parse_some b R s h

/-- parse then serialize reproduces the 64 bytes -/
theorem parse_serialize (b : Bytes) (hb : b.length = 64) (R : Pt) (s : Nat) (h : parse b = some (R, s)) :
    serialize R s = some b := by
  have := serialize_parse b (by omega) R s h
  rwa [List.take_of_length_le (by omega)] at this

/-- `s ≥ n` is rejected -/
theorem parse_rejects_s_ge_n (b : Bytes) (h : beToNat ((b.drop 32).take 32) ≥ N) : parse b = none :=
  parse_none_of b (Or.inr h)

/-- `r ≥ p` is rejected -/
theorem parse_rejects_r_ge_p (b : Bytes) (h : beToNat (b.take 32) ≥ P) : parse b = none :=
  parse_none_of b (Or.inl (parseXonly_x_ge_p _ h))

/-- an `r` that is not the x coordinate of a curve point is rejected -/
theorem parse_rejects_non_x (b : Bytes) (h0 : beToNat (b.take 32) ≠ 0)
    (hn : ∀ y, y < P → y * y % P ≠ (beToNat (b.take 32) ^ 3 + 7) % P) : parse b = none :=
  parse_none_of b (Or.inl (parseXonly_nonresidue _ h0 hn))

/-- `SchnorrSignature(r, s)` raises when `s ≥ n` -/
theorem mkSig_rejects (R : Pt) (s : Nat) (h : s ≥ N) : mkSig R s = none := by
  rw [mkSig_eq, if_pos h]

/-- serialize then parse: every finite curve point with even y (every R a signature can carry) and
    every `s < n` -/
theorem serialize_parse (x y s : Nat) (hv : Valid P A B (.aff x y)) (hy : y % 2 = 0) (hs : s < N) :
    ∃ b, serialize (.aff x y) s = some b ∧ b.length = 64 ∧ parse b = some (.aff x y, s) :=
  ⟨_, serialize_eq _ hs, by simp [Spec.BIP340.bytes32, xonly], parse_serialize_even x y s hv hy hs⟩

/-! ## lift_x (p ≡ 3 mod 4, Euler's criterion) -/

/-- `lift_x(x)` succeeds on every x coordinate of a curve point and returns the point with even y … -/
theorem liftX_complete (x y : Nat) (hv : Valid P A B (.aff x y)) :
    Spec.BIP340.liftX x = some (evenRep (.aff x y)) :=
  liftX_of_valid hv

/-- … and whatever it returns is a curve point with that x and even y (so it fails when `x³ + 7` is
    not a square, when `x ≥ p`, and at `x = 0`) -/
theorem liftX_sound (x : Nat) (Q : Pt) (h : Spec.BIP340.liftX x = some Q) :
    ∃ y, Q = .aff x y ∧ y % 2 = 0 ∧ Valid P A B (.aff x y) :=
  liftX_eq_some_iff.mp h

/-- the code's `parse_xonly` is `lift_x` on every non-zero 32-byte string (zero is read as infinity) -/
theorem parseXonly_is_liftX (b : Bytes) (h0 : beToNat b ≠ 0) : Spec.BIP340.liftX (beToNat b) = parseXonly b :=
  liftX_eq_parseXonly b h0

/-! ## verification is BIP340 verification (group law, square roots in F_p) -/

/-- For every 32-byte key, every message and every 64-byte signature, under every tag-cache state
    satisfying the invariant: `S256Point.parse(pk).verify_schnorr(msg, SchnorrSignature.parse(sig))`
    returns True exactly when the BIP340 verification algorithm succeeds; otherwise it returns False
    or raises.  (R = 0, R ≥ p, R not an x coordinate, s ≥ n, the key 0 or not on the curve, an odd or
    infinite `sG − eP` are all inside this statement.) -/
theorem verifySchnorr_eq_spec (sha256 : Bytes → Bytes) (c : Cache) (hc : CacheOK sha256 c)
    (pk m sig : Bytes) (hpk : pk.length = 32) (hsig : sig.length = 64) :
    (∃ c', verifyRaw sha256 c pk m sig = some (true, c')) ↔ Spec.BIP340.verify sha256 pk m sig = true :=
  verifyRaw_iff_spec sha256 c hc pk m sig hpk hsig

/-- The all-zero key.  The code's `parse_xonly` does not refuse 32 zero bytes — it returns the point at infinity
    (with which `s·G − e·P = s·G`, so `x(s·G) ‖ s` would "verify" for every message if the verification went on) —
    and is saved only by `verify_schnorr` raising on the point at infinity before anything else.  Proved: the model
    of exactly that behaviour never returns True for the zero key, for every message and every signature string,
    and BIP340 rejects it (`lift_x(0)` fails: 7 is not a square modulo p). -/
theorem verify_rejects_zero_key (sha256 : Bytes → Bytes) (c : Cache) (pk m sig : Bytes) (hpk : pk.length = 32)
    (h0 : beToNat pk = 0) :
    parsePoint pk = some .inf ∧ verifyRaw sha256 c pk m sig = none ∧ Spec.BIP340.verify sha256 pk m sig = false := by
  have hp : parsePoint pk = some .inf := by
    rw [parsePoint_of_length_32 hpk]; exact parseXonly_zero pk h0
  refine ⟨hp, ?_, ?_⟩
  · rw [verifyRaw, hp, some_bind_eq]
    cases parse sig with
    | none => rfl
    | some Rs => rfl
  · rw [spec_verify_unfold, h0, liftX_zero]

/-- more generally `verify_schnorr` with the point at infinity as key raises for every R, s and message -/
theorem verify_raises_on_infinite_key (sha256 : Bytes → Bytes) (c : Cache) (m : Bytes) (R : Pt) (s : Nat) :
    verifySchnorr sha256 c .inf m R s = none :=
  verifySchnorr_inf_key sha256 c m R s

/-! ## signing is BIP340 signing -/

/-- `aux = None` means 32 zero bytes -/
theorem signSchnorr_aux_default (sha256 : Bytes → Bytes) (c : Cache) (d : Nat) (m : Bytes) :
    signSchnorr sha256 c d m none = signSchnorr sha256 c d m (some (List.replicate 32 0)) := rfl

/-- For every secret in [1, n-1], every 32-byte message and aux, every cache state satisfying the
    invariant: `sign_schnorr(...).serialize()` is exactly the output of the BIP340 signing algorithm,
    failure included (that both fail only in the event `k' = 0` is `sign_verifies`). -/
theorem signSchnorr_eq_spec (sha256 : Bytes → Bytes) (c : Cache) (hc : CacheOK sha256 c) (d : Nat) (m a : Bytes)
    (hd1 : 1 ≤ d) (hd2 : d < N) (hm : m.length = 32) (ha : a.length = 32) :
    (signSchnorr sha256 c d m (some a)).bind (fun x => serialize x.1.1 x.1.2) = Spec.BIP340.sign sha256 d m a := by
  cases hPd : smul (d : ℤ) G with
  | inf => exact absurd hPd (smul_G_ne_inf hd1 hd2)
  | aff px py =>
    obtain ⟨k', hn, hk⟩ := spec_nonce_some sha256 m a hd1 hd2 hPd
    obtain ⟨c', -, h⟩ := signSchnorr_eq sha256 m a hd1 hd2 hPd hn hk c hc hm ha
    rw [h, spec_sign_eq sha256 m a hd1 hd2 hPd hn hk]
    cases smul (k' : ℤ) G with
    | inf => rfl
    | aff rx ry => exact (serialize_eq _ (sOf_lt ..)).trans (by rw [xonly_evenRep]; rfl)

/-- The self-verification inside sign_schnorr never raises, and the signature verifies under the x-only
    public key: whenever the BIP340 nonce `k'` is non-zero (explicit hypothesis for an event of
    probability ≈ 2⁻²⁵⁶), signing succeeds on both sides with the same 64 bytes, R has even y, and
    BIP340 verification of the result succeeds. -/
theorem sign_verifies (sha256 : Bytes → Bytes) (c : Cache) (hc : CacheOK sha256 c) (d : Nat) (m a : Bytes)
    (hd1 : 1 ≤ d) (hd2 : d < N) (hm : m.length = 32) (ha : a.length = 32)
    (hk : Spec.BIP340.nonce sha256 d m a ≠ some 0) :
    ∃ sig R s c', signSchnorr sha256 c d m (some a) = some ((R, s), c') ∧ CacheOK sha256 c' ∧
      serialize R s = some sig ∧ sig.length = 64 ∧ Spec.BIP340.sign sha256 d m a = some sig ∧
      Spec.BIP340.verify sha256 (xonly (smul (d : Int) G)) m sig = true := by
  cases hPd : smul (d : ℤ) G with
  | inf => exact absurd hPd (smul_G_ne_inf hd1 hd2)
  | aff px py =>
    obtain ⟨k', hn, hlt⟩ := spec_nonce_some sha256 m a hd1 hd2 hPd
    obtain ⟨c', hc', h⟩ := signSchnorr_eq sha256 m a hd1 hd2 hPd hn hlt c hc hm ha
    have hs := spec_sign_eq sha256 m a hd1 hd2 hPd hn hlt
    cases hR : smul (k' : ℤ) G with
    | inf => exact absurd hR (smul_G_ne_inf (Nat.one_le_iff_ne_zero.mpr fun h0 => hk (h0 ▸ hn)) hlt)
    | aff rx ry =>
      rw [hR] at h hs
      exact ⟨_, _, _, c', h, hc', (serialize_eq _ (sOf_lt ..)).trans (by rw [xonly_evenRep]; rfl),
        by simp [Spec.BIP340.bytes32], hs, spec_verify_sOf hd2 hlt hPd hR m⟩

/-- the nonce hypothesis is satisfiable (a constant "hash" returning the byte 01: k' = 1) -/
example : Spec.BIP340.nonce (fun _ => [1]) 1 [] [] = some 1 := by
  unfold Spec.BIP340.nonce
  decide +kernel

end Buidl.Props.C02
