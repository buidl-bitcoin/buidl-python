/-
  C07 (extension) — buidl/timelock.py as a whole (anchors timelock.py:14 Locktime, :55 Sequence).

  `Props/C07.lean` proves that OP_CHECKLOCKTIMEVERIFY / OP_CHECKSEQUENCEVERIFY equal consensus'
  CheckLockTime / CheckSequence; those theorems go through `Locktime()/Sequence()` construction,
  `is_comparable` and `__lt__`.  This file covers the rest of the two classes — the wire codec,
  the accessors and the named constructors that the tree constructors of C13 and the signing
  helpers use to *build* the values the interpreter later compares — and states, for every 32-bit
  value, that the object-level comparison means what BIP68 / BIP65 say it means.
-/
import Buidl.Proofs.Timelock
namespace Buidl.Props.C07Timelock
open Buidl Buidl.Timelock

/-! ## the operators and literals read from the source are the ones the proofs are about -/

/-- every comparison operator, threshold, divisor, shift and width of timelock.py that the model
    takes from `Buidl.Gen` has the value BIP65 / BIP68 / the wire format prescribe.  A point edit
    of any of them regenerates `Gen/Timelock.lean` and this theorem stops checking. -/
theorem timelock_source_constants :
    Gen.locktimeNewCmps = [("Lt", 0), ("Gt", 4294967295)] ∧
    Gen.sequenceNewCmps = [("Lt", 0), ("Gt", 4294967295)] ∧
    Gen.blockHeightCmps = [("Lt", 500000000)] ∧ Gen.mtpCmps = [("GtE", 500000000)] ∧
    Gen.locktimeComparableCmps =
      [("Lt", Gen.blockLimit), ("Lt", Gen.blockLimit), ("GtE", Gen.blockLimit), ("GtE", Gen.blockLimit)] ∧
    Gen.rbfCmps = [("Lt", 4294967295)] ∧ Gen.isMaxCmps = [("Eq", 4294967295)] ∧
    Gen.isRelativeCmps = [("Eq", 0)] ∧
    Gen.seqTimeDiv = 2 ^ Gen.seqTimeShift ∧ Gen.seqTimeShift = 9 ∧
    Gen.locktimeParseWidth = 4 ∧ Gen.sequenceParseWidth = 4 ∧
    Gen.locktimeSerializeWidth = 4 ∧ Gen.sequenceSerializeWidth = 4 := by
  decide

/-! ## constructors -/

/-- `Locktime(n)` succeeds exactly for 0 ≤ n ≤ 2^32 - 1 and then is `n` -/
theorem locktimeNew_iff (n : Int) (v : Nat) :
    locktimeNew n = some v ↔ 0 ≤ n ∧ n ≤ 4294967295 ∧ n = v := new_iff n v

/-- `Sequence(n)` succeeds exactly for 0 ≤ n ≤ 2^32 - 1 and then is `n` -/
theorem sequenceNew_iff (n : Int) (v : Nat) :
    sequenceNew n = some v ↔ 0 ≤ n ∧ n ≤ 4294967295 ∧ n = v := new_iff n v

/-! ## wire codec: exact inverses on every 32-bit value and on every stream -/

/-- serialising any constructed Locktime gives 4 bytes that parse back to it, leaving the rest of
    the stream untouched -/
theorem locktime_parse_serialize (n : Nat) (h : n ≤ 4294967295) (rest : Bytes) :
    ∃ b, locktimeSerialize n = some b ∧ b.length = 4 ∧ locktimeParse (b ++ rest) = some (n, rest) :=
  codec_ps locktimeNew (fun _ h => locktimeNew_nat h) n h rest

/-- parsing consumes exactly 4 bytes of any stream that has them, never refuses, and
    re-serialising the result reproduces those bytes -/
theorem locktime_serialize_parse (s : Bytes) (h : 4 ≤ s.length) :
    ∃ v, locktimeParse s = some (v, s.drop 4) ∧ v ≤ 4294967295 ∧ locktimeSerialize v = some (s.take 4) :=
  codec_sp locktimeNew (fun _ h => locktimeNew_nat h) s h

theorem sequence_parse_serialize (n : Nat) (h : n ≤ 4294967295) (rest : Bytes) :
    ∃ b, sequenceSerialize n = some b ∧ b.length = 4 ∧ sequenceParse (b ++ rest) = some (n, rest) :=
  codec_ps sequenceNew (fun _ h => sequenceNew_nat h) n h rest

theorem sequence_serialize_parse (s : Bytes) (h : 4 ≤ s.length) :
    ∃ v, sequenceParse s = some (v, s.drop 4) ∧ v ≤ 4294967295 ∧ sequenceSerialize v = some (s.take 4) :=
  codec_sp sequenceNew (fun _ h => sequenceNew_nat h) s h

/-! ## Locktime: height / time classification and comparison (BIP65) -/

/-- every locktime is a block height or a median-time-past, never both, never neither; the
    accessor returns the value itself; the threshold is consensus' LOCKTIME_THRESHOLD -/
theorem locktime_height_xor_mtp (n : Nat) :
    (blockHeight n = some n ∧ mtp n = none ∧ n < 500000000) ∨
    (blockHeight n = none ∧ mtp n = some n ∧ 500000000 ≤ n) := by
  rw [blockHeight_eq, mtp_eq]
  by_cases h : n < 500000000
  · exact Or.inl ⟨if_pos h, if_neg (by omega), h⟩
  · exact Or.inr ⟨if_neg h, if_pos (by omega), by omega⟩

/-- two locktimes are comparable exactly when they are of the same kind -/
theorem locktime_comparable_iff (a b : Nat) :
    locktimeComparable a b = true ↔ ((blockHeight a).isSome ↔ (blockHeight b).isSome) := by
  rw [locktimeComparable_iff, blockHeight_isSome, blockHeight_isSome]

/-- comparability is an equivalence relation, so "comparable" partitions the locktimes -/
theorem locktime_comparable_equiv :
    (∀ a, locktimeComparable a a = true) ∧
    (∀ a b, locktimeComparable a b = true → locktimeComparable b a = true) ∧
    (∀ a b c, locktimeComparable a b = true → locktimeComparable b c = true → locktimeComparable a c = true) :=
  ⟨fun a => (locktimeComparable_iff a a).2 Iff.rfl,
   fun a b h => (locktimeComparable_iff b a).2 ((locktimeComparable_iff a b).1 h).symm,
   fun a b c h1 h2 => (locktimeComparable_iff a c).2
     (((locktimeComparable_iff a b).1 h1).trans ((locktimeComparable_iff b c).1 h2))⟩

/-- `a < b` on Locktime objects raises exactly for a height against a time and otherwise is the
    comparison of the values, hence of the heights / times they denote -/
theorem locktime_lt_spec (a b : Nat) :
    (locktimeLt a b = none ↔ locktimeComparable a b = false) ∧
    (∀ r, locktimeLt a b = some r → (r = true ↔ a < b)) := by
  unfold locktimeLt
  cases locktimeComparable a b <;> simp

/-! ## Sequence: BIP68 decoding -/

/-- every 32-bit sequence is exactly one of: relative lock disabled (bit 31), a block count, a
    time span; `relative_blocks` / `relative_time` are defined in exactly the matching case and
    decode the low 16 bits as BIP68 prescribes (blocks; units of 512 seconds) -/
theorem sequence_kinds (x : Nat) :
    (isRelative x = false ∧ relativeBlocks x = none ∧ relativeTime x = none ∧ x / 2147483648 % 2 = 1) ∨
    (isRelativeBlock x = true ∧ isRelativeTime x = false ∧ relativeBlocks x = some (x % 65536) ∧
      relativeTime x = none ∧ x / 2147483648 % 2 = 0 ∧ x / 4194304 % 2 = 0) ∨
    (isRelativeTime x = true ∧ isRelativeBlock x = false ∧ relativeBlocks x = none ∧
      relativeTime x = some (512 * (x % 65536)) ∧ x / 2147483648 % 2 = 0 ∧ x / 4194304 % 2 = 1) := by
  rw [isRelative_eq, isRelativeBlock_eq, isRelativeTime_eq, relativeBlocks_eq, relativeTime_eq]
  rcases Nat.mod_two_eq_zero_or_one (x / 2147483648) with a | a <;>
    rcases Nat.mod_two_eq_zero_or_one (x / 4194304) with b | b <;> simp [a, b]

/-- `Sequence.from_relative_blocks(n)` for every BIP68 block count (n < 2^16) is a sequence whose
    `relative_blocks()` is `n`, is not a time lock, is replaceable and not final -/
theorem from_relative_blocks_roundtrip (n : Nat) (h : n < 65536) :
    ∃ v, fromRelativeBlocks n = some v ∧ relativeBlocks v = some n ∧ relativeTime v = none ∧
      isRbfAble v = true ∧ isMax v = false :=
  Timelock.from_relative_blocks_roundtrip' n h

/-- `Sequence.from_relative_time(s)` for every BIP68 time span (0 ≤ s < 2^25 seconds) is a
    sequence whose `relative_time()` is `s` rounded down to the 512-second granularity -/
theorem from_relative_time_roundtrip (s : Nat) (h : s < 33554432) :
    ∃ v, fromRelativeTime s = some v ∧ relativeTime v = some (512 * (s / 512)) ∧ relativeBlocks v = none ∧
      512 * (s / 512) ≤ s ∧ s < 512 * (s / 512) + 512 ∧ isRbfAble v = true :=
  Timelock.from_relative_time_roundtrip' s h

/-- negative arguments are refused by both named constructors (Python's `flag | negative` is
    negative) -/
theorem from_relative_negative (n : Int) (h : n < 0) :
    fromRelativeBlocks n = none ∧ fromRelativeTime n = none :=
  Timelock.from_relative_negative' n h

/-- O07g (observation, outside the statement): the named constructors do not range-check
    their argument against BIP68's 16 bits, so 65536 blocks silently become a zero-block lock
    and 2^25 seconds a zero-second lock. -/
theorem O07g_witness :
    (∃ v, fromRelativeBlocks 65536 = some v ∧ relativeBlocks v = some 0) ∧
    (∃ v, fromRelativeTime 33554432 = some v ∧ relativeTime v = some 0) := by
  decide

/-- `is_rbf_able` is the negation of `is_max` on every constructed sequence, and `is_max` is
    `0xffffffff` -/
theorem rbf_iff_not_max (x : Nat) (h : x ≤ 4294967295) :
    isRbfAble x = !isMax x ∧ (isMax x = true ↔ x = 4294967295) := by
  rw [isRbfAble_eq, isMax_eq]
  by_cases e : x = 4294967295
  · simp [e]
  · simp [e, show x < 4294967295 by omega]

/-- comparability of sequences is "same kind of relative lock" (a partial equivalence: a
    sequence with the disable flag is comparable to nothing, not even itself) -/
theorem sequence_comparable_iff (a b : Nat) :
    sequenceComparable a b = true ↔
      ((relativeBlocks a).isSome ∧ (relativeBlocks b).isSome) ∨ ((relativeTime a).isSome ∧ (relativeTime b).isSome) := by
  show ((isRelativeBlock a && isRelativeBlock b) || (isRelativeTime a && isRelativeTime b)) = true ↔ _
  simp only [relativeBlocks, relativeTime]
  cases isRelativeBlock a <;> cases isRelativeBlock b <;> cases isRelativeTime a <;> cases isRelativeTime b <;> simp

theorem sequence_comparable_per :
    (∀ a b, sequenceComparable a b = true → sequenceComparable b a = true) ∧
    (∀ a b c, sequenceComparable a b = true → sequenceComparable b c = true → sequenceComparable a c = true) ∧
    (∀ a, sequenceComparable a a = isRelative a) := by
  refine ⟨fun a b h => ?_, fun a b c h1 h2 => ?_, fun a => ?_⟩
  · rw [sequenceComparable_iff] at h ⊢
    exact ⟨h.2.1, h.1, h.2.2.symm⟩
  · rw [sequenceComparable_iff] at h1 h2 ⊢
    exact ⟨h1.1, h2.2.1, h1.2.2.trans h2.2.2⟩
  · rw [Bool.eq_iff_iff, sequenceComparable_iff, isRelative_eq, decide_eq_true_eq]
    exact ⟨fun h => h.1, fun h => ⟨h, h, rfl⟩⟩

/-- `a < b` on Sequence objects raises exactly when the kinds differ (or a disable flag is set)
    and otherwise compares what the two sequences *mean*: block counts with block counts,
    seconds with seconds — the unmasked upper bits never influence the answer -/
theorem sequence_lt_spec (a b : Nat) :
    (sequenceLt a b = none ↔ sequenceComparable a b = false) ∧
    (∀ r na nb, sequenceLt a b = some r → relativeBlocks a = some na → relativeBlocks b = some nb →
        (r = true ↔ na < nb)) ∧
    (∀ r ta tb, sequenceLt a b = some r → relativeTime a = some ta → relativeTime b = some tb →
        (r = true ↔ ta < tb)) := by
  refine ⟨?_, fun r na nb hr ha hb => ?_, fun r ta tb hr ha hb => ?_⟩
  · unfold sequenceLt; cases sequenceComparable a b <;> simp
  · rw [sequenceLt_some hr, relativeBlocks_some ha, relativeBlocks_some hb]
  · rw [sequenceLt_some hr, relativeTime_some ha, relativeTime_some hb]
    omega

/-! ## non-vacuity -/

example : locktimeNew 499999999 = some 499999999 ∧ blockHeight 499999999 = some 499999999 := by decide
example : locktimeLt 499999999 500000000 = none ∧ locktimeLt 1 2 = some true := by decide
example : fromRelativeTime 1024 = some 4194306 ∧ relativeTime 4194306 = some 1024 := by decide
example : sequenceLt 4194306 5 = none ∧ sequenceLt 4194306 4194307 = some true ∧
    sequenceLt (65536 + 7) 9 = some true := by decide
example : locktimeParse [1, 0, 0, 0, 9] = some (1, [9]) := by decide

end Buidl.Props.C07Timelock
