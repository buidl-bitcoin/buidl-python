/-
  C13 (composition) — "in every generated k-of-n tree each k-subset owns exactly one leaf, and a spend of that
  leaf signed by that subset verifies."

  Three models meet here: the k-of-n trees of TapRootMultiSig (Buidl.Model.MuSig, C13), the control blocks and
  the output key of the taproot builder (Buidl.Model.Taproot, C12) and the script interpreter with
  Tx.verify_input (Buidl.Model.Interp, C06/C07).  The interpreter's two taproot oracles (`cbErr`: does
  ControlBlock.parse raise; `tapCommit`: control_block.external_pubkey(tap_script) as x-only key and parity
  match) are instantiated with the taproot model — `TapOracles H env`; `tapEnv H base` and
  `realEnv (tapEnv H base) zOf msgOf c` (Buidl.Proofs.Compose: real signature oracles as well) satisfy it —
  and `tapCommitReal_iff_cbAccepts` identifies the instantiated oracle with the builder's commitment test.

  Glue hypotheses of the spend theorems: no timelock prefix (`lock = seq = none`); the tagged hashes are
  32 bytes long; the internal key is `a·G ≠ ∞`; the control block is the one `control_block` returns for the leaf
  and, in the two generated trees, has at most 128 sibling hashes (BIP341's depth limit = the length limit of
  ControlBlock.parse; `control_block_depth_bound` derives it from C(n, k) ≤ 2^128; the single leaf has depth 0).
  For `musig_tree` the points are pairwise different; for `multi_leaf_tree` so are their x-only keys (what makes
  the leaf of a subset the only one: `subset_owns_one_leaf`, which `subset_spend` cites); `single_leaf` asks neither.
  `Cfg.repaired` is the code after the C06/C07 patches (= /repo today).
-/
import Buidl.Proofs.Compose
import Buidl.Proofs.ComposeTap

namespace Buidl.Props.C13Compose
open Buidl Buidl.EC Buidl.Script Buidl.MuSig Buidl.Interp Buidl.Compose Buidl.ComposeTap
open Buidl.Taproot (Hashes Leaf Tree ControlBlock cbAccepts)

/-! ## every k-subset owns exactly one leaf of the multi-leaf tree -/

/-- **each k-subset owns exactly one leaf.**  `T.points` with pairwise different x-only keys, `S` any
    duplicate-free `k`-element sub-list of it, in any order: `MultiSigTapScript(S, k)` exists, the leaf
    carrying its commands is a leaf of `multi_leaf_tree`, it occurs there exactly once, and the
    combinations that produce this script are the rearrangements of `S` (one of them, by
    `C13.combinations_bijection`).  All leaves of the tree are built from commands (no `raw` override). -/
theorem subset_owns_one_leaf {T : TapRootMultiSig} {lock seq : Option Nat} {t : Tree}
    (ht : multiLeafTree T lock seq = some t) (hnd : (T.points.map xonly).Nodup)
    {S : List Pt} (hS : S.Nodup) (hsub : ∀ p ∈ S, p ∈ T.points) (hlen : S.length = T.k) :
    ∃ c, multiSigCmds S T.k lock seq = some c ∧ ({ script := { cmds := c } } : Leaf) ∈ t.leaves ∧
      t.leaves.count { script := { cmds := c } } = 1 ∧
      (∀ S' ∈ combinations T.points T.k, multiSigCmds S' T.k lock seq = some c → S'.Perm S) ∧
      ∀ l ∈ t.leaves, l.script.raw = none := by
  obtain ⟨cs, hfa, hleaves, _⟩ := Props.C13.multi_leaf_tree_leaves ht
  have hpn : T.points.Nodup := List.Nodup.of_map _ hnd
  obtain ⟨c0, hc0, hperm, _⟩ := Props.C13.combinations_bijection hpn hS hsub hlen
  obtain ⟨c, hc, hR⟩ := forall₂_some_mem hfa hc0
  have hRS : multiSigCmds S T.k lock seq = some c := by
    rw [← Props.C13.multisig_script_perm hperm]; exact hR
  have hinj : ∀ a ∈ combinations T.points T.k, ∀ a' ∈ combinations T.points T.k,
      multiSigCmds a T.k lock seq = multiSigCmds a' T.k lock seq → a = a' := fun a ha a' ha' e => by
    obtain ⟨b, _, hb⟩ := forall₂_some_mem hfa ha
    exact Props.C13.multisig_leaf_injective hnd ha ha' hb (e ▸ hb)
  have hcsnd : cs.Nodup :=
    List.Nodup.of_map some (forall₂_some_iff.mp hfa ▸ (Props.C13.combinations_no_repeat _ _ hpn).map_on hinj)
  have hmkinj : Function.Injective (fun c : List Cmd => ({ script := { cmds := c } } : Leaf)) := by
    intro a b h; simpa using h
  have hmem : ({ script := { cmds := c } } : Leaf) ∈ t.leaves := by
    rw [hleaves]; exact List.mem_map.mpr ⟨c, hc, rfl⟩
  refine ⟨c, hRS, hmem, ?_, ?_, ?_⟩
  · exact List.count_eq_one_of_mem (by rw [hleaves]; exact hcsnd.map hmkinj) hmem
  · intro S' hS' h'
    rw [hinj S' hS' c0 hc0 (h'.trans hR.symm)]; exact hperm
  · intro l hl
    rw [hleaves] at hl
    obtain ⟨c', _, rfl⟩ := List.mem_map.mp hl
    rfl

/-- **the leaf's script is the k-of-k MultiSigTapScript of `S`**: over the sorted x-only keys `x0 :: rest` of
    `S` it is `<x0> CHECKSIG` for a lone key and `<x0> CHECKSIG <x1> CHECKSIGADD … <k> EQUAL` otherwise; the
    keys are 32 bytes long, there are `k` of them, and the script asks for `k` valid signatures -/
theorem subset_leaf_script {S : List Pt} {k : Nat} {c : List Cmd} (h : multiSigCmds S k none none = some c)
    (hlen : S.length = k) :
    ∃ x0 rest, sortBytes (S.map xonly) = x0 :: rest ∧ (x0 :: rest).length = k ∧
      (∀ x ∈ x0 :: rest, x.length = 32) ∧ (rest ≠ [] → 1 ≤ k ∧ k ≤ 16) ∧
      c = leafScript x0 rest k ∧ leafThreshold rest k = (x0 :: rest).length := by
  have hk : 1 ≤ k := by
    cases S with
    | nil => simp [multiSigCmds, Taproot.timelockCmds, sortBytes] at h
    | cons p ps => simp at hlen; omega
  obtain ⟨x0, rest, hs, hl, h32, hk16, hc⟩ := multiSigCmds_shape h hk
  have hkl : (x0 :: rest).length = k := by rw [List.length_cons, hl, hlen]
  refine ⟨x0, rest, hs, hkl, h32, fun hr => ⟨hk, hk16 hr⟩, hc, ?_⟩
  unfold leafThreshold
  split
  · rename_i hr; rw [hr]; rfl
  · exact hkl.symm

/-! ## spending the leaf of a k-subset -/

/-- **a spend of the subset's leaf signed by that subset verifies — and only then.**  Setting of
    `subset_owns_one_leaf` (no timelock), internal key `a·G ≠ ∞`, 32-byte tagged hashes, an environment with
    the real taproot oracles.  For the leaf of `S` (script `c`, sorted x-only keys `x0 :: rest`) and the control
    block `cb` that `multi_leaf_tree.control_block(a·G, leaf)` returns (depth ≤ 128), `LeafSpend`: the output
    key, the script bytes and the block bytes exist and pass the builder's commitment test (that is what the
    `tapCommit` oracle of the interpreter is instantiated with); the witness `[sig of the last key, …, sig of x0,
    script, control block]` — every key of `S` signed — makes `verifyInput` accept; and every accepted input
    whose witness ends in this script and block has one valid signature for each of the `k` keys on top. -/
theorem subset_spend (H : Hashes) (hL : ∀ m, (H.tapLeaf m).length = 32) (hB : ∀ m, (H.tapBranch m).length = 32)
    (env : Env) (horacle : TapOracles H env) {T : TapRootMultiSig} {t : Tree}
    (ht : multiLeafTree T none none = some t) (hnd : (T.points.map xonly).Nodup)
    {S : List Pt} (hS : S.Nodup) (hsub : ∀ p ∈ S, p ∈ T.points) (hlen : S.length = T.k)
    (a : Int) (ha : smul a G ≠ .inf) :
    ∃ c x0 rest, multiSigCmds S T.k none none = some c ∧ ({ script := { cmds := c } } : Leaf) ∈ t.leaves ∧
      sortBytes (S.map xonly) = x0 :: rest ∧ c = leafScript x0 rest T.k ∧
      ∀ cb, t.controlBlock H (smul a G) (some { script := { cmds := c } }) = some cb → cb.hashes.length ≤ 128 →
        LeafSpend H env t a c cb (fun sigs fuel => AllSigned env (x0 :: rest) sigs ∧ 3 * T.k + 4 ≤ fuel)
          (AllSigned env (x0 :: rest)) := by
  obtain ⟨c, hc, hmem, _, _, hraw⟩ := subset_owns_one_leaf ht hnd hS hsub hlen
  obtain ⟨x0, rest, hsort, hkl, h32, hk, hcs, hthr⟩ := subset_leaf_script hc hlen
  refine ⟨c, x0, rest, hc, hmem, hsort, hcs, fun cb hcb hdepth => ?_⟩
  subst hcs
  rw [List.length_cons] at hkl hthr
  have hn : rest.length ≤ 2 ^ 32 := by
    by_cases hr : rest = []
    · rw [hr]; exact Nat.zero_le _
    · have := (hk hr).2; omega
  exact (tree_leaf_spend_all ⟨hL, hB, horacle, hraw, ha, h32, hk, hn, hcb, hdepth⟩ hthr).imp
    (fun sigs fuel h => ⟨h.1, by omega⟩) (fun _ h => h)

/-! ## the MuSig tree: one aggregate-key leaf per k-subset -/

/-- **each k-subset owns a leaf of `musig_tree`**: the MuSigTapScript of `S` exists, its script is the
    single-key leaf `<xonly aggregate key> CHECKSIG`, and that leaf is in the tree; every leaf of the tree is
    built from commands -/
theorem musig_subset_owns_leaf {H : Hashes} {T : TapRootMultiSig} {t : Tree}
    (ht : musigTree H T none none = some t) (hnd : T.points.Nodup)
    {S : List Pt} (hS : S.Nodup) (hsub : ∀ p ∈ S, p ∈ T.points) (hlen : S.length = T.k) :
    ∃ M, musigNew H S none none = some M ∧ M.cmds = leafScript (xonly M.point) [] 0 ∧
      ({ script := { cmds := M.cmds } } : Leaf) ∈ t.leaves ∧ ∀ l ∈ t.leaves, l.script.raw = none := by
  obtain ⟨Ms, hfa, hleaves, _⟩ := Props.C13.musig_tree_leaves ht
  obtain ⟨c0, hc0, hperm, _⟩ := Props.C13.combinations_bijection hnd hS hsub hlen
  obtain ⟨M, hM, hR⟩ := forall₂_some_mem hfa hc0
  have hRS : musigNew H S none none = some M := by
    rw [← Props.C13.aggregate_key_perm H hperm]; exact hR
  refine ⟨M, hRS, musigNew_shape hRS, ?_, ?_⟩
  · rw [hleaves]; exact List.mem_map.mpr ⟨M, hM, rfl⟩
  · intro l hl
    rw [hleaves] at hl
    obtain ⟨M', _, rfl⟩ := List.mem_map.mp hl
    rfl

/-- **a spend of the subset's MuSig leaf verifies exactly with a valid signature for the aggregate key.**
    As `subset_spend`, for `musig_tree`; the only key of the leaf is the x-only aggregate key of `S`. -/
theorem musig_subset_spend (H : Hashes) (hL : ∀ m, (H.tapLeaf m).length = 32) (hB : ∀ m, (H.tapBranch m).length = 32)
    (env : Env) (horacle : TapOracles H env) {T : TapRootMultiSig} {t : Tree}
    (ht : musigTree H T none none = some t) (hnd : T.points.Nodup)
    {S : List Pt} (hS : S.Nodup) (hsub : ∀ p ∈ S, p ∈ T.points) (hlen : S.length = T.k)
    (a : Int) (ha : smul a G ≠ .inf) :
    ∃ M, musigNew H S none none = some M ∧ ({ script := { cmds := M.cmds } } : Leaf) ∈ t.leaves ∧
      M.cmds = [.push (xonly M.point), .op 0xAC] ∧
      ∀ cb, t.controlBlock H (smul a G) (some { script := { cmds := M.cmds } }) = some cb → cb.hashes.length ≤ 128 →
        LeafSpend H env t a M.cmds cb (fun sigs fuel => AllSigned env [xonly M.point] sigs ∧ 7 ≤ fuel)
          (AllSigned env [xonly M.point]) := by
  obtain ⟨M, hM, hshape, hmem, hraw⟩ := musig_subset_owns_leaf ht hnd hS hsub hlen
  refine ⟨M, hM, hmem, by rw [hshape]; rfl, fun cb hcb hdepth => ?_⟩
  rw [hshape] at hcb ⊢
  exact tree_leaf_spend_all (k := 0) ⟨hL, hB, horacle, hraw, ha,
    fun x hx => List.mem_singleton.mp hx ▸ EC.xonly_length _, fun h => absurd rfl h, Nat.zero_le _, hcb,
    hdepth⟩ rfl

/-- **end to end for the MuSig tree: a session of the subset's participants spends the subset's leaf.**
    Real oracles throughout (`realEnv (tapEnv H base) …`, tagged hashes over `base.sha256` with 32-byte
    digests, tag cache `c` valid).  Participants `(d, k₁, k₂)` whose keys `d·G` are a `k`-subset of the points
    of the tree run a session on the digest of hash type 0 (`msgOf 0`), signing for the leaf (no merkle root):
    by `C13.get_signature_bip340` the aggregated signature exists, serialises to 64 bytes and is a BIP340
    signature for the x-only aggregate key — and the witness `[signature, script, control block]` makes
    `verifyInput` accept the output of the tree. -/
theorem musig_session_spend (base : Env) (hsha : ∀ m, (base.sha256 m).length = 32)
    (zOf : Nat → Option Nat) (msgOf : Nat → Option Bytes) (c : Schnorr.Cache)
    (hc : Schnorr.CacheOK base.sha256 c) {T : TapRootMultiSig} {t : Tree}
    (ht : musigTree (Hashes.ofSha256 base.sha256) T none none = some t) (hnd : T.points.Nodup)
    (parts : List (ℕ × ℕ × ℕ)) (hd : ∀ p ∈ parts, 1 ≤ p.1 ∧ p.1 < N) (hne : parts ≠ [])
    (hS : (parts.map (fun p => g (p.1 : ℤ))).Nodup)
    (hsub : ∀ p ∈ parts.map (fun p => g (p.1 : ℤ)), p ∈ T.points) (hlen : parts.length = T.k)
    (sigHash : Bytes) (hmsg : msgOf 0 = some sigHash)
    {sums : Pt × Pt} (hs : nonceSums (parts.map (fun p => (generateNonces p.2.1 p.2.2).2)) = some sums)
    (a : Int) (ha : smul a G ≠ .inf) :
    ∃ M, musigNew (Hashes.ofSha256 base.sha256) (parts.map (fun p => g (p.1 : ℤ))) none none = some M ∧
      ({ script := { cmds := M.cmds } } : Leaf) ∈ t.leaves ∧
      ∀ R, computeR (Hashes.ofSha256 base.sha256) M sums sigHash = some R →
      ∀ ss, List.Forall₂ (fun (p : ℕ × ℕ × ℕ) (s : ℕ) =>
          ∃ k, computeK (Hashes.ofSha256 base.sha256) M (p.2.1, p.2.2) sums sigHash = some k ∧
            sign (Hashes.ofSha256 base.sha256) M p.1 k R sigHash [] = some s) parts ss →
      ∃ sig b, getSignature (Hashes.ofSha256 base.sha256) M (ss.map (fun (s : ℕ) => (s : ℤ))).sum R sigHash []
          = some sig ∧ sigSerialize sig = some b ∧
        Spec.BIP340.verify base.sha256 (xonly M.point) sigHash b = true ∧
        ∀ cb, t.controlBlock (Hashes.ofSha256 base.sha256) (smul a G) (some { script := { cmds := M.cmds } }) = some cb →
          cb.hashes.length ≤ 128 →
          ∃ Q rawTap cbBytes, t.externalPubkey (Hashes.ofSha256 base.sha256) (smul a G) = some Q ∧
            serCmds M.cmds = some rawTap ∧ cb.serialize = some cbBytes ∧
            ∀ fuel, 7 ≤ fuel →
              verifyInput Cfg.repaired (realEnv (tapEnv (Hashes.ofSha256 base.sha256) base) zOf msgOf c) []
                (p2trSpk (xonly Q)) ([b] ++ [rawTap, cbBytes]) fuel = .accept := by
  obtain ⟨M, hM, hmem, _, hspend⟩ := musig_subset_spend (Hashes.ofSha256 base.sha256) (fun _ => hsha _)
    (fun _ => hsha _)
    (realEnv (tapEnv (Hashes.ofSha256 base.sha256) base) zOf msgOf c) ⟨rfl, rfl⟩
    ht hnd hS hsub (by simpa using hlen) a ha
  refine ⟨M, hM, hmem, ?_⟩
  intro R hR ss hss
  obtain ⟨ext, sig, b, hext, hget, hser, hbl, hver⟩ :=
    Props.C13.get_signature_bip340 base.sha256 parts sigHash [] none none hd hne hM hs hR hss
  have hM' : musigNew (Hashes.ofSha256 base.sha256) ((parts.map (fun p => p.1)).map (fun (d : ℕ) => g (d : ℤ)))
      none none = some M := by rw [List.map_map]; exact hM
  obtain ⟨q, _, hq, _⟩ := Props.C13.aggregate_key_formula (Hashes.ofSha256 base.sha256) (parts.map (fun p => p.1))
    (by intro d hd'; obtain ⟨p, hp, rfl⟩ := List.mem_map.mp hd'; exact hd p hp) hM'
  have hx : xonly ext = xonly M.point := externalKey_nil_xonly hq hext
  rw [hx] at hver
  refine ⟨sig, b, hget, hser, hver, fun cb hcb hdepth => ?_⟩
  obtain ⟨Q, rawTap, cbBytes, hQ, hraw, hcbs, _, hcomp, _⟩ := hspend cb hcb hdepth
  exact ⟨Q, rawTap, cbBytes, hQ, hraw, hcbs, fun fuel hf => hcomp [b] fuel
    ⟨.cons ((schnorrCheck_of_bip340 (tapEnv (Hashes.ofSha256 base.sha256) base) zOf msgOf c hc (xonly M.point) sigHash
      b (EC.xonly_length _) hbl hver).1 hmsg) .nil, hf⟩⟩

/-! ## the single k-of-n leaf -/

/-- **`single_leaf`: the one-leaf tree with the k-of-n script verifies exactly with k valid signatures.**
    The witness carries one element per key (sorted x-only order, reversed on the wire; an empty element for a
    key that does not sign): it is accepted when every element can be checked and exactly `k` verify, and an
    accepted input has `n` such elements on top. -/
theorem single_leaf_spend (H : Hashes) (hL : ∀ m, (H.tapLeaf m).length = 32) (hB : ∀ m, (H.tapBranch m).length = 32)
    (env : Env) (horacle : TapOracles H env) {T : TapRootMultiSig} {t : Tree}
    (ht : singleLeaf T none none = some t) (hk : 1 ≤ T.k) (hn : T.points.length ≤ 2 ^ 32)
    (a : Int) (ha : smul a G ≠ .inf) :
    ∃ c x0 rest, multiSigCmds T.points T.k none none = some c ∧ t = .leaf { script := { cmds := c } } ∧
      sortBytes (T.points.map xonly) = x0 :: rest ∧ c = leafScript x0 rest T.k ∧
      ∀ cb, t.controlBlock H (smul a G) (some { script := { cmds := c } }) = some cb →
        LeafSpend H env t a c cb
          (fun sigs fuel => ChecksOK env (x0 :: rest) sigs ∧
            countValid env (x0 :: rest) sigs = leafThreshold rest T.k ∧ sigs.length + 2 * rest.length + 6 ≤ fuel)
          (fun sigs => ChecksOK env (x0 :: rest) sigs ∧ countValid env (x0 :: rest) sigs = leafThreshold rest T.k) := by
  obtain ⟨c, hc, ht⟩ := Option.bind_eq_some_iff.mp ht
  cases ht
  obtain ⟨x0, rest, hsort, hl, h32, hk16, hcs⟩ := multiSigCmds_shape hc hk
  refine ⟨c, x0, rest, hc, rfl, hsort, hcs, fun cb hcb => ?_⟩
  subst hcs
  exact tree_leaf_spend ⟨hL, hB, horacle, fun l hl => List.mem_singleton.mp hl ▸ rfl, ha, h32,
    fun hr => ⟨hk, hk16 hr⟩, by omega, hcb, Nat.le_trans (Taproot.controlBlock_depth H hcb) (Nat.zero_le 128)⟩

/-! ## the depth hypothesis -/

/-- **the depth hypothesis of the spend theorems holds whenever the tree has at most 2^128 leaves**:
    `TapBranch.combine` halves the list of the `C(n, k)` leaves, so `C(n, k) ≤ 2^128` bounds every control block
    of `multi_leaf_tree` / `musig_tree` by 128 sibling hashes -/
theorem control_block_depth_bound {H : Hashes} {T : TapRootMultiSig} {lock seq : Option Nat} {t : Tree}
    (h : multiLeafTree T lock seq = some t ∨ musigTree H T lock seq = some t)
    (hc : Nat.choose T.points.length T.k ≤ 2 ^ 128) {P : Pt} {x : Leaf} {cb : ControlBlock}
    (hcb : t.controlBlock H P (some x) = some cb) : cb.hashes.length ≤ 128 :=
  Nat.le_trans (Taproot.controlBlock_depth H hcb) (generated_tree_depth h hc)

end Buidl.Props.C13Compose
