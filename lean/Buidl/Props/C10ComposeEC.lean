/-
  C10 ∘ C06 ∘ C01/C03 — m-of-n multisig, end to end with REAL signatures: completeness of input
  verification for the ScriptSig / witness that `PSBTIn.finalize` builds from library-made partial
  signatures, and the PSBT workflow theorems of Props/C10Compose with their signature hypotheses
  (`SigsValid`, `env.pkErr k = none`) discharged.

  Setting: `pks` are the script keys `sec(d_i·G)` (`LibKey`: SEC encoding, compressed or not, of the public key
  of a secret in [1, n−1]); `sigs` is the partial-signature map of the input (key ↦ element); `LibSigned zOf sigs`:
  every stored element is `PrivateKey(d).sign(z).der() ‖ hashtype` with `zOf hashtype = some z`, stored under
  `sec(d·G)`, with the hypotheses of C01's `verify_sign` (`r < n`, `s ≠ 0`) per signature.  Any subset of the keys
  may have signed; `(pks.filterMap (dget sigs))` are the signatures present, in script order, and the first `m`
  of them are what `finalize` emits.  The environment is `Compose.realEnv` (the interpreter's oracles are the
  real `S256Point.parse` / `Signature.parse` / `S256Point.verify`); `zOf` is the digest function (C05).
-/
import Buidl.Proofs.Compose
import Buidl.Props.C10Compose
namespace Buidl.Props.C10ComposeEC
open Buidl Buidl.EC Buidl.Script Buidl.Interp Buidl.Compose Buidl.ComposePsbt Buidl.ComposeEC
open Buidl.Psbt (Dict dget scriptSigs scriptKeys PIn TxInV TxCodec finalizeIn WitnessBranch P2shBranch)

attribute [local irreducible] pmul

variable (base : Env) (zOf : Nat → Option Nat) (msgOf : Nat → Option Bytes) (c : Schnorr.Cache)

/-! ## library-made signatures are valid partial signatures -/

/-- `sign` → stored element: for every signature `PrivateKey(d).sign(z)` returns (with `r < n`, `s ≠ 0`), every
    hash-type byte whose digest is `z`, and either SEC format: key and element exist, the key is a `LibKey`,
    the element a `LibSig` under it -/
theorem signed_is_libSig (hmac : Bytes → Bytes → Bytes) (fuel d z r sv : Nat)
    (hsign : ECDSA.sign hmac fuel d z = .ok (r, sv)) (hr : r < N) (hs0 : sv ≠ 0) (htb : UInt8)
    (hz : zOf htb.toNat = some z) (cmp : Bool) :
    ∃ k derb, sec (smul (d : Int) G) cmp = some k ∧ ECDSA.der r sv = some derb ∧ LibKey k ∧
      LibSig zOf k (derb ++ [htb]) := by
  obtain ⟨derb, k, hder, hsec⟩ := sign_encodings hmac fuel d z r sv hsign hr hs0 cmp
  obtain ⟨hd1, hd2⟩ := (ECDSA.sign_ok hsign).1
  exact ⟨k, derb, hsec, hder, ⟨d, cmp, hd1, hd2, hsec⟩,
    ⟨hmac, fuel, d, z, r, sv, htb, cmp, derb, hsign, hr, hs0, hz, hder, hsec, rfl⟩⟩

/-- **`SigsValid` discharged**: library-made partial signatures are valid in the interpreter's sense under the
    real oracles (C01 `verify_sign`, `der_roundtrip`; C03 `sec_roundtrip`), and library keys parse -/
theorem sigsValid_signed {sigs : Dict Bytes} (hs : LibSigned zOf sigs) (keys : List Bytes)
    (hk : ∀ k ∈ keys, LibKey k) :
    SigsValid (realEnv base zOf msgOf c) sigs keys ∧ ∀ k ∈ keys, (realEnv base zOf msgOf c).pkErr k = none :=
  ⟨fun k _ s h => by
      obtain ⟨hmac, fuel, d, z, r, sv, htb, cmp, derb, hsign, hr, hs0, hz, hder, hsec, rfl⟩ := hs k s h
      exact ecdsaAuth_of_sign base zOf msgOf c hmac fuel d z r sv hsign hr hs0 htb hz cmp derb k hder hsec,
    fun k hkm => by
      obtain ⟨d, cmp, _, _, hsec⟩ := hk k hkm
      simp only [realEnv, parsePoint_sec (smul_valid G_valid d) cmp hsec, Option.isSome_some, if_true]⟩

/-- **the OP_CHECKMULTISIG witness from the signers**: the first `m` signatures present, in script order -/
theorem multisig_witness_signed {sigs : Dict Bytes} (hs : LibSigned zOf sigs) (pks : List Bytes)
    (hk : ∀ k ∈ pks, LibKey k) (m : Nat) (hm : m ≤ (pks.filterMap (dget sigs)).length) :
    MultisigWitness (realEnv base zOf msgOf c) pks ((pks.filterMap (dget sigs)).take m) ∧
      ((pks.filterMap (dget sigs)).take m).length = m :=
  multisigWitness_of_sigs (realEnv base zOf msgOf c) sigs pks m
    (sigsValid_signed base zOf msgOf c hs pks hk).2 (sigsValid_signed base zOf msgOf c hs pks hk).1 hm

/-! ## completeness of input verification, m-of-n -/

/-- **P2SH m-of-n, end to end**: script `m <sec(d_1 G)> … <sec(d_n G)> n CHECKMULTISIG` (serialised `rs`),
    at least `m` of the keys have signed: scriptSig `OP_0 <first m signatures in script order> <rs>` against
    `HASH160 <hash160(rs)> EQUAL` is accepted -/
theorem complete_p2sh_multisig_signed {sigs : Dict Bytes} (hs : LibSigned zOf sigs) (pks : List Bytes)
    (hk : ∀ k ∈ pks, LibKey k) (m : Nat) (hm : 1 ≤ m ∧ m ≤ 16) (hn : 1 ≤ pks.length ∧ pks.length ≤ 16)
    (hcount : m ≤ (pks.filterMap (dget sigs)).length) (rs : Bytes)
    (hparse : parseCommands rs = some (multisigScript m pks)) (hh : (base.hash160 rs).length = 20)
    (wit : List Bytes) (fuel : Nat) (hf : m + pks.length + 6 ≤ fuel) :
    verifyInput Cfg.repaired (realEnv base zOf msgOf c)
      (.op 0 :: (((pks.filterMap (dget sigs)).take m).map .push ++ [.push rs]))
      (p2shSpk (base.hash160 rs)) wit fuel = .accept := by
  obtain ⟨hw, hlen⟩ := multisig_witness_signed base zOf msgOf c hs pks hk m hcount
  exact Props.C06.complete_p2sh_multisig (realEnv base zOf msgOf c) rs pks _ (hlen.symm ▸ hm) hn
    (hlen.symm ▸ hparse) hh hw wit fuel (hlen.symm ▸ hf)

/-- **native P2WSH m-of-n, end to end**: witness `<> <first m signatures in script order> <ws>` -/
theorem complete_p2wsh_multisig_signed {sigs : Dict Bytes} (hs : LibSigned zOf sigs) (pks : List Bytes)
    (hk : ∀ k ∈ pks, LibKey k) (m : Nat) (hm : 1 ≤ m ∧ m ≤ 16) (hn : 1 ≤ pks.length ∧ pks.length ≤ 16)
    (hcount : m ≤ (pks.filterMap (dget sigs)).length) (ws : Bytes)
    (hparse : parseCommands ws = some (multisigScript m pks)) (hh : (base.sha256 ws).length = 32)
    (fuel : Nat) (hf : m + pks.length + 7 ≤ fuel) :
    verifyInput Cfg.repaired (realEnv base zOf msgOf c) [] (p2wshSpk (base.sha256 ws))
      ([] :: (pks.filterMap (dget sigs)).take m ++ [ws]) fuel = .accept := by
  obtain ⟨hw, hlen⟩ := multisig_witness_signed base zOf msgOf c hs pks hk m hcount
  exact Props.C06.complete_p2wsh_multisig (realEnv base zOf msgOf c) ws pks _ (hlen.symm ▸ hm) hn
    (hlen.symm ▸ hparse) hh hw fuel (hlen.symm ▸ hf)

/-- **P2SH-P2WSH m-of-n, end to end**: scriptSig `[redeem script]`, witness as for P2WSH -/
theorem complete_p2sh_p2wsh_multisig_signed {sigs : Dict Bytes} (hs : LibSigned zOf sigs) (pks : List Bytes)
    (hk : ∀ k ∈ pks, LibKey k) (m : Nat) (hm : 1 ≤ m ∧ m ≤ 16) (hn : 1 ≤ pks.length ∧ pks.length ≤ 16)
    (hcount : m ≤ (pks.filterMap (dget sigs)).length) (rs ws : Bytes)
    (hparseW : parseCommands ws = some (multisigScript m pks)) (hw32 : (base.sha256 ws).length = 32)
    (hparseR : parseCommands rs = some (p2wshSpk (base.sha256 ws))) (hh : (base.hash160 rs).length = 20)
    (fuel : Nat) (hf : m + pks.length + 8 ≤ fuel) :
    verifyInput Cfg.repaired (realEnv base zOf msgOf c) [.push rs] (p2shSpk (base.hash160 rs))
      ([] :: (pks.filterMap (dget sigs)).take m ++ [ws]) fuel = .accept := by
  obtain ⟨hw, hlen⟩ := multisig_witness_signed base zOf msgOf c hs pks hk m hcount
  exact Props.C06.complete_p2sh_p2wsh_multisig (realEnv base zOf msgOf c) rs ws pks _ (hlen.symm ▸ hm) hn
    (hlen.symm ▸ hparseW) hw32 hparseR hh hw fuel (hlen.symm ▸ hf)

/-! ## the PSBT workflow with library-made signatures (C10Compose without signature hypotheses) -/

/-- **p2wsh multisig PSBT input**: glue hypotheses of `C10Compose.p2wsh_multisig_flow` (same script, same keys);
    the partial signatures are library-made: with at least `mm` signers `finalize` emits the witness and the
    real verification accepts it; with fewer `finalize` raises -/
theorem psbt_p2wsh_multisig_flow_signed {Tx : Type} {C : TxCodec Tx} {txin : TxInV} {p : PIn Tx} {spk ws : Script}
    {m : Int} {wraw : Bytes} (hb : WitnessBranch C txin p spk ws m wraw) (mm : Nat) (pks : List Bytes)
    (hmm : 1 ≤ mm ∧ mm ≤ 16) (hn : 1 ≤ pks.length ∧ pks.length ≤ 16) (hnd : pks.Nodup)
    (hws : ws.cmds = multisigScript mm pks) (hnative : p.redeem = none)
    (h32 : (base.sha256 wraw).length = 32) (hspk : spk.cmds = p2wshSpk (base.sha256 wraw))
    (hparse : parseCommands wraw = some ws.cmds) (hk : ∀ k ∈ pks, LibKey k) (hs : LibSigned zOf p.sigs) :
    (mm ≤ (pks.filterMap (dget p.sigs)).length →
      ∃ q, finalizeIn true C txin p = some q ∧ finalScriptSig q = [] ∧
        finalWitness q = [] :: (pks.filterMap (dget p.sigs)).take mm ++ [wraw] ∧
        ∀ fuel, mm + pks.length + 7 ≤ fuel →
          verifyInput Cfg.repaired (realEnv base zOf msgOf c) (finalScriptSig q) spk.cmds (finalWitness q) fuel
            = .accept) ∧
    ((pks.filterMap (dget p.sigs)).length < mm → finalizeIn true C txin p = none) :=
  Props.C10Compose.p2wsh_multisig_flow hb (realEnv base zOf msgOf c) mm pks
    ⟨hmm, hn, hnd, hws, hparse, (sigsValid_signed base zOf msgOf c hs pks hk).2,
      (sigsValid_signed base zOf msgOf c hs pks hk).1⟩ hnative h32 hspk

/-- **p2sh-p2wsh multisig PSBT input** -/
theorem psbt_p2sh_p2wsh_multisig_flow_signed {Tx : Type} {C : TxCodec Tx} {txin : TxInV} {p : PIn Tx}
    {spk ws r : Script} {m : Int} {wraw : Bytes} (hb : WitnessBranch C txin p spk ws m wraw) (mm : Nat)
    (pks : List Bytes) (rs : Bytes)
    (hmm : 1 ≤ mm ∧ mm ≤ 16) (hn : 1 ≤ pks.length ∧ pks.length ≤ 16) (hnd : pks.Nodup)
    (hws : ws.cmds = multisigScript mm pks) (hredeem : p.redeem = some r)
    (h32 : (base.sha256 wraw).length = 32) (hr : r.cmds = p2wshSpk (base.sha256 wraw))
    (hraw : Psbt.rawOf r = some rs) (hparseR : parseCommands rs = some r.cmds)
    (hh : (base.hash160 rs).length = 20) (hspk : spk.cmds = p2shSpk (base.hash160 rs))
    (hparse : parseCommands wraw = some ws.cmds) (hk : ∀ k ∈ pks, LibKey k) (hs : LibSigned zOf p.sigs) :
    (mm ≤ (pks.filterMap (dget p.sigs)).length →
      ∃ q, finalizeIn true C txin p = some q ∧ finalScriptSig q = [.push rs] ∧
        finalWitness q = [] :: (pks.filterMap (dget p.sigs)).take mm ++ [wraw] ∧
        ∀ fuel, mm + pks.length + 8 ≤ fuel →
          verifyInput Cfg.repaired (realEnv base zOf msgOf c) (finalScriptSig q) spk.cmds (finalWitness q) fuel
            = .accept) ∧
    ((pks.filterMap (dget p.sigs)).length < mm → finalizeIn true C txin p = none) :=
  Props.C10Compose.p2sh_p2wsh_multisig_flow hb (realEnv base zOf msgOf c) mm pks rs
    ⟨hmm, hn, hnd, hws, hparse, (sigsValid_signed base zOf msgOf c hs pks hk).2,
      (sigsValid_signed base zOf msgOf c hs pks hk).1⟩ hredeem h32 hr hraw hparseR hh hspk

/-- **bare p2sh multisig PSBT input** (count repaired, F10d) -/
theorem psbt_p2sh_multisig_flow_signed {Tx : Type} {C : TxCodec Tx} {txin : TxInV} {p : PIn Tx} {spk r : Script}
    {m : Int} {rraw : Bytes} (hb : P2shBranch C txin p spk r m rraw) (mm : Nat) (pks : List Bytes)
    (hmm : 1 ≤ mm ∧ mm ≤ 16) (hn : 1 ≤ pks.length ∧ pks.length ≤ 16) (hnd : pks.Nodup)
    (hr : r.cmds = multisigScript mm pks)
    (hh : (base.hash160 rraw).length = 20) (hspk : spk.cmds = p2shSpk (base.hash160 rraw))
    (hparse : parseCommands rraw = some r.cmds) (hk : ∀ k ∈ pks, LibKey k) (hs : LibSigned zOf p.sigs) :
    (mm ≤ (pks.filterMap (dget p.sigs)).length →
      ∃ q, finalizeIn true C txin p = some q ∧
        finalScriptSig q = .op 0 :: (((pks.filterMap (dget p.sigs)).take mm).map .push ++ [.push rraw]) ∧
        q.witness = p.witness ∧
        ∀ fuel, mm + pks.length + 6 ≤ fuel →
          verifyInput Cfg.repaired (realEnv base zOf msgOf c) (finalScriptSig q) spk.cmds (finalWitness q) fuel
            = .accept) ∧
    ((pks.filterMap (dget p.sigs)).length < mm → finalizeIn true C txin p = none) :=
  Props.C10Compose.p2sh_multisig_flow hb (realEnv base zOf msgOf c) mm pks
    ⟨hmm, hn, hnd, hr, hparse, (sigsValid_signed base zOf msgOf c hs pks hk).2,
      (sigsValid_signed base zOf msgOf c hs pks hk).1⟩ hh hspk

/-! ## the hypotheses are satisfiable -/

-- a library key and a library signature exist (secret 1, nonce 1 from an "HMAC" answering 00…01, digest 0)
example (zOf : Nat → Option Nat) (hz : zOf 1 = some 0) : ∃ k s, LibKey k ∧ LibSig zOf k s := by
  obtain ⟨hsign, hr, hs0⟩ := sign_one
  obtain ⟨k, derb, _, _, hk, hs⟩ := signed_is_libSig zOf _ 1 1 0 _ _ hsign hr hs0 (1 : UInt8) hz true
  exact ⟨k, _, hk, hs⟩

-- the empty signature map is library-signed (nobody signed yet)
example (zOf : Nat → Option Nat) : LibSigned zOf [] := by
  intro k s h; cases h

end Buidl.Props.C10ComposeEC
