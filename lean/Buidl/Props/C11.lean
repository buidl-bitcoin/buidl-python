/-
  C11 — the PSBT review summary (PSBT.describe_basic_multisig) is faithful: the arithmetic is that
  of the transaction, an output is labelled change only if the wallet can spend it, and mismatching
  metadata is refused instead of summarised.

  Model: Buidl.Model.PsbtDescribe / PsbtCodec (the code with the `fix:` patches of work/C10 and
  work/C11 applied; the two repairs of `describe` itself are flags of `DescribeCfg`).  Helper lemmas:
  Buidl.Proofs.PsbtDescribe.  `H` (hash160 / sha256), the transaction codec `C` and the oracles `O`
  (BIP32 derivation) are arbitrary throughout; no theorem assumes a hash to be injective.

  Notation: `hmapOf cm p` is the `hdpubkey_map` the summary works with (the caller's `cm`, or — when
  that is empty — the one built from the PSBT's global xpubs).
-/
import Buidl.Proofs.PsbtDescribe
import Buidl.Proofs.PsbtValue
namespace Buidl.Props.C11
open Buidl Buidl.Psbt Buidl.Script

/-! ## A. the arithmetic of the summary -/

/-- the totals are those of the transaction's outputs and of the inputs' recorded values -/
theorem summary_totals {Tx} (cfg : DescribeCfg) (H : Hashes) (C : TxCodec Tx) (O : Oracles) (cm : Dict Bytes)
    (p : Psbt Tx) (s : Summary) (h : describe cfg H C O cm p = some s) :
    s.totalOut = ((C.outs p.tx).map (·.amount)).foldl (· + ·) 0 ∧
    ∃ vals, p.ins.mapM (·.value) = some vals ∧ s.totalIn = vals.foldl (· + ·) 0 :=
  have D := describe_described h
  ⟨D.totalOut, D.totalIn⟩

/-- the fee shown is the sum of the inputs minus the sum of the outputs -/
theorem summary_fee {Tx} (cfg : DescribeCfg) (H : Hashes) (C : TxCodec Tx) (O : Oracles) (cm : Dict Bytes)
    (p : Psbt Tx) (s : Summary) (h : describe cfg H C O cm p = some s) :
    s.fee = (s.totalIn : Int) - (s.totalOut : Int) :=
  (describe_described h).fee

/-- spend + change = outputs, and spend + change + fee = inputs -/
theorem summary_partition {Tx} (cfg : DescribeCfg) (H : Hashes) (C : TxCodec Tx) (O : Oracles) (cm : Dict Bytes)
    (p : Psbt Tx) (s : Summary) (h : describe cfg H C O cm p = some s) :
    s.spend + s.change = s.totalOut ∧ (s.spend : Int) + (s.change : Int) + s.fee = (s.totalIn : Int) := by
  have D := describe_described h
  have h1 := D.part
  refine ⟨h1, ?_⟩
  rw [D.fee]
  omega

/-- one description per output, carrying that output's amount; labelled change iff it carries
    BIP32 derivations (which `describe` then had to verify, see part B) -/
theorem summary_outputs {Tx} (cfg : DescribeCfg) (H : Hashes) (C : TxCodec Tx) (O : Oracles) (cm : Dict Bytes)
    (p : Psbt Tx) (s : Summary) (h : describe cfg H C O cm p = some s) :
    (C.outs p.tx).length = p.outs.length ∧ (C.ins p.tx).length = p.ins.length ∧
    s.outputs.length = p.outs.length ∧
    ∀ (j : Nat) (o : TxOutV) (po : POut), (C.outs p.tx)[j]? = some o → p.outs[j]? = some po →
      s.outputs[j]? = some { sats := o.amount, isChange := decide (po.namedPubs ≠ []) } := by
  have D := describe_described h
  exact ⟨D.nOuts, D.nIns, by simp [D.outputs, D.nOuts], fun _ _ _ ho hp => D.outputAt ho hp⟩

/-- what is spent is counted per OUTPUT, not per payee: `spend` is the sum of all outputs not labelled change
    (several of them may pay one address) and the batch flag says that there is more than one such output -/
theorem summary_spend_counts_outputs {Tx} (cfg : DescribeCfg) (H : Hashes) (C : TxCodec Tx) (O : Oracles)
    (cm : Dict Bytes) (p : Psbt Tx) (s : Summary) (h : describe cfg H C O cm p = some s) :
    s.spend = ((s.outputs.filter (fun d => !d.isChange)).map (·.sats)).sum ∧
    s.isBatch = decide ((s.outputs.filter (fun d => !d.isChange)).length > 1) :=
  have D := describe_described h
  ⟨D.spd, D.batch⟩

/-- at most one output is labelled change, and `change` is its amount (0 if there is none) -/
theorem summary_single_change {Tx} (cfg : DescribeCfg) (H : Hashes) (C : TxCodec Tx) (O : Oracles) (cm : Dict Bytes)
    (p : Psbt Tx) (s : Summary) (h : describe cfg H C O cm p = some s) :
    (∀ (i j : Nat) (di dj : OutDesc), s.outputs[i]? = some di → s.outputs[j]? = some dj →
      di.isChange = true → dj.isChange = true → i = j) ∧
    (∀ (j : Nat) (d : OutDesc), s.outputs[j]? = some d → d.isChange = true → s.change = d.sats) ∧
    ((∀ d ∈ s.outputs, d.isChange = false) → s.change = 0) := by
  have D := describe_described h
  refine ⟨index_unique_of_filter_le_one (·.isChange) s.outputs D.one, fun j d hj hd => ?_, fun hall => ?_⟩
  · have hm : d ∈ s.outputs.filter (·.isChange) := List.mem_filter.mpr ⟨List.mem_of_getElem? hj, hd⟩
    -- a list of at most one element that contains `d` is `[d]`
    obtain ⟨x, hx⟩ := List.length_eq_one_iff.mp (Nat.le_antisymm D.one (List.length_pos_of_mem hm))
    rw [hx] at hm
    cases List.mem_singleton.mp hm
    rw [D.chg, hx]
    exact Nat.add_zero _
  · rw [D.chg, List.filter_eq_nil_iff.mpr fun d hd => by simp [hall d hd]]
    rfl

example : ∃ s, describe .repaired Toy.hashes Toy.codec Toy.oracles Toy.cmap Toy.psbt = some s ∧
    s.fee = 10 ∧ s.change = 60 ∧ s.spend = 30 ∧ s.m = 1 ∧ s.n = 2 ∧
    s.outputs = [{ sats := 60, isChange := true }, { sats := 30, isChange := false }] :=
  ⟨Toy.summary, Toy.describe_psbt, rfl, rfl, rfl, rfl, rfl, rfl⟩

/-! ## B. an output is labelled change only if the wallet can spend it -/

/-- B.1  A change output's scriptPubKey commits *by hash* to the script `describe` examined: P2WSH,
    P2SH-P2WSH or P2SH of that script's serialisation.  (`h160`: the only fact about the hashes used —
    hash160 values are 20 bytes long, so a 32-byte witness program is not one.) -/
theorem change_commits_by_hash {Tx} (cfg : DescribeCfg) (H : Hashes) (C : TxCodec Tx) (O : Oracles) (cm : Dict Bytes)
    (p : Psbt Tx) (s : Summary) (h160 : ∀ b, (H.hash160 b).length = 20)
    (h : describe cfg H C O cm p = some s)
    (j : Nat) (o : TxOutV) (po : POut) (d : OutDesc)
    (ho : (C.outs p.tx)[j]? = some o) (hp : p.outs[j]? = some po)
    (hd : s.outputs[j]? = some d) (hchange : d.isChange = true) :
    ∃ script raw, scriptQuorum po.witnessScript po.redeem = some (script, s.m, s.n) ∧ rawOf script = some raw ∧
      ((po.witnessScript = some script ∧ po.redeem = none ∧ o.spk.cmds = [.op 0, .push (H.sha256 raw)]) ∨
       (po.witnessScript = some script ∧ ∃ r rraw, po.redeem = some r ∧ rawOf r = some rraw ∧
          r.cmds = [.op 0, .push (H.sha256 raw)] ∧
          o.spk.cmds = [.op 0xA9, .push (H.hash160 rraw), .op 0x87]) ∨
       (po.witnessScript = none ∧ po.redeem = some script ∧
          o.spk.cmds = [.op 0xA9, .push (H.hash160 raw), .op 0x87])) := by
  have D := describe_described h
  obtain ⟨script, _, hq, _⟩ := changeOK_some (D.changeAt ho hp hd hchange)
  obtain ⟨raw, hraw, hshape⟩ := validateOut_commit h160 (D.output ho hp).valid hq
  exact ⟨script, raw, hq, hraw, hshape⟩

/-- B.2  (F11e repaired) The script is literally `<m> <keys> <OP_n> OP_CHECKMULTISIG` with the inputs'
    quorum `(s.m, s.n)`, `m` read off the first command by the `get_quorum` of its class, and its keys
    are exactly the output's named pubkeys. -/
theorem change_is_plain_multisig {Tx} (cfg : DescribeCfg) (H : Hashes) (C : TxCodec Tx) (O : Oracles) (cm : Dict Bytes)
    (p : Psbt Tx) (s : Summary) (hpm : cfg.plainMultisig = true)
    (h : describe cfg H C O cm p = some s)
    (j : Nat) (o : TxOutV) (po : POut) (d : OutDesc)
    (ho : (C.outs p.tx)[j]? = some o) (hp : p.outs[j]? = some po)
    (hd : s.outputs[j]? = some d) (hchange : d.isChange = true) :
    ∃ (script : Script) (c0 : Cmd) (keys : List Bytes),
      scriptQuorum po.witnessScript po.redeem = some (script, s.m, s.n) ∧
      script.cmds = c0 :: keys.map Cmd.push ++ [.op (80 + keys.length), .op Gen.psbtCheckMultisig] ∧
      (opCodeToNumber (some c0) = some s.m ∨ opNameNumber (some c0) = some s.m) ∧
      (keys.length : Int) = s.n ∧ (po.namedPubs.length : Int) = s.n ∧
      (∀ k, k ∈ keys ↔ k ∈ dkeys po.namedPubs) := by
  obtain ⟨script, xfps, hq, hplain, hn, _⟩ := changeOK_some ((describe_described h).changeAt ho hp hd hchange)
  obtain ⟨c0, keys, hcmds, hkl, hkeys, hm⟩ := plainMultisig_shape hq (hplain hpm)
  exact ⟨script, c0, keys, hq, hcmds, hm, hkl, hn.symm, hkeys⟩

/-- B.2'  When the output's derivation map is a dict (distinct keys — which is what `PSBTOut.parse`
    builds), the script's keys are the named pubkeys up to order, each exactly once. -/
theorem change_keys_perm {Tx} (cfg : DescribeCfg) (H : Hashes) (C : TxCodec Tx) (O : Oracles) (cm : Dict Bytes)
    (p : Psbt Tx) (s : Summary) (hpm : cfg.plainMultisig = true)
    (h : describe cfg H C O cm p = some s)
    (j : Nat) (o : TxOutV) (po : POut) (d : OutDesc)
    (ho : (C.outs p.tx)[j]? = some o) (hp : p.outs[j]? = some po)
    (hd : s.outputs[j]? = some d) (hchange : d.isChange = true) (hdict : DNodup po.namedPubs) :
    ∃ (script : Script) (c0 : Cmd) (keys : List Bytes),
      scriptQuorum po.witnessScript po.redeem = some (script, s.m, s.n) ∧
      script.cmds = c0 :: keys.map Cmd.push ++ [.op (80 + keys.length), .op Gen.psbtCheckMultisig] ∧
      keys.Perm (dkeys po.namedPubs) ∧ keys.Nodup := by
  obtain ⟨script, c0, keys, hq, hcmds, _, hkl, hnl, hkeys⟩ :=
    change_is_plain_multisig cfg H C O cm p s hpm h j o po d ho hp hd hchange
  -- as many keys as (distinct) named pubkeys, and every named pubkey among them: no key occurs twice
  have hnd : keys.Nodup := by
    apply (eraseDups_length_le keys).2
    have h1 := (eraseDups_length_le keys).1
    have h2 := List.Nodup.length_le_of_subset hdict (l₂ := keys.eraseDups)
      fun k hk => List.mem_eraseDups.mpr ((hkeys k).mpr hk)
    have : (dkeys po.namedPubs).length = po.namedPubs.length := by simp [dkeys]
    omega
  exact ⟨script, c0, keys, hq, hcmds, (List.perm_ext_iff_of_nodup hnd hdict).mpr hkeys, hnd⟩

example : DNodup Toy.changeMap.namedPubs := by unfold DNodup; decide +kernel

/-- B.3  (F11a repaired) Every named pubkey is the key its cosigner's xpub — looked up in the map by the
    path's fingerprint — derives at the stated path; there are `n` named pubkeys, `n` map entries, and the
    named pubkeys' fingerprints are pairwise distinct: one key per declared cosigner. -/
theorem change_one_key_per_cosigner {Tx} (cfg : DescribeCfg) (H : Hashes) (C : TxCodec Tx) (O : Oracles)
    (cm : Dict Bytes) (p : Psbt Tx) (s : Summary) (hdx : cfg.distinctXfps = true)
    (h : describe cfg H C O cm p = some s)
    (j : Nat) (o : TxOutV) (po : POut) (d : OutDesc)
    (ho : (C.outs p.tx)[j]? = some o) (hp : p.outs[j]? = some po)
    (hd : s.outputs[j]? = some d) (hchange : d.isChange = true) :
    (po.namedPubs.length : Int) = s.n ∧ ((hmapOf cm p).length : Int) = s.n ∧
    (∀ sec rawPath, (sec, rawPath) ∈ po.namedPubs →
      ∃ body, dget (hmapOf cm p) (rawPath.take Gen.psbtFingerprintWidth) = some body ∧
        deriveAt O body rawPath = some sec) ∧
    (po.namedPubs.map (fun e => e.2.take Gen.psbtFingerprintWidth)).Nodup := by
  have D := describe_described h
  have hc := D.changeAt ho hp hd hchange
  obtain ⟨_, _, _, _, hn, _⟩ := changeOK_some hc
  exact ⟨hn.symm, D.n.symm, fun _ _ hm => (D.output ho hp).derives hm, changeOK_nodup hdx hc⟩

/-- B  With both repairs in place: an output is labelled change only if its scriptPubKey commits by
    hash to a plain m-of-n multisig script with the inputs' quorum whose keys are exactly one key
    derived from each declared cosigner xpub at the stated path. -/
theorem change_is_wallet_multisig {Tx} (H : Hashes) (C : TxCodec Tx) (O : Oracles) (cm : Dict Bytes)
    (p : Psbt Tx) (s : Summary) (h160 : ∀ b, (H.hash160 b).length = 20)
    (h : describe .repaired H C O cm p = some s)
    (j : Nat) (o : TxOutV) (po : POut) (d : OutDesc)
    (ho : (C.outs p.tx)[j]? = some o) (hp : p.outs[j]? = some po)
    (hd : s.outputs[j]? = some d) (hchange : d.isChange = true) :
    ∃ (script : Script) (raw : Bytes) (c0 : Cmd) (keys : List Bytes),
      -- the script examined, its quorum = the inputs' quorum
      scriptQuorum po.witnessScript po.redeem = some (script, s.m, s.n) ∧ rawOf script = some raw ∧
      -- 1. the scriptPubKey commits to it by hash
      ((po.witnessScript = some script ∧ po.redeem = none ∧ o.spk.cmds = [.op 0, .push (H.sha256 raw)]) ∨
       (po.witnessScript = some script ∧ ∃ r rraw, po.redeem = some r ∧ rawOf r = some rraw ∧
          r.cmds = [.op 0, .push (H.sha256 raw)] ∧
          o.spk.cmds = [.op 0xA9, .push (H.hash160 rraw), .op 0x87]) ∨
       (po.witnessScript = none ∧ po.redeem = some script ∧
          o.spk.cmds = [.op 0xA9, .push (H.hash160 raw), .op 0x87])) ∧
      -- 2. it is a plain m-of-n multisig
      script.cmds = c0 :: keys.map Cmd.push ++ [.op (80 + keys.length), .op Gen.psbtCheckMultisig] ∧
      (opCodeToNumber (some c0) = some s.m ∨ opNameNumber (some c0) = some s.m) ∧
      (keys.length : Int) = s.n ∧
      -- 3. of exactly the named pubkeys, one per declared cosigner
      (∀ k, k ∈ keys ↔ k ∈ dkeys po.namedPubs) ∧
      (po.namedPubs.length : Int) = s.n ∧ ((hmapOf cm p).length : Int) = s.n ∧
      (∀ sec rawPath, (sec, rawPath) ∈ po.namedPubs →
        ∃ body, dget (hmapOf cm p) (rawPath.take Gen.psbtFingerprintWidth) = some body ∧
          deriveAt O body rawPath = some sec) ∧
      (po.namedPubs.map (fun e => e.2.take Gen.psbtFingerprintWidth)).Nodup := by
  obtain ⟨script, raw, hq, hraw, hshape⟩ :=
    change_commits_by_hash .repaired H C O cm p s h160 h j o po d ho hp hd hchange
  obtain ⟨script', c0, keys, hq', hcmds, hm, hkl, _, hkeys⟩ :=
    change_is_plain_multisig .repaired H C O cm p s rfl h j o po d ho hp hd hchange
  obtain ⟨hn, hh, hall, hnd⟩ :=
    change_one_key_per_cosigner .repaired H C O cm p s rfl h j o po d ho hp hd hchange
  rw [hq] at hq'
  cases hq'
  exact ⟨script, raw, c0, keys, hq, hraw, hshape, hcmds, hm, hkl, hkeys, hn, hh, hall, hnd⟩

example : (∀ b, (Toy.hashes.hash160 b).length = 20) ∧
    ∃ s d, describe .repaired Toy.hashes Toy.codec Toy.oracles Toy.cmap Toy.psbt = some s ∧
      (Toy.codec.outs Toy.psbt.tx)[0]? = some Toy.changeOut ∧ Toy.psbt.outs[0]? = some Toy.changeMap ∧
      s.outputs[0]? = some d ∧ d.isChange = true := by
  refine ⟨fun b => ?_, ?_⟩
  · simp only [Toy.hashes, List.length_take, List.length_append, List.length_replicate]
    omega
  exact ⟨_, { sats := 60, isChange := true }, Toy.describe_psbt, rfl, rfl, rfl, rfl⟩

/-! ## C. mismatching metadata is refused, not summarised -/

/-- an output map that `PSBTOut.validate` refuses makes the whole summary fail -/
theorem describe_refuses_invalid_output {Tx} (cfg : DescribeCfg) (H : Hashes) (C : TxCodec Tx) (O : Oracles)
    (cm : Dict Bytes) (p : Psbt Tx) (j : Nat) (o : TxOutV) (po : POut)
    (ho : (C.outs p.tx)[j]? = some o) (hp : p.outs[j]? = some po)
    (hbad : validateOut H o.spk po = none) : describe cfg H C O cm p = none :=
  describe_eq_none fun _ D => nomatch (D.output ho hp).valid.symm.trans hbad

/-- an input map that `PSBTIn.validate` refuses makes the whole summary fail -/
theorem describe_refuses_invalid_input {Tx} (cfg : DescribeCfg) (H : Hashes) (C : TxCodec Tx) (O : Oracles)
    (cm : Dict Bytes) (p : Psbt Tx) (i : Nat) (txin : TxInV) (pin : PIn Tx)
    (ht : (C.ins p.tx)[i]? = some txin) (hp : p.ins[i]? = some pin)
    (hbad : validateIn H C txin pin = none) : describe cfg H C O cm p = none :=
  describe_eq_none fun _ D => nomatch (D.input ht hp).valid.symm.trans hbad

/-- swapped output scriptPubKey keeping the change metadata (F11b): with only a RedeemScript attached, a
    scriptPubKey that is not the P2SH of that RedeemScript's hash160 is refused -/
theorem tamper_swapped_spk {Tx} (cfg : DescribeCfg) (H : Hashes) (C : TxCodec Tx) (O : Oracles)
    (cm : Dict Bytes) (p : Psbt Tx) (j : Nat) (o : TxOutV) (po : POut) (r : Script)
    (ho : (C.outs p.tx)[j]? = some o) (hp : p.outs[j]? = some po)
    (hw : po.witnessScript = none) (hr : po.redeem = some r)
    (hbad : ¬(isP2sh o.spk = true ∧ o.spk.cmds[1]? = scriptHash160 H r)) :
    describe cfg H C O cm p = none :=
  describe_eq_none fun _ D =>
    have ⟨h1, h2, _⟩ := validateOut_redeem_only hw hr (D.output ho hp).valid
    hbad ⟨h1, h2⟩

/-- swapped output scriptPubKey, WitnessScript attached (F11c): the scriptPubKey must be P2WSH, or P2SH
    with a P2WSH RedeemScript attached -/
theorem tamper_witness_script_spk {Tx} (cfg : DescribeCfg) (H : Hashes) (C : TxCodec Tx) (O : Oracles)
    (cm : Dict Bytes) (p : Psbt Tx) (j : Nat) (o : TxOutV) (po : POut) (ws : Script)
    (ho : (C.outs p.tx)[j]? = some o) (hp : p.outs[j]? = some po)
    (hw : po.witnessScript = some ws)
    (hbad : ¬(isP2wsh o.spk = true ∨ (isP2sh o.spk = true ∧ ∃ r, po.redeem = some r ∧ isP2wsh r = true))) :
    describe cfg H C O cm p = none := by
  refine describe_eq_none fun _ D => hbad ?_
  obtain ⟨h1, h2, _⟩ := validateOut_witness hw (D.output ho hp).valid
  cases hr : po.redeem with
  | none => exact Or.inl (h1 hr).1
  | some r =>
    have := (h2 r hr).1
    simp only [Bool.or_eq_true, Bool.and_eq_true] at this
    rcases this with h | ⟨h, h'⟩
    · exact Or.inl h
    · exact Or.inr ⟨h, r, rfl, h'⟩

/-- foreign output script (P2WSH): the WitnessScript's sha256 differs from the scriptPubKey's program -/
theorem tamper_foreign_output_witness_script {Tx} (cfg : DescribeCfg) (H : Hashes) (C : TxCodec Tx) (O : Oracles)
    (cm : Dict Bytes) (p : Psbt Tx) (j : Nat) (o : TxOutV) (po : POut) (ws : Script)
    (ho : (C.outs p.tx)[j]? = some o) (hp : p.outs[j]? = some po)
    (hw : po.witnessScript = some ws) (hr : po.redeem = none)
    (hbad : o.spk.cmds[1]? ≠ scriptSha256 H ws) :
    describe cfg H C O cm p = none :=
  describe_eq_none fun _ D => hbad ((validateOut_witness hw (D.output ho hp).valid).1 hr).2

/-- foreign output script (P2SH-P2WSH): the RedeemScript's hash160 differs from the scriptPubKey's hash,
    or the WitnessScript's sha256 from the RedeemScript's program -/
theorem tamper_foreign_output_script_p2sh_p2wsh {Tx} (cfg : DescribeCfg) (H : Hashes) (C : TxCodec Tx)
    (O : Oracles) (cm : Dict Bytes) (p : Psbt Tx) (j : Nat) (o : TxOutV) (po : POut) (ws r : Script)
    (ho : (C.outs p.tx)[j]? = some o) (hp : p.outs[j]? = some po)
    (hw : po.witnessScript = some ws) (hr : po.redeem = some r)
    (hbad : o.spk.cmds[1]? ≠ scriptHash160 H r ∨ r.cmds[1]? ≠ scriptSha256 H ws) :
    describe cfg H C O cm p = none :=
  describe_eq_none fun _ D =>
    have ⟨_, h1, _, h2⟩ := (validateOut_witness hw (D.output ho hp).valid).2.1 r hr
    hbad.elim (· h1) (· h2)

/-- foreign RedeemScript on an input without witness UTXO: unless the scriptPubKey being spent is the
    P2SH of the RedeemScript's hash160, refused -/
theorem tamper_foreign_input_script {Tx} (cfg : DescribeCfg) (H : Hashes) (C : TxCodec Tx) (O : Oracles)
    (cm : Dict Bytes) (p : Psbt Tx) (i : Nat) (txin : TxInV) (pin : PIn Tx) (r : Script)
    (ht : (C.ins p.tx)[i]? = some txin) (hp : p.ins[i]? = some pin)
    (hpo : pin.prevOut = none) (hr : pin.redeem = some r)
    (hbad : ¬∃ spk, pin.scriptPubkey C txin = some (some spk) ∧ isP2sh spk = true ∧
      spk.cmds[1]? = scriptHash160 H r) :
    describe cfg H C O cm p = none :=
  describe_eq_none fun _ D =>
    have ⟨spk, h1, h2, _, h3, _⟩ := (D.validIn ht hp).lRedeem hpo hr
    hbad ⟨spk, h1, h2, h3⟩

/-- foreign WitnessScript on a P2WSH input (witness UTXO present): its sha256 differs from the program -/
theorem tamper_foreign_input_witness_script {Tx} (cfg : DescribeCfg) (H : Hashes) (C : TxCodec Tx) (O : Oracles)
    (cm : Dict Bytes) (p : Psbt Tx) (i : Nat) (txin : TxInV) (pin : PIn Tx) (utxo : TxOutV) (ws : Script)
    (ht : (C.ins p.tx)[i]? = some txin) (hp : p.ins[i]? = some pin)
    (hpo : pin.prevOut = some utxo) (hw : pin.witnessScript = some ws) (hr : pin.redeem = none)
    (hbad : utxo.spk.cmds[1]? ≠ scriptSha256 H ws) :
    describe cfg H C O cm p = none :=
  describe_eq_none fun _ D =>
    have V := D.validIn ht hp
    have ⟨_, h1, _⟩ := V.wSpk hpo
    hbad ((V.wWitness hpo h1 hw).1 hr).2

/-- foreign scripts on a P2SH-P2WSH input (witness UTXO present): RedeemScript hash160 ≠ the hash in the
    scriptPubKey being spent, or WitnessScript sha256 ≠ the RedeemScript's program -/
theorem tamper_foreign_input_script_p2sh_p2wsh {Tx} (cfg : DescribeCfg) (H : Hashes) (C : TxCodec Tx)
    (O : Oracles) (cm : Dict Bytes) (p : Psbt Tx) (i : Nat) (txin : TxInV) (pin : PIn Tx) (utxo : TxOutV)
    (ws r : Script)
    (ht : (C.ins p.tx)[i]? = some txin) (hp : p.ins[i]? = some pin)
    (hpo : pin.prevOut = some utxo) (hw : pin.witnessScript = some ws) (hr : pin.redeem = some r)
    (hbad : (∀ spk, pin.scriptPubkey C txin = some (some spk) → spk.cmds[1]? ≠ scriptHash160 H r) ∨
      r.cmds[1]? ≠ scriptSha256 H ws) :
    describe cfg H C O cm p = none :=
  describe_eq_none fun _ D =>
    have V := D.validIn ht hp
    have ⟨spk, h1, _⟩ := V.wSpk hpo
    have ⟨_, h5, _, h6⟩ := (V.wWitness hpo h1 hw).2.1 r hr
    hbad.elim (fun hb => hb spk h1 h5) (· h6)

/-- a witness UTXO on a bare-P2SH input (F11f): a RedeemScript that is not a witness program is refused
    (before the repair this sent validation down the witness branch, where it was not checked at all) -/
theorem tamper_witness_utxo_on_legacy {Tx} (cfg : DescribeCfg) (H : Hashes) (C : TxCodec Tx) (O : Oracles)
    (cm : Dict Bytes) (p : Psbt Tx) (i : Nat) (txin : TxInV) (pin : PIn Tx) (utxo : TxOutV) (spk r : Script)
    (ht : (C.ins p.tx)[i]? = some txin) (hp : p.ins[i]? = some pin)
    (hpo : pin.prevOut = some utxo) (hspk : pin.scriptPubkey C txin = some (some spk))
    (hsh : isP2sh spk = true) (hr : pin.redeem = some r) (hnw : isWitnessProgram r = false) :
    describe cfg H C O cm p = none :=
  describe_eq_none fun _ D => Bool.false_ne_true (hnw.symm.trans ((D.validIn ht hp).wRedeem hpo hspk hr).2)

/-- altered previous transaction: the attached non-witness UTXO does not hash to the outpoint -/
theorem tamper_prev_tx {Tx} (cfg : DescribeCfg) (H : Hashes) (C : TxCodec Tx) (O : Oracles)
    (cm : Dict Bytes) (p : Psbt Tx) (i : Nat) (txin : TxInV) (pin : PIn Tx) (t : Tx)
    (ht : (C.ins p.tx)[i]? = some txin) (hp : p.ins[i]? = some pin)
    (hpt : pin.prevTx = some t) (hbad : C.hash t ≠ some txin.prevTx) :
    describe cfg H C O cm p = none :=
  describe_eq_none fun _ D => hbad ((D.validIn ht hp).prevTx hpt).1

/-- altered UTXO amount (F11d): with both UTXO kinds attached, a witness UTXO whose amount or script
    differs from the previous transaction's output is refused -/
theorem tamper_utxo_amount {Tx} (cfg : DescribeCfg) (H : Hashes) (C : TxCodec Tx) (O : Oracles)
    (cm : Dict Bytes) (p : Psbt Tx) (i : Nat) (txin : TxInV) (pin : PIn Tx) (t : Tx) (wutxo : TxOutV)
    (ht : (C.ins p.tx)[i]? = some txin) (hp : p.ins[i]? = some pin)
    (hpt : pin.prevTx = some t) (hpo : pin.prevOut = some wutxo)
    (hbad : ∀ utxo, (C.outs t)[txin.prevIndex]? = some utxo →
      utxo.amount ≠ wutxo.amount ∨ utxo.spk.cmds ≠ wutxo.spk.cmds) :
    describe cfg H C O cm p = none :=
  describe_eq_none fun _ D =>
    have ⟨utxo, hu, ha, hs⟩ := (D.validIn ht hp).both hpt hpo
    (hbad utxo hu).elim (· ha) (· hs)

/-- a summary exists only if every input has a recorded value (what that value is: part E) -/
theorem tamper_missing_utxo {Tx} (cfg : DescribeCfg) (H : Hashes) (C : TxCodec Tx) (O : Oracles)
    (cm : Dict Bytes) (p : Psbt Tx) (i : Nat) (txin : TxInV) (pin : PIn Tx)
    (ht : (C.ins p.tx)[i]? = some txin) (hp : p.ins[i]? = some pin) (hbad : pin.value = none) :
    describe cfg H C O cm p = none :=
  describe_eq_none fun _ D =>
    have ⟨_, hs⟩ := (D.input ht hp).value
    nomatch hs.symm.trans hbad

/-- wrong path or foreign xpub on an input: a named pubkey that the cosigner's xpub does not derive at
    the stated path -/
theorem tamper_wrong_derivation_input {Tx} (cfg : DescribeCfg) (H : Hashes) (C : TxCodec Tx) (O : Oracles)
    (cm : Dict Bytes) (p : Psbt Tx) (i : Nat) (txin : TxInV) (pin : PIn Tx) (sec rawPath body : Bytes)
    (ht : (C.ins p.tx)[i]? = some txin) (hp : p.ins[i]? = some pin)
    (hmem : (sec, rawPath) ∈ pin.namedPubs)
    (hfp : dget (hmapOf cm p) (rawPath.take Gen.psbtFingerprintWidth) = some body)
    (hbad : deriveAt O body rawPath ≠ some sec) :
    describe cfg H C O cm p = none := by
  refine describe_eq_none fun _ D => ?_
  obtain ⟨body', hb, hd⟩ := (D.input ht hp).derives hmem
  cases hfp.symm.trans hb
  exact hbad hd

/-- foreign fingerprint on an input: a named pubkey whose fingerprint is not in the map -/
theorem tamper_foreign_fingerprint_input {Tx} (cfg : DescribeCfg) (H : Hashes) (C : TxCodec Tx) (O : Oracles)
    (cm : Dict Bytes) (p : Psbt Tx) (i : Nat) (txin : TxInV) (pin : PIn Tx) (sec rawPath : Bytes)
    (ht : (C.ins p.tx)[i]? = some txin) (hp : p.ins[i]? = some pin)
    (hmem : (sec, rawPath) ∈ pin.namedPubs)
    (hbad : dget (hmapOf cm p) (rawPath.take Gen.psbtFingerprintWidth) = none) :
    describe cfg H C O cm p = none :=
  describe_eq_none fun _ D =>
    have ⟨_, hb, _⟩ := (D.input ht hp).derives hmem
    nomatch hbad.symm.trans hb

/-- wrong path or foreign xpub on an output claiming to be change -/
theorem tamper_wrong_derivation_output {Tx} (cfg : DescribeCfg) (H : Hashes) (C : TxCodec Tx) (O : Oracles)
    (cm : Dict Bytes) (p : Psbt Tx) (j : Nat) (o : TxOutV) (po : POut) (sec rawPath body : Bytes)
    (ho : (C.outs p.tx)[j]? = some o) (hp : p.outs[j]? = some po)
    (hmem : (sec, rawPath) ∈ po.namedPubs)
    (hfp : dget (hmapOf cm p) (rawPath.take Gen.psbtFingerprintWidth) = some body)
    (hbad : deriveAt O body rawPath ≠ some sec) :
    describe cfg H C O cm p = none := by
  refine describe_eq_none fun _ D => ?_
  obtain ⟨body', hb, hd⟩ := (D.output ho hp).derives hmem
  cases hfp.symm.trans hb
  exact hbad hd

/-- foreign fingerprint on an output claiming to be change -/
theorem tamper_foreign_fingerprint_output {Tx} (cfg : DescribeCfg) (H : Hashes) (C : TxCodec Tx) (O : Oracles)
    (cm : Dict Bytes) (p : Psbt Tx) (j : Nat) (o : TxOutV) (po : POut) (sec rawPath : Bytes)
    (ho : (C.outs p.tx)[j]? = some o) (hp : p.outs[j]? = some po)
    (hmem : (sec, rawPath) ∈ po.namedPubs)
    (hbad : dget (hmapOf cm p) (rawPath.take Gen.psbtFingerprintWidth) = none) :
    describe cfg H C O cm p = none :=
  describe_eq_none fun _ D =>
    have ⟨_, hb, _⟩ := (D.output ho hp).derives hmem
    nomatch hbad.symm.trans hb

/-- change script whose keys come from one cosigner (F11a repaired): two named pubkeys of an output
    carrying the same fingerprint -/
theorem tamper_one_cosigner_change {Tx} (cfg : DescribeCfg) (H : Hashes) (C : TxCodec Tx) (O : Oracles)
    (cm : Dict Bytes) (p : Psbt Tx) (hdx : cfg.distinctXfps = true) (j : Nat) (o : TxOutV) (po : POut)
    (a b : Nat) (e1 e2 : Bytes × Bytes)
    (ho : (C.outs p.tx)[j]? = some o) (hp : p.outs[j]? = some po)
    (ha : po.namedPubs[a]? = some e1) (hb : po.namedPubs[b]? = some e2) (hab : a ≠ b)
    (hsame : e1.2.take Gen.psbtFingerprintWidth = e2.2.take Gen.psbtFingerprintWidth) :
    describe cfg H C O cm p = none := by
  refine describe_eq_none fun _ D => ?_
  have hnd := changeOK_nodup hdx ((D.output ho hp).change (List.ne_nil_of_mem (List.mem_of_getElem? ha)))
  have ha' : (po.namedPubs.map (fun e => e.2.take Gen.psbtFingerprintWidth))[a]? =
      some (e1.2.take Gen.psbtFingerprintWidth) := by simp [ha]
  have hb' : (po.namedPubs.map (fun e => e.2.take Gen.psbtFingerprintWidth))[b]? =
      some (e1.2.take Gen.psbtFingerprintWidth) := by simp [hb, hsame]
  exact hab ((List.getElem?_inj (List.getElem?_eq_some_iff.mp ha').1 hnd).mp (ha'.trans hb'.symm))

/-- changed quorum: an output carrying derivations whose script has another quorum than an input's -/
theorem tamper_changed_quorum {Tx} (cfg : DescribeCfg) (H : Hashes) (C : TxCodec Tx) (O : Oracles)
    (cm : Dict Bytes) (p : Psbt Tx) (i : Nat) (txin : TxInV) (pin : PIn Tx) (si : Script) (m n : Int)
    (j : Nat) (o : TxOutV) (po : POut)
    (ht : (C.ins p.tx)[i]? = some txin) (hpi : p.ins[i]? = some pin)
    (hqi : scriptQuorum pin.witnessScript pin.redeem = some (si, m, n))
    (ho : (C.outs p.tx)[j]? = some o) (hp : p.outs[j]? = some po) (hne : po.namedPubs ≠ [])
    (hbad : ∀ so, scriptQuorum po.witnessScript po.redeem ≠ some (so, m, n)) :
    describe cfg H C O cm p = none := by
  refine describe_eq_none fun s D => ?_
  obtain ⟨script, _, hq, _⟩ := (D.input ht hpi).quorum_eq
  cases hqi.symm.trans hq
  obtain ⟨so, _, hqo, _⟩ := changeOK_some ((D.output ho hp).change hne)
  exact hbad so hqo

/-- not a plain multisig (F11e repaired): an output carrying derivations whose script is not exactly
    `<m> <the named pubkeys> <n> OP_CHECKMULTISIG` -/
theorem tamper_not_plain_multisig {Tx} (cfg : DescribeCfg) (H : Hashes) (C : TxCodec Tx) (O : Oracles)
    (cm : Dict Bytes) (p : Psbt Tx) (hpm : cfg.plainMultisig = true) (j : Nat) (o : TxOutV) (po : POut)
    (ho : (C.outs p.tx)[j]? = some o) (hp : p.outs[j]? = some po) (hne : po.namedPubs ≠ [])
    (hbad : ∀ script m n, scriptQuorum po.witnessScript po.redeem = some (script, m, n) →
      plainMultisigOf script n po.namedPubs = false) :
    describe cfg H C O cm p = none := by
  refine describe_eq_none fun s D => ?_
  obtain ⟨so, _, hqo, hplain, _⟩ := changeOK_some ((D.output ho hp).change hne)
  exact Bool.false_ne_true ((hbad so s.m s.n hqo).symm.trans (hplain hpm))

/-- second change output: two different outputs carrying derivations -/
theorem tamper_second_change {Tx} (cfg : DescribeCfg) (H : Hashes) (C : TxCodec Tx) (O : Oracles)
    (cm : Dict Bytes) (p : Psbt Tx) (j1 j2 : Nat) (o1 o2 : TxOutV) (po1 po2 : POut)
    (ho1 : (C.outs p.tx)[j1]? = some o1) (hp1 : p.outs[j1]? = some po1) (hne1 : po1.namedPubs ≠ [])
    (ho2 : (C.outs p.tx)[j2]? = some o2) (hp2 : p.outs[j2]? = some po2) (hne2 : po2.namedPubs ≠ [])
    (hj : j1 ≠ j2) :
    describe cfg H C O cm p = none :=
  describe_eq_none fun s D => hj (index_unique_of_filter_le_one (·.isChange) s.outputs D.one j1 j2 _ _
    (D.outputAt ho1 hp1) (D.outputAt ho2 hp2) (by simp [hne1]) (by simp [hne2]))

/-- foreign WitnessScript next to a non-witness UTXO only (finding F11g, first shape; repaired): unless the
    scriptPubKey being spent is the P2WSH of the WitnessScript's sha256, refused.  Before the repair the
    non-witness branch of `PSBTIn.validate` never looked at the WitnessScript, and `describe` read the
    inputs' quorum off it. -/
theorem tamper_witness_script_without_witness_utxo {Tx} (cfg : DescribeCfg) (H : Hashes) (C : TxCodec Tx)
    (O : Oracles) (cm : Dict Bytes) (p : Psbt Tx) (i : Nat) (txin : TxInV) (pin : PIn Tx) (ws : Script)
    (ht : (C.ins p.tx)[i]? = some txin) (hp : p.ins[i]? = some pin)
    (hpo : pin.prevOut = none) (hw : pin.witnessScript = some ws)
    (hbad : ¬∃ spk, pin.scriptPubkey C txin = some (some spk) ∧ isP2wsh spk = true ∧
      spk.cmds[1]? = scriptSha256 H ws) :
    describe cfg H C O cm p = none :=
  describe_eq_none fun _ D =>
    have ⟨spk, h1, h2, h3, _⟩ := (D.validIn ht hp).lWitness hpo hw
    hbad ⟨spk, h1, h2, h3⟩

/-- a RedeemScript next to a witness UTXO whose scriptPubKey is not P2SH (finding F11g, second shape;
    repaired).  Before the repair the witness branch ignored such a RedeemScript, and `describe` read the
    inputs' quorum off it. -/
theorem tamper_redeem_on_non_p2sh {Tx} (cfg : DescribeCfg) (H : Hashes) (C : TxCodec Tx)
    (O : Oracles) (cm : Dict Bytes) (p : Psbt Tx) (i : Nat) (txin : TxInV) (pin : PIn Tx)
    (wutxo : TxOutV) (spk r : Script)
    (ht : (C.ins p.tx)[i]? = some txin) (hp : p.ins[i]? = some pin)
    (hpo : pin.prevOut = some wutxo) (hr : pin.redeem = some r)
    (hspk : pin.scriptPubkey C txin = some (some spk)) (hbad : isP2sh spk = false) :
    describe cfg H C O cm p = none :=
  describe_eq_none fun _ D => Bool.false_ne_true (hbad.symm.trans ((D.validIn ht hp).wRedeem hpo hspk hr).1)

/-! ### what every summarised input satisfied (the positive form of the input items above) -/

/-- the UTXO records of a summarised input match the transaction: the non-witness UTXO hashes to the
    outpoint and has the output spent; a witness UTXO given together with it is that very output; and the
    input has a recorded amount (the one `totalIn` adds up, see `summary_totals`) -/
theorem input_utxo_matches {Tx} (cfg : DescribeCfg) (H : Hashes) (C : TxCodec Tx) (O : Oracles) (cm : Dict Bytes)
    (p : Psbt Tx) (s : Summary) (h : describe cfg H C O cm p = some s)
    (i : Nat) (txin : TxInV) (pin : PIn Tx)
    (ht : (C.ins p.tx)[i]? = some txin) (hp : p.ins[i]? = some pin) :
    (∀ t, pin.prevTx = some t → C.hash t = some txin.prevTx ∧ txin.prevIndex < (C.outs t).length) ∧
    (∀ t wutxo, pin.prevTx = some t → pin.prevOut = some wutxo →
      ∃ utxo, (C.outs t)[txin.prevIndex]? = some utxo ∧ utxo.amount = wutxo.amount ∧
        utxo.spk.cmds = wutxo.spk.cmds) ∧
    ∃ sats, pin.value = some sats :=
  have D := describe_described h
  have V := D.validIn ht hp
  ⟨fun _ hpt => V.prevTx hpt, fun _ _ hpt hpo => V.both hpt hpo, (D.input ht hp).value⟩

/-- the input-side analogue of `change_commits_by_hash` (F11f, F11g repaired): the script `describe` read
    the quorum from is committed to *by hash* by the scriptPubKey being spent (`PSBTIn.script_pubkey()`:
    the outpoint's output of the non-witness UTXO, whose hash is the outpoint's txid, or the witness UTXO) —
    a WitnessScript under P2WSH, a RedeemScript (non-witness UTXO only) under P2SH.  So an input whose
    redeem or witness script does not match the transaction is never summarised. -/
theorem input_script_commits {Tx} (cfg : DescribeCfg) (H : Hashes) (C : TxCodec Tx) (O : Oracles) (cm : Dict Bytes)
    (p : Psbt Tx) (s : Summary) (h : describe cfg H C O cm p = some s)
    (i : Nat) (txin : TxInV) (pin : PIn Tx)
    (ht : (C.ins p.tx)[i]? = some txin) (hp : p.ins[i]? = some pin) :
    ∃ script raw spk, scriptQuorum pin.witnessScript pin.redeem = some (script, s.m, s.n) ∧
      rawOf script = some raw ∧ pin.scriptPubkey C txin = some (some spk) ∧
      ((pin.witnessScript = some script ∧ pin.redeem = none ∧ spk.cmds = [.op 0, .push (H.sha256 raw)]) ∨
       (pin.witnessScript = none ∧ pin.redeem = some script ∧ pin.prevOut = none ∧
          spk.cmds = [.op 0xA9, .push (H.hash160 raw), .op 0x87])) := by
  have D := describe_described h
  have hok := D.input ht hp
  have V := D.validIn ht hp
  obtain ⟨script, raw, hq, hraw⟩ := hok.quorum_eq
  rcases scriptQuorum_some hq with ⟨hw, _⟩ | ⟨hw, hr, hrq⟩
  · have hr : pin.redeem = none := hok.oneScript.resolve_left (by rw [hw]; exact Option.some_ne_none _)
    obtain ⟨spk, h1, h2, h3⟩ : ∃ spk, pin.scriptPubkey C txin = some (some spk) ∧ isP2wsh spk = true ∧
        spk.cmds[1]? = scriptSha256 H script := by
      cases hpo : pin.prevOut with
      | none =>
        obtain ⟨spk, h1, h2, h3, _⟩ := V.lWitness hpo hw
        exact ⟨spk, h1, h2, h3⟩
      | some wutxo =>
        obtain ⟨spk, h1, _⟩ := V.wSpk hpo
        obtain ⟨h2, h3⟩ := (V.wWitness hpo h1 hw).1 hr
        exact ⟨spk, h1, h2, by rw [V.spk_cmds hpo h1]; exact h3⟩
    exact ⟨script, raw, spk, hq, hraw, h1, Or.inl ⟨hw, hr, isP2wsh_cmds h2 (h3.trans (scriptSha256_eq hraw))⟩⟩
  · cases hpo : pin.prevOut with
    | none =>
      obtain ⟨spk, h1, h2, _, h3, _, _⟩ := V.lRedeem hpo hr
      exact ⟨script, raw, spk, hq, hraw, h1,
        Or.inr ⟨hw, hr, rfl, isP2sh_cmds h2 (h3.trans (scriptHash160_eq hraw))⟩⟩
    | some wutxo =>
      -- witness UTXO + RedeemScript: the scriptPubKey must be p2sh (F11g), then the RedeemScript a witness
      -- program (F11f) — which a script ending in OP_CHECKMULTISIG is not
      exfalso
      obtain ⟨spk, h1, _⟩ := V.wSpk hpo
      exact Bool.false_ne_true ((not_witnessProgram_of_last_op (redeemQuorum_eq_some_iff.mp hrq).1).symm.trans
        (V.wRedeem hpo h1 hr).2)

/-- further facts about the scripts of a summarised input: WitnessScript and RedeemScript are not both
    attached (so a P2SH-P2WSH input is never summarised), and — in the RedeemScript case and in the
    WitnessScript-with-witness-UTXO case — the named pubkeys occur in the script.  (For a WitnessScript next
    to a non-witness UTXO only, `PSBTIn.validate` does not look the named pubkeys up in the script; their
    derivations are still verified, see `input_keys_derive`.) -/
theorem input_script_details {Tx} (cfg : DescribeCfg) (H : Hashes) (C : TxCodec Tx) (O : Oracles) (cm : Dict Bytes)
    (p : Psbt Tx) (s : Summary) (h : describe cfg H C O cm p = some s)
    (i : Nat) (txin : TxInV) (pin : PIn Tx)
    (ht : (C.ins p.tx)[i]? = some txin) (hp : p.ins[i]? = some pin) :
    (pin.witnessScript = none ∨ pin.redeem = none) ∧
    (pin.prevOut = none → ∀ r, pin.redeem = some r → namedInScript pin.namedPubs r = true) ∧
    (∀ wutxo, pin.prevOut = some wutxo → ∀ ws, pin.witnessScript = some ws →
      namedInScript pin.namedPubs ws = true) := by
  have D := describe_described h
  have V := D.validIn ht hp
  refine ⟨(D.input ht hp).oneScript, fun hpo r hr => ?_, fun wutxo hpo ws hw => ?_⟩
  · obtain ⟨_, _, _, _, _, _, h5⟩ := V.lRedeem hpo hr
    exact h5
  · obtain ⟨_, h1, _⟩ := V.wSpk hpo
    exact (V.wWitness hpo h1 hw).2.2.2

/-- the keys and quorum of a summarised input: as many named pubkeys as the map has cosigners, each the
    key its cosigner's xpub derives at the stated path; the script's quorum is the summary's `(m, n)`, its
    serialisation exists, and `n` is the number of cosigners -/
theorem input_keys_derive {Tx} (cfg : DescribeCfg) (H : Hashes) (C : TxCodec Tx) (O : Oracles) (cm : Dict Bytes)
    (p : Psbt Tx) (s : Summary) (h : describe cfg H C O cm p = some s)
    (i : Nat) (txin : TxInV) (pin : PIn Tx)
    (ht : (C.ins p.tx)[i]? = some txin) (hp : p.ins[i]? = some pin) :
    (hmapOf cm p).length = pin.namedPubs.length ∧ s.n = ((hmapOf cm p).length : Int) ∧
    (∃ script raw, scriptQuorum pin.witnessScript pin.redeem = some (script, s.m, s.n) ∧
      rawOf script = some raw) ∧
    (∀ sec rawPath, (sec, rawPath) ∈ pin.namedPubs →
      ∃ body, dget (hmapOf cm p) (rawPath.take Gen.psbtFingerprintWidth) = some body ∧
        deriveAt O body rawPath = some sec) :=
  have D := describe_described h
  have hok := D.input ht hp
  ⟨hok.nNamed, D.n, hok.quorum_eq, fun _ _ hmem => hok.derives hmem⟩

/-- an input with both a WitnessScript and a RedeemScript (P2SH-P2WSH) is never summarised -/
theorem tamper_both_scripts_input {Tx} (cfg : DescribeCfg) (H : Hashes) (C : TxCodec Tx) (O : Oracles)
    (cm : Dict Bytes) (p : Psbt Tx) (i : Nat) (txin : TxInV) (pin : PIn Tx) (ws r : Script)
    (ht : (C.ins p.tx)[i]? = some txin) (hp : p.ins[i]? = some pin)
    (hw : pin.witnessScript = some ws) (hr : pin.redeem = some r) :
    describe cfg H C O cm p = none := by
  refine describe_eq_none fun _ D => ?_
  have := (D.input ht hp).notBoth
  simp [hw, hr] at this

example : (Toy.codec.ins Toy.psbt.tx)[0]? = some Toy.txin ∧ Toy.psbt.ins[0]? = some Toy.pin :=
  ⟨rfl, rfl⟩

/-! ### the hypotheses of the `tamper_*` theorems are satisfiable

Each theorem's hypotheses are equations about fields of the PSBT plus one (in)equation describing the
tampering; below, half of them are instantiated on variants of the toy PSBT `Toy.psbt` (an honest 1-of-2
P2WSH spend, summarised above), by applying the theorem itself.  The remaining ones
(`tamper_foreign_input_script`, `tamper_foreign_output_witness_script`, `..._p2sh_p2wsh`,
`tamper_witness_utxo_on_legacy`, `tamper_prev_tx`, `tamper_missing_utxo`, `tamper_both_scripts_input`, `tamper_*_input`,
`tamper_foreign_fingerprint_*`) have hypotheses of the same shape. -/

example : describe .repaired Toy.hashes Toy.codec Toy.oracles Toy.cmap Toy.psbtSwapped = none :=
  tamper_swapped_spk _ _ _ _ _ _ 0 Toy.swappedOut Toy.swappedMap (Toy.walletScript 6)
    rfl rfl rfl rfl (by decide +kernel)

example : describe .repaired Toy.hashes Toy.codec Toy.oracles Toy.cmap Toy.psbtOp1 = none :=
  tamper_witness_script_spk _ _ _ _ _ _ 0 Toy.op1Out Toy.changeMap (Toy.walletScript 6)
    rfl rfl rfl
    (by
      rintro (h | ⟨h, _⟩)
      · revert h; decide +kernel
      · revert h; decide +kernel)

example : describe .repaired Toy.hashes Toy.codec Toy.oracles Toy.cmap Toy.psbtForeignWs = none :=
  tamper_foreign_input_witness_script _ _ _ _ _ _ 0 Toy.txin Toy.pinForeignWs
    { amount := 100, spk := Toy.p2wshOf (Toy.walletScript 5) } (Toy.walletScript 7)
    rfl rfl rfl rfl rfl (by decide +kernel)

example : describe .repaired Toy.hashes Toy.codec Toy.oracles Toy.cmap Toy.psbtAmount = none :=
  tamper_utxo_amount _ _ _ _ _ _ 0 Toy.txin Toy.pinBoth Toy.prevT
    { amount := 1000, spk := Toy.p2wshOf (Toy.walletScript 5) }
    rfl rfl rfl rfl
    (by
      intro utxo hu
      have : utxo = { amount := 100, spk := Toy.p2wshOf (Toy.walletScript 5) } := by
        have h0 : (Toy.codec.outs Toy.prevT)[Toy.txin.prevIndex]? =
            some { amount := 100, spk := Toy.p2wshOf (Toy.walletScript 5) } := rfl
        rw [h0] at hu
        exact (Option.some.inj hu).symm
      subst this
      left; decide +kernel)

example : describe .repaired Toy.hashes Toy.codec Toy.oracles Toy.cmap Toy.psbtOneCosigner = none :=
  tamper_one_cosigner_change _ _ _ _ _ _ rfl 0 Toy.oneCosigner.1 Toy.oneCosigner.2 0 1
    (Toy.body1 ++ [6], Toy.fp1 ++ [6, 0, 0, 0]) (Toy.body1 ++ [7], Toy.fp1 ++ [7, 0, 0, 0])
    rfl rfl rfl rfl (by decide +kernel) rfl

example : describe .repaired Toy.hashes Toy.codec Toy.oracles Toy.cmap Toy.psbtTwoChange = none :=
  tamper_second_change _ _ _ _ _ _ 0 1 Toy.changeOut Toy.change7.1 Toy.changeMap Toy.change7.2
    rfl rfl (by decide +kernel) rfl rfl (by decide +kernel) (by decide +kernel)

example : describe .repaired Toy.hashes Toy.codec Toy.oracles Toy.cmap Toy.psbtQuorum = none :=
  tamper_changed_quorum _ _ _ _ _ _ 0 Toy.txin Toy.pin (Toy.walletScript 5) 1 2 0 Toy.quorum22.1 Toy.quorum22.2
    rfl rfl rfl rfl rfl (by decide +kernel)
    (by
      intro so hq
      have h0 : scriptQuorum Toy.quorum22.2.witnessScript Toy.quorum22.2.redeem =
          some ({ cmds := [.op 82, .push (Toy.body1 ++ [6]), .push (Toy.body2 ++ [6]), .op 82, .op 174] }, 2, 2) := by
        decide +kernel
      rw [h0] at hq
      have := (Prod.mk.inj (Prod.mk.inj (Option.some.inj hq)).2).1
      revert this; decide +kernel)

example : describe .repaired Toy.hashes Toy.codec Toy.oracles Toy.cmap Toy.psbtNotPlain = none :=
  tamper_not_plain_multisig _ _ _ _ _ _ rfl 0 Toy.notPlain.1 Toy.notPlain.2
    rfl rfl (by decide +kernel)
    (by
      intro script m n hq
      have h0 : scriptQuorum Toy.notPlain.2.witnessScript Toy.notPlain.2.redeem = some (Toy.notPlainScript, 1, 2) := by
        decide +kernel
      rw [h0] at hq
      obtain ⟨rfl, rfl, rfl⟩ : Toy.notPlainScript = script ∧ (1 : Int) = m ∧ (2 : Int) = n := by
        have := Option.some.inj hq
        exact ⟨(Prod.mk.inj this).1, (Prod.mk.inj (Prod.mk.inj this).2).1, (Prod.mk.inj (Prod.mk.inj this).2).2⟩
      decide +kernel)

example : describe .repaired Toy.hashes Toy.codec Toy.oracles Toy.cmap Toy.psbtWrongPath = none :=
  tamper_wrong_derivation_output _ _ _ _ _ _ 0 Toy.wrongPath.1 Toy.wrongPath.2
    (Toy.body1 ++ [7]) (Toy.fp1 ++ [6, 0, 0, 0]) Toy.body1
    rfl rfl (by decide +kernel) rfl (by decide +kernel)

example : describe .repaired Toy.hashes Toy.codec Toy.oracles Toy.cmap Toy.psbtUnchecked = none :=
  tamper_witness_script_without_witness_utxo _ _ _ _ _ _ 0 Toy.txin Toy.pinUnchecked (Toy.walletScript 5)
    rfl rfl rfl rfl
    (by
      rintro ⟨spk, h1, _, h3⟩
      have h0 : Toy.pinUnchecked.scriptPubkey Toy.codec Toy.txin =
          some (some (Toy.p2wshOf { cmds := [.op 82, .push (Toy.body1 ++ [5]), .push (Toy.body2 ++ [5]), .op 82, .op 174] })) := by
        decide +kernel
      rw [h0] at h1
      cases h1
      revert h3; decide +kernel)

example : describe .repaired Toy.hashes Toy.codec Toy.oracles Toy.cmap Toy.psbtUnchecked2 = none :=
  tamper_redeem_on_non_p2sh _ _ _ _ _ _ 0 Toy.txin Toy.pinUnchecked2
    { amount := 100, spk := Toy.p2wshOf { cmds := [.op 82, .push (Toy.body1 ++ [5]), .push (Toy.body2 ++ [5]), .op 82, .op 174] } }
    (Toy.p2wshOf { cmds := [.op 82, .push (Toy.body1 ++ [5]), .push (Toy.body2 ++ [5]), .op 82, .op 174] })
    (Toy.walletScript 5)
    rfl rfl rfl rfl rfl rfl

/-! ## D. the defects, with the repair flags off -/

/-- F11a: without the fingerprint test, a change script made of two keys of ONE cosigner (each with that
    cosigner's fingerprint and a valid path) is labelled change — conclusion B.3 fails. -/
theorem F11a_witness :
    ∃ s d, describe { distinctXfps := false, plainMultisig := true } Toy.hashes Toy.codec Toy.oracles Toy.cmap
        Toy.psbtOneCosigner = some s ∧
      s.outputs[0]? = some d ∧ d.isChange = true ∧
      ¬(Toy.oneCosigner.2.namedPubs.map (fun e => e.2.take Gen.psbtFingerprintWidth)).Nodup := by
  exact ⟨Toy.summary, { sats := 60, isChange := true }, by decide +kernel, rfl, rfl, by decide +kernel⟩

/-- F11e: without the plain-multisig test, `1 <k1> <k2> OP_2DROP 1 <a> <b> 2 OP_CHECKMULTISIG` — which
    `a` or `b` alone can spend — is labelled change because `get_quorum` reads 1-of-2 off its ends and the
    named keys occur in it — conclusion B.2 fails. -/
theorem F11e_witness :
    ∃ s d, describe { distinctXfps := true, plainMultisig := false } Toy.hashes Toy.codec Toy.oracles Toy.cmap
        Toy.psbtNotPlain = some s ∧
      s.outputs[0]? = some d ∧ d.isChange = true ∧
      scriptQuorum Toy.notPlain.2.witnessScript Toy.notPlain.2.redeem = some (Toy.notPlainScript, s.m, s.n) ∧
      plainMultisigOf Toy.notPlainScript s.n Toy.notPlain.2.namedPubs = false := by
  exact ⟨Toy.summary, { sats := 60, isChange := true }, by decide +kernel, rfl, rfl, by decide +kernel, by decide +kernel⟩

/-! ## E. the amounts summed are the amounts of the outputs being spent -/

/-- For an input map produced by PSBTIn.parse from ANY bytes and accepted by PSBTIn.validate, the
    recorded value (what `summary_totals` sums, `tx_in._value` in the code) is: with a non-witness UTXO,
    the amount of the previous transaction's output the input spends (whose hash `input_utxo_matches`
    ties to the outpoint) — also when a witness UTXO is present as well (finding F11d, repaired: the two
    must agree); otherwise the amount of the witness UTXO (which segwit signatures commit to). -/
theorem input_value_is_utxo_amount {Tx : Type} (H : Hashes) (C : TxCodec Tx) (O : Oracles) (net : Option Net)
    (txin : TxInV) (s : Bytes) (p : PIn Tx) (rest : Bytes)
    (hp : parseInMap C O net txin.prevIndex s = some (p, rest)) (hv : validateIn H C txin p = some ()) :
    (∀ t, p.prevTx = some t → ∃ o, (C.outs t)[txin.prevIndex]? = some o ∧ p.value = some o.amount) ∧
    (∀ o, p.prevTx = none → p.prevOut = some o → p.value = some o.amount) :=
  value_is_spent_output_amount H C txin p (parseInMap_valueInv C O net txin.prevIndex s p rest hp) hv

end Buidl.Props.C11
