/-
  C01 (extension) — message signing: PrivateKey.sign_message / S256Point.verify_message.
  The theorems are corollaries of the digest-level theorems of Props/C01.lean
  for the digest `big_endian_to_int(hash256(message))`, `hash256` an arbitrary function.
-/
import Buidl.Props.C01
import Buidl.Model.ECDSAMessage
namespace Buidl.Props.C01Message
open Buidl Buidl.EC Buidl.ECDSA

/-- `sign_message` is `sign` on the big-endian integer of `hash256(message)` and `verify_message`
    is `verify` on the same integer, for every hash function: whatever is proved about digests
    transfers to messages, and the two functions agree on the digest they use -/
theorem message_functions_use_one_digest (hash256 : Bytes → Bytes) (hmac : Bytes → Bytes → Bytes)
    (fuel d : Nat) (Q : Pt) (m : Bytes) (r s : Nat) :
    signMessage hash256 hmac fuel d m = sign hmac fuel d (beToNat (hash256 m)) ∧
    verifyMessage hash256 Q m r s = verify Q (beToNat (hash256 m)) r s := ⟨rfl, rfl⟩

/-- a message signature produced by the library verifies under the matching public key (same
    explicit negligible-event hypotheses as `verify_sign`), for every hash function and message -/
theorem verify_message_sign_message (hash256 : Bytes → Bytes) (hmac : Bytes → Bytes → Bytes)
    (fuel d : Nat) (m : Bytes) (r s : Nat)
    (h : signMessage hash256 hmac fuel d m = .ok (r, s)) (hr : r < N) (hs0 : s ≠ 0) :
    verifyMessage hash256 (smul (d : Int) G) m r s = some true :=
  C01.verify_sign hmac fuel d (messageDigest hash256 m) r s h hr hs0

/-- an accepted message signature is a valid ECDSA signature on the digest of exactly that
    message, with r and s in [1, n-1] (so a signature accepted for two messages is valid on
    both digests: nothing about a message is trusted beyond its hash256) -/
theorem verify_message_sound (hash256 : Bytes → Bytes) (Q : Pt) (m : Bytes) (r s : Nat)
    (h : verifyMessage hash256 Q m r s = some true) :
    Spec.ECDSA.Valid Q (beToNat (hash256 m)) r s ∧ 1 ≤ r ∧ r < N ∧ 1 ≤ s ∧ s < N :=
  ⟨C01.verify_sound Q _ r s h, C01.verify_true_in_range Q _ r s h⟩

/-- r or s equal to 0 or ≥ n is refused for every message -/
theorem verify_message_out_of_range (hash256 : Bytes → Bytes) (Q : Pt) (m : Bytes) (r s : Nat)
    (h : r = 0 ∨ s = 0 ∨ r ≥ N ∨ s ≥ N) : verifyMessage hash256 Q m r s = some false :=
  C01.out_of_range_rejected Q _ r s h

/-- message signatures are low-S like digest signatures -/
theorem sign_message_lowS (hash256 : Bytes → Bytes) (hmac : Bytes → Bytes → Bytes) (fuel d : Nat) (m : Bytes)
    (r s : Nat) (h : signMessage hash256 hmac fuel d m = .ok (r, s)) : s ≤ (N - 1) / 2 :=
  C01.sign_lowS hmac fuel d (messageDigest hash256 m) r s h

/-- the digest of a message is the big-endian integer of its hash (here a constant two-byte hash) -/
example : messageDigest (fun _ => [0x01, 0x00]) [0x61] = 256 := by decide

end Buidl.Props.C01Message
