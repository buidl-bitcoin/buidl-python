/-
  C13 ∘ C12 ∘ C06 ∘ C02 — P2TR script path, end to end with REAL BIP340 signatures: the tapscript leaves
  of TapRootMultiSig (`multi_leaf_tree`: one k-of-k leaf per k-subset; `single_leaf`: one k-of-n leaf) are
  spendable with the signatures `PrivateKey.sign_schnorr` produces.  Props/C13Compose states these spends with
  the interpreter's Schnorr oracle (`AllSigned env …`, `ChecksOK` / `countValid`); here the environment is
  `realEnv (tapEnv H base) zOf msgOf c` — real signature oracles AND real taproot oracles — and the oracle
  hypotheses are discharged from C02 (`sign_verifies`, `verifySchnorr_eq_spec`).

  `LibSchnorrSig sha256 msgOf x s`: `x = xonly(d·G)`, `s` = the BIP340 signature of the 32-byte digest `m` by `d`
  (64 bytes if `msgOf 0 = some m`, or with the hash-type byte of `m` appended), BIP340 nonce ≠ 0.
  `msgOf` is the digest function (`tx_obj.sig_hash(input_index, hash_type)` of the taproot sighash, C05).
-/
import Buidl.Props.C13Compose
namespace Buidl.Props.C13ComposeEC
open Buidl Buidl.EC Buidl.Script Buidl.MuSig Buidl.Interp Buidl.Compose Buidl.ComposeTap Buidl.ComposeTapEC
open Buidl.Taproot (Hashes Leaf Tree ControlBlock cbAccepts)

attribute [local irreducible] pmul

variable (base : Env) (zOf : Nat → Option Nat) (msgOf : Nat → Option Bytes) (c : Schnorr.Cache)

/-- **`sign_schnorr` makes library signatures**: for every secret in [1, n−1], 32-byte digest and aux, under any
    tag-cache state satisfying the invariant (the signer's cache need not be the verifier's) -/
theorem sign_schnorr_is_lib (cs : Schnorr.Cache) (hcs : Schnorr.CacheOK base.sha256 cs) (d : Nat) (m a : Bytes)
    (hd1 : 1 ≤ d) (hd2 : d < N) (hm : m.length = 32) (ha : a.length = 32)
    (hk : Spec.BIP340.nonce base.sha256 d m a ≠ some 0) :
    ∃ sig R sv c', Schnorr.signSchnorr base.sha256 cs d m (some a) = some ((R, sv), c') ∧
      Schnorr.serialize R sv = some sig ∧
      (msgOf 0 = some m → LibSchnorrSig base.sha256 msgOf (xonly (smul (d : Int) G)) sig) ∧
      (∀ htb : UInt8, msgOf htb.toNat = some m →
        LibSchnorrSig base.sha256 msgOf (xonly (smul (d : Int) G)) (sig ++ [htb])) := by
  obtain ⟨sig, R, sv, c', hs, _, hser, _, hspec, _⟩ :=
    Props.C02.sign_verifies base.sha256 cs hcs d m a hd1 hd2 hm ha hk
  exact ⟨sig, R, sv, c', hs, hser,
    fun hmsg => ⟨d, m, a, sig, hd1, hd2, hm, ha, hk, rfl, hspec, Or.inl ⟨hmsg, rfl⟩⟩,
    fun htb hmsg => ⟨d, m, a, sig, hd1, hd2, hm, ha, hk, rfl, hspec, Or.inr ⟨htb, hmsg, rfl⟩⟩⟩

/-- **a library signature passes op_checksig_schnorr / op_checksigadd_schnorr** under the real oracles -/
theorem schnorr_check_signed (hc : Schnorr.CacheOK base.sha256 c) {x s : Bytes}
    (h : LibSchnorrSig base.sha256 msgOf x s) :
    schnorrCheck (realEnv base zOf msgOf c) x s = .ok (some true) := by
  obtain ⟨d, m, a, sig, hd1, hd2, hm, ha, hk, rfl, hspec, hcase⟩ := h
  obtain ⟨sig', R, sv, c', _, _, _, hlen, hspec', hver⟩ :=
    Props.C02.sign_verifies base.sha256 c hc d m a hd1 hd2 hm ha hk
  obtain ⟨h64, h65⟩ := schnorrCheck_of_bip340 base zOf msgOf c hc _ m sig' (xonly_length _) hlen hver
  cases hspec.symm.trans hspec'
  rcases hcase with ⟨hmsg, rfl⟩ | ⟨htb, hmsg, rfl⟩
  · exact h64 hmsg
  · exact h65 htb hmsg

/-- one library signature per key: `AllSigned`; signatures or empty elements: all checkable, the valid ones are
    the non-empty ones -/
theorem signers_checks (hc : Schnorr.CacheOK base.sha256 c) {keys sigs : List Bytes} :
    (List.Forall₂ (LibSchnorrSig base.sha256 msgOf) keys sigs → AllSigned (realEnv base zOf msgOf c) keys sigs) ∧
    (List.Forall₂ (SignedOrEmpty base.sha256 msgOf) keys sigs →
      ChecksOK (realEnv base zOf msgOf c) keys sigs ∧
      countValid (realEnv base zOf msgOf c) keys sigs = (sigs.filter (fun s => !s.isEmpty)).length) := by
  refine ⟨fun h => h.imp fun _ _ => schnorr_check_signed base zOf msgOf c hc, fun h => ?_⟩
  induction h with
  | nil => exact ⟨trivial, rfl⟩
  | @cons x s xs ss h1 _ ih =>
    obtain ⟨ih1, ih2⟩ := ih
    rcases h1 with hl | ⟨rfl, Q, hQ⟩
    · have hv := schnorr_check_signed base zOf msgOf c hc hl
      have hne : (!s.isEmpty) = true := by
        cases s with
        | cons _ _ => rfl
        | nil => exact absurd rfl (sig_ne_nil_of_true hv)
      refine ⟨⟨⟨_, hv⟩, ih1⟩, ?_⟩
      simp only [countValid, sigCount, if_pos hv, ih2, List.filter_cons, hne, if_true, List.length_cons, Nat.add_comm]
    · -- the empty element of a key that parses: checked, not counted
      have hv : schnorrCheck (realEnv base zOf msgOf c) x [] = .ok none :=
        schnorrCheck_nil _ x (by simp only [realEnv, hQ, Option.isSome_some, if_true])
      refine ⟨⟨⟨_, hv⟩, ih1⟩, ?_⟩
      simp [countValid, sigCount, hv, ih2]

/-- **`multi_leaf_tree`, end to end**: setting of `C13Compose.subset_spend` (no timelock, pairwise different
    x-only keys, internal key `a·G ≠ ∞`, 32-byte tagged hashes).  For every k-subset `S` of the participants:
    its leaf exists; with the control block the builder returns (depth ≤ 128), the output key `Q`, the script
    bytes and the block bytes exist, and the witness `[sig of the last key, …, sig of x0, script, control block]`
    in which every key of `S` (sorted x-only order `x0 :: rest`) carries the signature `sign_schnorr` made with
    its secret is accepted for the output `OP_1 <xonly Q>` under the real signature and taproot oracles -/
theorem subset_spend_signed (H : Hashes) (hL : ∀ m, (H.tapLeaf m).length = 32) (hB : ∀ m, (H.tapBranch m).length = 32)
    (hc : Schnorr.CacheOK base.sha256 c) {T : TapRootMultiSig} {t : Tree}
    (ht : multiLeafTree T none none = some t) (hnd : (T.points.map xonly).Nodup)
    {S : List Pt} (hS : S.Nodup) (hsub : ∀ p ∈ S, p ∈ T.points) (hlen : S.length = T.k)
    (a : Int) (ha : smul a G ≠ .inf) :
    ∃ cs x0 rest, multiSigCmds S T.k none none = some cs ∧ ({ script := { cmds := cs } } : Leaf) ∈ t.leaves ∧
      sortBytes (S.map xonly) = x0 :: rest ∧ cs = leafScript x0 rest T.k ∧
      ∀ cb, t.controlBlock H (smul a G) (some { script := { cmds := cs } }) = some cb → cb.hashes.length ≤ 128 →
        ∃ Q rawTap cbBytes, t.externalPubkey H (smul a G) = some Q ∧ serCmds cs = some rawTap ∧
          cb.serialize = some cbBytes ∧
          ∀ sigs fuel, List.Forall₂ (LibSchnorrSig base.sha256 msgOf) (x0 :: rest) sigs → 3 * T.k + 4 ≤ fuel →
            verifyInput Cfg.repaired (realEnv (tapEnv H base) zOf msgOf c) [] (p2trSpk (xonly Q))
              (sigs.reverse ++ [rawTap, cbBytes]) fuel = .accept := by
  obtain ⟨cs, x0, rest, h1, h2, h3, h4, hrest⟩ := Props.C13Compose.subset_spend H hL hB
    (realEnv (tapEnv H base) zOf msgOf c) ⟨rfl, rfl⟩ ht hnd hS hsub hlen a ha
  refine ⟨cs, x0, rest, h1, h2, h3, h4, fun cb hcb hdepth => ?_⟩
  obtain ⟨Q, rawTap, cbBytes, hQ, hser, hcbs, _, hcomp, _⟩ := hrest cb hcb hdepth
  exact ⟨Q, rawTap, cbBytes, hQ, hser, hcbs, fun sigs fuel hall hf =>
    hcomp sigs fuel ⟨(signers_checks (tapEnv H base) zOf msgOf c hc).1 hall, hf⟩⟩

/-- **`single_leaf` (one k-of-n leaf), end to end**: one witness element per key in sorted x-only order
    (reversed on the wire): the library signature of the keys that sign, the empty element for the others
    (keys are well-formed x-only keys); when exactly the threshold many signed, the spend is accepted -/
theorem single_leaf_spend_signed (H : Hashes) (hL : ∀ m, (H.tapLeaf m).length = 32)
    (hB : ∀ m, (H.tapBranch m).length = 32) (hc : Schnorr.CacheOK base.sha256 c) {T : TapRootMultiSig} {t : Tree}
    (ht : singleLeaf T none none = some t) (hk : 1 ≤ T.k) (hn : T.points.length ≤ 2 ^ 32)
    (a : Int) (ha : smul a G ≠ .inf) :
    ∃ cs x0 rest, multiSigCmds T.points T.k none none = some cs ∧ t = .leaf { script := { cmds := cs } } ∧
      sortBytes (T.points.map xonly) = x0 :: rest ∧ cs = leafScript x0 rest T.k ∧
      ∀ cb, t.controlBlock H (smul a G) (some { script := { cmds := cs } }) = some cb →
        ∃ Q rawTap cbBytes, t.externalPubkey H (smul a G) = some Q ∧ serCmds cs = some rawTap ∧
          cb.serialize = some cbBytes ∧
          ∀ sigs fuel, List.Forall₂ (SignedOrEmpty base.sha256 msgOf) (x0 :: rest) sigs →
            (sigs.filter (fun s => !s.isEmpty)).length = leafThreshold rest T.k →
            sigs.length + 2 * rest.length + 6 ≤ fuel →
            verifyInput Cfg.repaired (realEnv (tapEnv H base) zOf msgOf c) [] (p2trSpk (xonly Q))
              (sigs.reverse ++ [rawTap, cbBytes]) fuel = .accept := by
  obtain ⟨cs, x0, rest, h1, h2, h3, h4, hrest⟩ := Props.C13Compose.single_leaf_spend H hL hB
    (realEnv (tapEnv H base) zOf msgOf c) ⟨rfl, rfl⟩ ht hk hn a ha
  refine ⟨cs, x0, rest, h1, h2, h3, h4, fun cb hcb => ?_⟩
  obtain ⟨Q, rawTap, cbBytes, hQ, hser, hcbs, _, hcomp, _⟩ := hrest cb hcb
  refine ⟨Q, rawTap, cbBytes, hQ, hser, hcbs, fun sigs fuel hall hcnt hf => ?_⟩
  obtain ⟨hok, hcv⟩ := (signers_checks (tapEnv H base) zOf msgOf c hc).2 hall
  exact hcomp sigs fuel ⟨hok, hcv.trans hcnt, hf⟩

/-! ## the hypotheses are satisfiable -/

-- nobody signed: every element empty, every key a well-formed x-only key (here: the generator's)
example (sha256 : Bytes → Bytes) (msgOf : Nat → Option Bytes) :
    List.Forall₂ (SignedOrEmpty sha256 msgOf) [xonly G] [[]] :=
  List.Forall₂.cons (Or.inr ⟨rfl, _, parseXonly_xonly G_valid G_ne_inf⟩) List.Forall₂.nil

end Buidl.Props.C13ComposeEC
