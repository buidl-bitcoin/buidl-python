/-
  C10Tx — the transaction codec of C04 (Buidl.Model.Tx) satisfies the laws that the PSBT theorems (C10, C11)
  assume of their abstract `TxCodec`.  Each theorem is a reading of a C04 codec theorem at `psbtCodec`
  (Buidl.Proofs.TxCodecInst).

  `TxCodec` is a record of functions; its laws are fields of the PSBT well-formedness predicates
  (`GlobalWF.tx`, `InMapWF.prevTx`, `PsbtMapWF.insSame`, `PsbtMapWF.outsSame`).  The theorems below are those
  fields, for `psbtCodec` — definitionally the codec of the PSBT drivers (`drv_codec`) — with hypotheses
  that are decidable properties of the transactions themselves (C04's `TxWF`, `canonTx t = t`, `Reenc t`).
-/
import Buidl.Proofs.TxCodecInst
namespace Buidl.Props.C10Tx
open Buidl Buidl.Script Buidl.Psbt Buidl.Tx

/-- the instance proved about is the one the PSBT drivers run -/
theorem drv_codec : PsbtDrv.txCodec = psbtCodec Hash.hash256 PsbtDrv.finalSer := rfl

variable (hash256 : Bytes → Bytes) (fin : Tx → List (Option Script × Option (List Bytes)) → Option Bytes)

/-- `GlobalWF.tx` holds for every well-formed unsigned transaction, with `t' = coreTx t` -/
theorem global_tx_law (t : Tx) (wf : TxWF t) :
    ∃ b, (psbtCodec hash256 fin).serializeLegacy t = some b ∧
      (∀ rest, (psbtCodec hash256 fin).parseLegacy (b ++ rest) = some (coreTx t, rest)) ∧
      (psbtCodec hash256 fin).serializeLegacy (coreTx t) = some b :=
  let ⟨b, hs, hp⟩ := legacy_roundTrip_wf wf
  ⟨b, hs, hp, (serializeLegacy_coreTx wf).trans hs⟩

/-- `PsbtMapWF.insSame` -/
theorem ins_same_law (t : Tx) : (psbtCodec hash256 fin).ins (coreTx t) = (psbtCodec hash256 fin).ins t := by
  simp only [psbtCodec, coreTx, List.map_map]
  apply List.map_congr_left
  intro i _
  simp [stripIn, canonIn, canonScript, canon_isEmpty]

/-- `PsbtMapWF.outsSame`, for canonical output scripts -/
theorem outs_same_law (t : Tx) (hc : ∀ o ∈ t.outs, canonScript o.scriptPubkey = o.scriptPubkey) :
    (psbtCodec hash256 fin).outs (coreTx t) = (psbtCodec hash256 fin).outs t := by
  simp only [psbtCodec, coreTx, List.map_map]
  apply List.map_congr_left
  intro o ho
  simp [canonOut, hc o ho]

/-- `InMapWF.prevTx` (first two conjuncts) for a well-formed transaction in canonical form -/
theorem prev_tx_law (t : Tx) (wf : TxWF t) (hc : canonTx t = t) :
    ∃ b, (psbtCodec hash256 fin).serialize t = some b ∧
      ∀ rest, (psbtCodec hash256 fin).parse (b ++ rest) = some (t, rest) :=
  -- the codec's fields are compared with `Tx.serialize` / `Tx.parse` as functions: applied to `t`, the unifier
  -- unfolds the transaction codec instead of `psbtCodec`, which is slow to check
  show RoundTrip (psbtCodec hash256 fin).serialize (psbtCodec hash256 fin).parse t t by
    have h := tx_roundTrip_wf wf
    rwa [hc] at h

/-- `InMapWF.prevTx` for whatever the codec's own parser returned, from any bytes, when it is `Reenc` -/
theorem prev_tx_law_parsed (s r : Bytes) (t : Tx) (h : (psbtCodec hash256 fin).parse s = some (t, r)) (hr : Reenc t) :
    ∃ b, (psbtCodec hash256 fin).serialize t = some b ∧
      ∀ rest, (psbtCodec hash256 fin).parse (b ++ rest) = some (t, rest) := by
  simp only [psbtCodec] at h ⊢
  exact parsedTx_fix t (parse_yields s (t, r) h).1 hr

/-- the whole `InMapWF.prevTx` field for an input whose non-witness UTXO is well-formed and canonical and has
    the spent output -/
theorem in_map_prev_tx_field (p : PIn Tx) (idx : Nat)
    (h : ∀ t, p.prevTx = some t → TxWF t ∧ canonTx t = t ∧ idx < t.outs.length) :
    ∀ t, p.prevTx = some t → ∃ b o, (psbtCodec hash256 fin).serialize t = some b ∧
      (∀ rest, (psbtCodec hash256 fin).parse (b ++ rest) = some (t, rest)) ∧
      ((psbtCodec hash256 fin).outs t)[idx]? = some o := by
  intro t ht
  obtain ⟨wf, hc, hi⟩ := h t ht
  obtain ⟨b, h1, h2⟩ := prev_tx_law hash256 fin t wf hc
  exact ⟨b, { amount := (t.outs[idx]).amount, spk := (t.outs[idx]).scriptPubkey }, h1, h2,
    codec_outs_getElem hash256 fin t idx t.outs[idx] (List.getElem?_eq_getElem hi)⟩

/-- `GlobalWF` assembled for the concrete codec: its transaction-codec field needs nothing but `TxWF` -/
theorem global_wf (O : Oracles) (n : Net) (p : Psbt Tx) (wf : TxWF p.tx)
    (hdNodup : DNodup p.hdPubs) (hd : ∀ e ∈ p.hdPubs, e.1 = e.2.raw ∧ HdWF O n e.2)
    (extra : ExtraWF unknownGlobalKey p.extra) :
    GlobalWF (psbtCodec hash256 fin) O n p (coreTx p.tx) :=
  ⟨global_tx_law hash256 fin p.tx wf, hdNodup, hd, extra⟩

/-- C10's global-map round trip, instantiated: for a PSBT whose unsigned transaction is well-formed (C04),
    reading the global pairs of its serialisation yields the re-parsed transaction `coreTx p.tx`, the xpubs and
    the unknowns in sorted order — no hypothesis about the codec is left -/
theorem global_map_roundtrip_tx (O : Oracles) (n : Net) (p : Psbt Tx) (wf : TxWF p.tx)
    (hdNodup : DNodup p.hdPubs) (hd : ∀ e ∈ p.hdPubs, e.1 = e.2.raw ∧ HdWF O n e.2)
    (extra : ExtraWF unknownGlobalKey p.extra) {es : List (Bytes × Bytes)}
    (he : p.globalEntries (psbtCodec hash256 fin) = some es) :
    Steps (globalStep (psbtCodec hash256 fin) O) { network := some n } es
      { tx := some (coreTx p.tx), hdPubs := sortedItems p.hdPubs, extra := sortedItems p.extra, network := some n } :=
  global_entries_steps (psbtCodec hash256 fin) O n p (coreTx p.tx) (global_wf hash256 fin O n p wf hdNodup hd extra) he

/-- C11's "the non-witness UTXO hashes to the outpoint" speaks of C04's transaction id -/
theorem hash_is_txid (t : Tx) : (psbtCodec hash256 fin).hash t = t.hash hash256 := rfl

end Buidl.Props.C10Tx
