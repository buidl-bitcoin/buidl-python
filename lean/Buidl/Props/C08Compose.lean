/-
  C08 ∘ C01 ∘ C03 ∘ C06 — an HD wallet end to end: the key a watch-only wallet derives PUBLICLY (BIP32 CKDpub
  along a non-hardened path) yields the P2WPKH program that the signer's PRIVATELY derived key can spend:
  the derived public key's SEC encoding is the signer's public key (C08 `priv_pub_traverse_consistent` /
  `pub_priv_child_consistent`), it parses back (C03 `sec_roundtrip`), the signature of the derived secret
  verifies under it (C01 `verify_sign`) and the witness `[sig, pubkey]` is accepted by input verification with
  the real signature checks (C06 ∘ `Compose.realEnv`).  Property theorems only.

  `hmac512` (HMAC-SHA512 of BIP32), `hmac` (HMAC-SHA256 of RFC 6979) and the hash functions of `base` are
  arbitrary; hash160 of the wallet is `base.hash160`.  `zOf` is the digest function (C05).
  Hypotheses for negligible events: those of `verify_sign` (`r < n`, `s ≠ 0`).
-/
import Buidl.Props.C08
import Buidl.Props.C06Compose
namespace Buidl.Props.C08Compose
open Buidl Buidl.EC Buidl.PyStr Buidl.HD Buidl.Script Buidl.Interp Buidl.Compose

attribute [local irreducible] pmul

variable (base : Env) (zOf : Nat → Option Nat) (msgOf : Nat → Option Bytes) (c : Schnorr.Cache)
variable (hmac512 : Bytes → Bytes → Bytes)

/-- **the signer's key is the watch-only wallet's key.**  `k'` = private traverse of `path` from `k`, `q` =
    public traverse of the same path from `k.pub`; a signature `sign(k'.secret, z)` exists.  Then `q.point` is
    `k'.secret·G`, a finite curve point; both SEC encodings exist and parse back to it; and the signature
    verifies under the publicly derived point -/
theorem hd_key_verifies (path : Str) (k k' : HDPriv) (q : HDPub)
    (hk : k.traverse hmac512 base.hash160 path = some k') (hq : k.pub.traverse hmac512 base.hash160 path = some q)
    (hmac : Bytes → Bytes → Bytes) (fuel0 z r s : Nat)
    (hsign : ECDSA.sign hmac fuel0 k'.secret z = .ok (r, s)) (hr : r < N) (hs0 : s ≠ 0) :
    q.point = smul (k'.secret : Int) G ∧ Valid P A B q.point ∧ q.point ≠ .inf ∧
    (∀ cmp, ∃ pkb, sec q.point cmp = some pkb ∧ parsePoint pkb = some q.point) ∧
    ECDSA.verify q.point z r s = some true := by
  have hpt : q.point = smul (k'.secret : Int) G := by
    rw [Props.C08.priv_pub_traverse_consistent hmac512 base.hash160 path k k' q hk hq]; rfl
  obtain ⟨hd1, hd2⟩ := (ECDSA.sign_ok hsign).1
  rw [hpt]
  exact ⟨rfl, smul_valid G_valid _, EC.smul_G_ne_inf hd1 hd2, pubkey_sec hd1 hd2,
    Props.C01.verify_sign hmac fuel0 _ z r s hsign hr hs0⟩

/-- **HD wallet, P2WPKH, end to end.**  The watch-only wallet derives `q` publicly and pays to
    `OP_0 <hash160(sec(q.point))>`; the signer derives `k'` privately along the same path and signs the digest:
    the witness `[der(sign(k'.secret, z)) ‖ hashtype, sec(q.point)]` is accepted by input verification with the real
    ECDSA checks -/
theorem hd_p2wpkh_spend (path : Str) (k k' : HDPriv) (q : HDPub)
    (hk : k.traverse hmac512 base.hash160 path = some k') (hq : k.pub.traverse hmac512 base.hash160 path = some q)
    (hmac : Bytes → Bytes → Bytes) (fuel0 z r s : Nat)
    (hsign : ECDSA.sign hmac fuel0 k'.secret z = .ok (r, s)) (hr : r < N) (hs0 : s ≠ 0)
    (htb : UInt8) (hz : zOf htb.toNat = some z) (derb pkb : Bytes)
    (hder : ECDSA.der r s = some derb) (hsec : sec q.point true = some pkb)
    (h20 : (base.hash160 pkb).length = 20) (fuel : Nat) (hf : 9 ≤ fuel) :
    verifyInput Cfg.repaired (realEnv base zOf msgOf c) [] (p2wpkhSpk (base.hash160 pkb))
      [derb ++ [htb], pkb] fuel = .accept := by
  rw [(hd_key_verifies base hmac512 path k k' q hk hq hmac fuel0 z r s hsign hr hs0).1] at hsec
  exact Props.C06Compose.complete_p2wpkh_signed base zOf msgOf c hmac fuel0 k'.secret z r s hsign hr hs0 htb hz true
    derb pkb hder hsec h20 fuel hf

/-- the same for P2PKH (`DUP HASH160 <hash160(sec(q.point))> EQUALVERIFY CHECKSIG`), either SEC format -/
theorem hd_p2pkh_spend (path : Str) (k k' : HDPriv) (q : HDPub)
    (hk : k.traverse hmac512 base.hash160 path = some k') (hq : k.pub.traverse hmac512 base.hash160 path = some q)
    (hmac : Bytes → Bytes → Bytes) (fuel0 z r s : Nat)
    (hsign : ECDSA.sign hmac fuel0 k'.secret z = .ok (r, s)) (hr : r < N) (hs0 : s ≠ 0)
    (htb : UInt8) (hz : zOf htb.toNat = some z) (cmp : Bool) (derb pkb : Bytes)
    (hder : ECDSA.der r s = some derb) (hsec : sec q.point cmp = some pkb)
    (wit : List Bytes) (fuel : Nat) (hf : 7 ≤ fuel) :
    verifyInput Cfg.repaired (realEnv base zOf msgOf c) [.push (derb ++ [htb]), .push pkb]
      (p2pkhCommands (base.hash160 pkb)) wit fuel = .accept := by
  rw [(hd_key_verifies base hmac512 path k k' q hk hq hmac fuel0 z r s hsign hr hs0).1] at hsec
  exact Props.C06Compose.complete_p2pkh_signed base zOf msgOf c hmac fuel0 k'.secret z r s hsign hr hs0 htb hz cmp
    derb pkb hder hsec wit fuel hf

/-- one derivation step (`HDPrivateKey.child(i)`, `i < 2^31`): the public child exists, is the public key of the
    private child, and the private child's signature spends the P2WPKH output of the public child -/
theorem hd_child_p2wpkh_spend (k k' : HDPriv) (i : Nat) (hi : i < 2 ^ 31)
    (hchild : k.child hmac512 base.hash160 i = some k')
    (hmac : Bytes → Bytes → Bytes) (fuel0 z r s : Nat)
    (hsign : ECDSA.sign hmac fuel0 k'.secret z = .ok (r, s)) (hr : r < N) (hs0 : s ≠ 0)
    (htb : UInt8) (hz : zOf htb.toNat = some z) :
    ∃ q derb pkb, k.pub.child hmac512 base.hash160 i = some q ∧ q.point = smul (k'.secret : Int) G ∧
      ECDSA.der r s = some derb ∧ sec q.point true = some pkb ∧
      ECDSA.verify q.point z r s = some true ∧
      ((base.hash160 pkb).length = 20 → ∀ fuel, 9 ≤ fuel →
        verifyInput Cfg.repaired (realEnv base zOf msgOf c) [] (p2wpkhSpk (base.hash160 pkb))
          [derb ++ [htb], pkb] fuel = .accept) := by
  have hpub := Props.C08.pub_priv_child_consistent hmac512 base.hash160 k k' i hi hchild
  obtain ⟨derb, pkb, hder, hsec⟩ := sign_encodings hmac fuel0 k'.secret z r s hsign hr hs0 true
  refine ⟨k'.pub, derb, pkb, hpub, rfl, hder, hsec, Props.C01.verify_sign hmac fuel0 _ z r s hsign hr hs0, ?_⟩
  exact Props.C06Compose.complete_p2wpkh_signed base zOf msgOf c hmac fuel0 k'.secret z r s hsign hr hs0 htb hz true
    derb pkb hder hsec

end Buidl.Props.C08Compose
