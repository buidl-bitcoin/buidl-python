/-
  C05 — signature hashes equal the Satoshi / BIP143 / BIP341 digests for every standard hash type,
  and depend only on the current fields of the object.
  Library model: Buidl.Model.Tx
  (the code with the fixes F05a–F05f: `Cfg.repaired`); specification: Buidl.Spec.Sighash (Bitcoin
  Core's legacy `SignatureHash`, BIP143, BIP341/342, written over raw bytes, independently of the
  model).  `sha256`, `hash256` (in `H : Hashes`) and the taproot key check `xonlyOK` are arbitrary
  functions.  `Rep t st`: `st` is the raw-bytes form of the library transaction `t`, every field
  within its wire width; `RepSpent`: the preset spent outputs.

  Domain notes.  Script codes must be canonically encoded (the library parses and re-serialises
  redeem / witness scripts; `script_code_canonical` discharges this from the C04 round trip; tap scripts
  are hashed as the raw witness bytes) and,
  for the legacy algorithm, free of OP_CODESEPARATOR (`hsep`; Core strips it, the library does not —
  no standard script contains one).  BIP342's `codesep_pos` is fixed to 0xffffffff in the library.
  An empty last witness element of a stack of two or more makes `has_annex` raise (`hlast`).
-/
import Buidl.Proofs.Sighash
namespace Buidl.Props.C05
open Buidl Buidl.Script Buidl.Tx

/-! ## legacy (Satoshi / Bitcoin Core `SignatureHash`, SigVersion::BASE) -/

/-- For every transaction, input index and each of the seven hash types the serialisation the
    library hashes is Core's — including input/output pruning for ANYONECANPAY / NONE / SINGLE, the
    zeroed sequences and both cases that return the constant 1. -/
theorem legacy_eq_spec (t : Tx) (st : Spec.Sighash.Tx) (i ht : Nat) (redeem : Option Script) (codeS : Script)
    (codeRaw : Bytes) (rep : Rep t st) (hht : ht ∈ Spec.Sighash.stdHashTypes)
    (hcode : ∀ txin, t.ins[i]? = some txin → legacyCode redeem txin = some codeS)
    (hraw : rawSerialize codeS = some codeRaw) (hlen : codeRaw.length < 2 ^ 64)
    (hsep : Spec.Sighash.stripCodeSep codeRaw.length codeRaw = codeRaw) :
    sigHashLegacyPre t i redeem ht = some (legacyOfSpec (Spec.Sighash.legacy st i codeRaw ht)) :=
  legacy_pre_spec t st i ht redeem codeS codeRaw rep (htOK_std ht hht) hcode hraw hlen hsep

/-- … hence the digest (an integer, big-endian reading of the 32 bytes) is Core's digest -/
theorem legacy_digest_eq_spec (hash256 : Bytes → Bytes) (t : Tx) (st : Spec.Sighash.Tx) (i ht : Nat)
    (redeem : Option Script) (codeS : Script) (codeRaw : Bytes) (rep : Rep t st)
    (hht : ht ∈ Spec.Sighash.stdHashTypes)
    (hcode : ∀ txin, t.ins[i]? = some txin → legacyCode redeem txin = some codeS)
    (hraw : rawSerialize codeS = some codeRaw) (hlen : codeRaw.length < 2 ^ 64)
    (hsep : Spec.Sighash.stripCodeSep codeRaw.length codeRaw = codeRaw) :
    sigHashLegacy hash256 t i redeem ht = some (beToNat ((Spec.Sighash.legacy st i codeRaw ht).digest hash256)) := by
  unfold sigHashLegacy
  rw [legacy_eq_spec t st i ht redeem codeS codeRaw rep hht hcode hraw hlen hsep]
  cases Spec.Sighash.legacy st i codeRaw ht with
  | one => simp only [Option.map_some, legacyOfSpec, LegacyPre.digest, Spec.Sighash.LegacyResult.digest]; decide
  | preimage b => rfl

/-- the two historical cases: an index past the inputs, and SINGLE without a matching output, give the
    constant `1` (as the number 2^248 in the library's big-endian reading) whatever the arguments -/
theorem legacy_one_cases (hash256 : Bytes → Bytes) (t : Tx) (i ht : Nat) (redeem : Option Script)
    (h : i ≥ t.ins.length ∨ (base ht = Gen.sighashSingle ∧ i ≥ t.outs.length)) :
    sigHashLegacy hash256 t i redeem ht = some (2 ^ 248) := by
  unfold sigHashLegacy sigHashLegacyPre
  by_cases c1 : i ≥ t.ins.length
  · rw [if_pos c1]; rfl
  · rw [if_neg c1]
    rcases h with h | h
    · exact absurd h c1
    · rw [if_pos h]; rfl

/-! ## BIP143 -/

/-- For every transaction, input, script code, amount and each of the seven hash types the preimage is
    BIP143's ten items (zero hashes for ANYONECANPAY / NONE / SINGLE as specified, the hash of the
    matching output for SINGLE, zero when there is none); the object is left as it was. -/
theorem bip143_eq_spec (H : Hashes) (t : Tx) (st : Spec.Sighash.Tx) (i ht amount : Nat) (txin : TxIn)
    (redeem ws : Option Script) (code : Script) (codeRaw : Bytes)
    (rep : Rep t st) (hht : ht ∈ Spec.Sighash.stdHashTypes)
    (hin : t.ins[i]? = some txin) (hcode : scriptCode143 txin redeem ws = some code)
    (hraw : rawSerialize code = some codeRaw) (hlen : codeRaw.length < 2 ^ 64)
    (hval : txin.value = some amount) (hamt : amount < 2 ^ 64) :
    sigHashBip143Pre Cfg.repaired H { tx := t } i redeem ws ht =
      (Spec.Sighash.bip143 H.hash256 st i codeRaw amount ht).map fun p => (p, { tx := t }) :=
  bip143_pre_spec H t st i ht amount txin redeem ws code codeRaw rep (htOK_std ht hht) hin hcode hraw hlen hval hamt

theorem bip143_digest_eq_spec (H : Hashes) (t : Tx) (st : Spec.Sighash.Tx) (i ht amount : Nat) (txin : TxIn)
    (redeem ws : Option Script) (code : Script) (codeRaw : Bytes)
    (rep : Rep t st) (hht : ht ∈ Spec.Sighash.stdHashTypes)
    (hin : t.ins[i]? = some txin) (hcode : scriptCode143 txin redeem ws = some code)
    (hraw : rawSerialize code = some codeRaw) (hlen : codeRaw.length < 2 ^ 64)
    (hval : txin.value = some amount) (hamt : amount < 2 ^ 64) :
    (sigHashBip143 Cfg.repaired H { tx := t } i redeem ws ht).map (·.1) =
      (Spec.Sighash.bip143 H.hash256 st i codeRaw amount ht).map fun p => beToNat (H.hash256 p) := by
  unfold sigHashBip143
  rw [bip143_eq_spec H t st i ht amount txin redeem ws code codeRaw rep hht hin hcode hraw hlen hval hamt]
  cases Spec.Sighash.bip143 H.hash256 st i codeRaw amount ht <;> rfl

/-! ## BIP341 / BIP342 -/

/-- For every transaction, spent outputs, input, each of the seven hash types, key path (`ext = none`)
    and script path (`ext = some …`), with and without annex: the message is `0x00 ‖ SigMsg(hash_type,
    ext_flag) [‖ tapleaf_hash ‖ 0x00 ‖ 0xffffffff]`; SINGLE without a matching output fails on both
    sides. -/
theorem bip341_eq_spec (H : Hashes) (xonlyOK : Bytes → Bool) (t : Tx) (st : Spec.Sighash.Tx)
    (spent : List Spec.Sighash.TxOut) (i ht extFlag : Nat) (txin : TxIn) (annex : Option Bytes) (ext : Option Spec.Sighash.Ext)
    (rep : Rep t st) (hsp : All₂ RepSpent t.ins spent) (hht : ht ∈ Spec.Sighash.stdHashTypes)
    (hin : t.ins[i]? = some txin) (hi : i < 2 ^ 32)
    (hann : modelAnnex Cfg.repaired txin.witness = some annex) (hannlen : ∀ x, annex = some x → x.length < 2 ^ 64)
    (hext : modelExt Cfg.repaired H xonlyOK txin.witness extFlag = some ext) :
    sigHashBip341Pre Cfg.repaired H xonlyOK { tx := t } i extFlag ht =
      (Spec.Sighash.taprootMsg H.sha256 st spent i ht annex ext).map fun p => (p, { tx := t }) := by
  obtain ⟨_, _, _, _, hlt⟩ := ht_facts341 ht hht
  obtain ⟨si, h2, hr⟩ := rep.ins.of_getElem? hin
  obtain ⟨sp, h3, hrs⟩ := hsp.of_getElem? hin
  have e0 : byteOf ht = some [UInt8.ofNat ht] := if_pos (by omega)
  obtain ⟨a1, a3⟩ := modelAnnex_inv hann
  have hlen : spent.length = st.vin.length := hsp.length.symm.trans rep.ins.length
  -- the code's message, field by field; what is left open: the spend type byte, the SINGLE output, the extension
  have model : sigHashBip341Pre Cfg.repaired H xonlyOK { tx := t } i extFlag ht =
      (byteOf (extFlag * 2 + if annex.isSome = true then 1 else 0)).bind fun st' =>
      (specSingle H.sha256 st i ht).bind fun single =>
      (bip341Ext Cfg.repaired H xonlyOK txin extFlag).bind fun ext' =>
        some ([0] ++ [UInt8.ofNat ht] ++ Spec.Sighash.le 4 st.nVersion ++ Spec.Sighash.le 4 st.nLockTime
          ++ specMid H.sha256 st spent ht ++ specOuts H.sha256 st ht ++ st' ++ specInput si sp i ht
          ++ specAnnex H.sha256 annex ++ single ++ ext', ({ tx := t } : TxObj)) := by
    simp only [sigHashBip341Pre, hin, e0, rep.version, rep.locktime, Gen.bip341VersionW, Gen.locktimeSerW, Gen.bip341Epoch,
      bip341Mid_spec H t st spent ht rep.ins hsp, bip341Outs_spec H t st ht rep.outs, a1,
      bip341Input_spec txin si sp i ht hi hr hrs, bip341Annex_spec H txin annex a3 hannlen,
      bip341Single_spec H t st i ht rep.outs, Option.pure_def, Option.bind_eq_bind, Option.bind_some]
  have sp255 : ∀ e, e ≤ 1 → byteOf (e * 2 + if annex.isSome = true then 1 else 0) =
      some [UInt8.ofNat (e * 2 + if annex.isSome = true then 1 else 0)] :=
    fun e he => if_pos (by split <;> omega)
  have extBytes : ([UInt8.ofNat 0] ++ Spec.Sighash.le 4 0xFFFFFFFF : Bytes) = Gen.bip342Ext := by decide
  rw [model]
  unfold modelExt at hext
  by_cases x1 : extFlag = 1
  · rw [if_pos x1, Option.map_eq_some_iff] at hext
    obtain ⟨lh, hlh, rfl⟩ := hext
    subst x1
    simp only [Spec.Sighash.taprootMsg, sigMsg_std H.sha256 st spent i ht 1 annex si sp hht hlen h2 h3, sp255 1 (by omega),
      bip341Ext, hlh, if_true, Option.pure_def, Option.bind_eq_bind, Option.bind_some, ← extBytes]
    cases specSingle H.sha256 st i ht with
    | none => rfl
    | some sg => simp only [Option.map_some, Option.bind_some, List.append_assoc, List.cons_append, List.nil_append]
  · rw [if_neg x1] at hext
    by_cases x0 : extFlag = 0
    · rw [if_pos x0] at hext; cases hext; subst x0
      simp only [Spec.Sighash.taprootMsg, sigMsg_std H.sha256 st spent i ht 0 annex si sp hht hlen h2 h3,
        sp255 0 (by omega), bip341Ext, Nat.zero_ne_one, if_false, Option.bind_some]
      cases specSingle H.sha256 st i ht with
      | none => rfl
      | some sg =>
        simp only [Option.map_some, Option.bind_some, List.append_assoc, List.cons_append, List.nil_append,
          List.append_nil]
    · rw [if_neg x0] at hext; cases hext

theorem bip341_digest_eq_spec (H : Hashes) (xonlyOK : Bytes → Bool) (t : Tx) (st : Spec.Sighash.Tx)
    (spent : List Spec.Sighash.TxOut) (i ht extFlag : Nat) (txin : TxIn) (annex : Option Bytes) (ext : Option Spec.Sighash.Ext)
    (rep : Rep t st) (hsp : All₂ RepSpent t.ins spent) (hht : ht ∈ Spec.Sighash.stdHashTypes)
    (hin : t.ins[i]? = some txin) (hi : i < 2 ^ 32)
    (hann : modelAnnex Cfg.repaired txin.witness = some annex) (hannlen : ∀ x, annex = some x → x.length < 2 ^ 64)
    (hext : modelExt Cfg.repaired H xonlyOK txin.witness extFlag = some ext) :
    (sigHashBip341 Cfg.repaired H xonlyOK { tx := t } i extFlag ht).map (·.1) =
      Spec.Sighash.taprootDigest H.sha256 st spent i ht annex ext := by
  unfold sigHashBip341 Spec.Sighash.taprootDigest
  rw [bip341_eq_spec H xonlyOK t st spent i ht extFlag txin annex ext rep hsp hht hin hi hann hannlen hext,
    tapSighashTag_eq]
  cases Spec.Sighash.taprootMsg H.sha256 st spent i ht annex ext <;> rfl

/-- the annex fed into the message is BIP341's annex: the last of at least two witness elements,
    starting with 0x50 (F05f) -/
theorem annex_eq_spec (w : Witness) (hlast : w.items.length < 2 ∨ w.items.getLast? ≠ some []) :
    modelAnnex Cfg.repaired w = some (Spec.Sighash.annexOf w.items) :=
  modelAnnex_spec w hlast

/-- key path versus script path: the annex is not counted as a script-path element (F05e) -/
theorem extflag_eq_spec (w : Witness) (hlast : w.items.length < 2 ∨ w.items.getLast? ≠ some []) :
    extFlagOf Cfg.repaired w = some (Spec.Sighash.extFlagOf w.items) :=
  extFlagOf_spec w hlast

/-- the tap leaf hash of the BIP342 extension is `hash_TapLeaf(v ‖ compact_size(s) ‖ s)` for the script
    element (its bytes exactly as they are in the witness, canonical or not) and the control-block element
    of the CURRENT witness stack: it is recomputed from the fields by every query -/
theorem tapleaf_eq_spec (sha : Bytes → Bytes) (xonlyOK : Bytes → Bool) (w : Witness) (a : Bool) (v0 : UInt8)
    (cbt raw : Bytes)
    (ha : w.hasAnnex Cfg.repaired = some a) (hcb : fromEnd w.items (if a then 2 else 1) = some (v0 :: cbt))
    (hlen1 : (cbt.length + 1) % 32 = 1) (hlen2 : 33 ≤ cbt.length + 1) (hlen3 : cbt.length + 1 ≤ 4129)
    (hkey : xonlyOK (cbt.take 32) = true)
    (hraw : fromEnd w.items (if a then 3 else 2) = some raw) (hrl : raw.length < 2 ^ 63) :
    tapLeafHash Cfg.repaired sha xonlyOK w = some (Spec.Sighash.tapleafHash sha (v0.toNat &&& 0xFE) raw) := by
  have c0 : cmpAt Gen.txCbParseCmp 0 ((cbt.length + 1) % 32) = false := by
    simp [cmpAt, Gen.txCbParseCmp, cmpOp, hlen1]
  have c1 : cmpAt Gen.txCbParseCmp 1 (cbt.length + 1) = false := by
    simp [cmpAt, Gen.txCbParseCmp, cmpOp]; omega
  have c2 : cmpAt Gen.txCbParseCmp 2 (cbt.length + 1) = false := by
    simp [cmpAt, Gen.txCbParseCmp, cmpOp]; omega
  have hb : (v0.toNat &&& 0xFE) ≤ 255 := by
    have := v0.toNat_lt
    exact Nat.le_trans (Nat.and_le_left) (by omega)
  simp only [tapLeafHash, ha, hcb, hraw, Option.pure_def, Option.bind_eq_bind, Option.bind_some, List.length_cons,
    c0, c1, c2, Bool.false_eq_true, if_false, Bool.or_self, List.head?_cons, List.drop_succ_cons, List.drop_zero,
    hkey, Bool.not_true, hrl, not_true_eq_false, tapScript_serialize raw hrl, byteOf, hb, if_true,
    Spec.Sighash.tapleafHash, tapLeafTag_eq]
  rfl

/-- canonically encoded scripts (the image of `raw_serialize` on well-formed commands, C04) re-serialise
    to themselves: the hypothesis under which parsed redeem / witness scripts are the BIP143 script code -/
theorem script_code_canonical (cs : List Cmd) (raw : Bytes) (wf : ∀ c ∈ cs, CmdWF c) (h : serCmds cs = some raw)
    (hl : raw.length < 2 ^ 63) :
    Script.serialize (parseRaw raw) = some (Spec.Sighash.serScript raw) := by
  rw [parseRaw_serCmds cs raw wf h]
  have : rawSerialize { cmds := canon cs, raw := none } = some raw := by simp [rawSerialize, serCmds_canon, h]
  exact script_serialize_spec this (by omega)

/-! ## dispatch (`Tx.sig_hash`): which algorithm, which script code, which ext_flag -/

theorem route_p2pkh (txin : TxIn) (spk : Script) (h : Bytes) (hspk : txin.scriptPubkey = some spk)
    (hc : spk.cmds = [.op 0x76, .op 0xA9, .push h, .op 0x88, .op 0xAC]) :
    route Cfg.repaired txin = some (.legacy none) ∧ legacyCode none txin = some spk :=
  Buidl.Tx.route_p2pkh txin spk h hspk hc

theorem route_p2sh_legacy (txin : TxIn) (spk : Script) (h raw : Bytes) (hspk : txin.scriptPubkey = some spk)
    (hc : spk.cmds = [.op 0xA9, .push h, .op 0x87]) (hl : h.length = 20)
    (hs : txin.scriptSig.cmds.getLast? = some (.push raw)) (hr : raw.length < 2 ^ 63)
    (hn1 : isP2wpkh (parseRaw raw) = false) (hn2 : isP2wsh (parseRaw raw) = false) :
    route Cfg.repaired txin = some (.legacy (some (parseRaw raw))) ∧
    legacyCode (some (parseRaw raw)) txin = some (parseRaw raw) :=
  Buidl.Tx.route_p2sh_legacy txin spk h raw hspk hc hl hs hr hn1 hn2

theorem route_p2wpkh (txin : TxIn) (spk : Script) (h : Bytes) (hspk : txin.scriptPubkey = some spk)
    (hc : spk.cmds = [.op 0, .push h]) (hl : h.length = 20) :
    route Cfg.repaired txin = some (.bip143 none none) ∧ scriptCode143 txin none none = some (p2pkhScript h) :=
  Buidl.Tx.route_p2wpkh txin spk h hspk hc hl

theorem route_p2wsh (txin : TxIn) (spk : Script) (h raw : Bytes) (hspk : txin.scriptPubkey = some spk)
    (hc : spk.cmds = [.op 0, .push h]) (hl : h.length = 32)
    (hw : txin.witness.items.getLast? = some raw) (hr : raw.length < 2 ^ 63) :
    route Cfg.repaired txin = some (.bip143 none (some (parseRaw raw))) ∧
    scriptCode143 txin none (some (parseRaw raw)) = some (parseRaw raw) :=
  Buidl.Tx.route_p2wsh txin spk h raw hspk hc hl hw hr

theorem route_p2sh_p2wpkh (txin : TxIn) (spk : Script) (h raw h' : Bytes) (hspk : txin.scriptPubkey = some spk)
    (hc : spk.cmds = [.op 0xA9, .push h, .op 0x87]) (hl : h.length = 20)
    (hs : txin.scriptSig.cmds.getLast? = some (.push raw)) (hr : raw.length < 2 ^ 63)
    (hrc : (parseRaw raw).cmds = [.op 0, .push h']) (hl' : h'.length = 20) :
    route Cfg.repaired txin = some (.bip143 (some (parseRaw raw)) none) ∧
    scriptCode143 txin (some (parseRaw raw)) none = some (p2pkhScript h') :=
  Buidl.Tx.route_p2sh_p2wpkh txin spk h raw h' hspk hc hl hs hr hrc hl'

theorem route_p2sh_p2wsh (txin : TxIn) (spk : Script) (h raw h' wraw : Bytes) (hspk : txin.scriptPubkey = some spk)
    (hc : spk.cmds = [.op 0xA9, .push h, .op 0x87]) (hl : h.length = 20)
    (hs : txin.scriptSig.cmds.getLast? = some (.push raw)) (hr : raw.length < 2 ^ 63)
    (hrc : (parseRaw raw).cmds = [.op 0, .push h']) (hl' : h'.length = 32)
    (hw : txin.witness.items.getLast? = some wraw) (hwr : wraw.length < 2 ^ 63) :
    route Cfg.repaired txin = some (.bip143 (some (parseRaw raw)) (some (parseRaw wraw))) ∧
    scriptCode143 txin (some (parseRaw raw)) (some (parseRaw wraw)) = some (parseRaw wraw) :=
  Buidl.Tx.route_p2sh_p2wsh txin spk h raw h' wraw hspk hc hl hs hr hrc hl' hw hwr

/-- P2TR: BIP341, with the ext_flag the specification derives from the witness stack -/
theorem route_p2tr (txin : TxIn) (spk : Script) (h : Bytes) (hspk : txin.scriptPubkey = some spk)
    (hc : spk.cmds = [.op 0x51, .push h]) (hl : h.length = 32)
    (hlast : txin.witness.items.length < 2 ∨ txin.witness.items.getLast? ≠ some []) :
    route Cfg.repaired txin = some (.bip341 (Spec.Sighash.extFlagOf txin.witness.items)) :=
  Buidl.Tx.route_p2tr txin spk h hspk hc hl hlast

/-- the specification's rule on the four native templates, as bytes: the same algorithms -/
theorem spec_dispatch_native (h20 h32 : Bytes) (hl20 : h20.length = 20) (hl32 : h32.length = 32) (w : List Bytes) :
    Spec.Sighash.dispatch ([0x76, 0xa9, 0x14] ++ h20 ++ [0x88, 0xac]) none w
      = some (.legacy ([0x76, 0xa9, 0x14] ++ h20 ++ [0x88, 0xac])) ∧
    Spec.Sighash.dispatch ([0x00, 0x14] ++ h20) none w = some (.bip143 (Spec.Sighash.p2pkhCode h20)) ∧
    Spec.Sighash.dispatch ([0x00, 0x20] ++ h32) none w = (w.getLast?).map .bip143 ∧
    Spec.Sighash.dispatch ([0x51, 0x20] ++ h32) none w =
      some (.bip341 (Spec.Sighash.extFlagOf w) (Spec.Sighash.annexOf w)) :=
  ⟨by simp [Spec.Sighash.dispatch, Spec.Sighash.isP2SH, Spec.Sighash.witnessProgram],
   by simp [Spec.Sighash.dispatch, Spec.Sighash.isP2SH, Spec.Sighash.witnessProgram, Spec.Sighash.witnessRule, hl20],
   by simp [Spec.Sighash.dispatch, Spec.Sighash.isP2SH, Spec.Sighash.witnessProgram, Spec.Sighash.witnessRule, hl32],
   by simp [Spec.Sighash.dispatch, Spec.Sighash.isP2SH, Spec.Sighash.witnessProgram, Spec.Sighash.witnessRule, hl32]⟩

/-! ## history independence -/

/-- a query of the repaired code reads only the current fields and leaves the object as it was -/
theorem query_pure (H : Hashes) (xonlyOK : Bytes → Bool) (q : Query) (o : TxObj) :
    runQuery Cfg.repaired H xonlyOK o q =
      (runQuery Cfg.repaired H xonlyOK { tx := o.tx } q).map fun r => (r.1, o) :=
  runQuery_framed H xonlyOK q o

/-- For every list of operations — digest queries of any algorithm, input and hash type, interleaved with
    arbitrary edits of the fields — run on one object in any state, every query returns what a fresh
    object holding the fields *as they are at that moment* returns (and that is the specification's
    digest by the theorems above): no earlier query or edit influences a later answer. -/
theorem history_independent (H : Hashes) (xonlyOK : Bytes → Bool) (ops : List Op) (o : TxObj) :
    run Cfg.repaired H xonlyOK o ops = expectedAnswers H xonlyOK o.tx ops := by
  induction ops generalizing o with
  | nil => rfl
  | cons op r ih =>
    cases op with
    | edit f => simp only [run, expectedAnswers]; exact ih _
    | query q =>
      simp only [run, expectedAnswers, freshAnswer]
      rcases frame_step (runQuery_framed H xonlyOK q) o with ⟨h1, h2⟩ | ⟨a, h1, h2⟩
      · simp only [h1, h2, Option.map_none]; rw [ih o]
      · simp only [h1, h2, Option.map_some]; rw [ih o]

/-- the same, spelled out for in-place edits of one input's witness stack (tap script, control block,
    annex added or removed, items inserted): everything a digest derives from the witness — annex, ext_flag,
    the BIP342 leaf hash — is a function of the current fields, so query, edit the witness items of input
    `j` in any way `g`, query again answers exactly what a fresh object with the edited witness answers -/
theorem requery_after_witness_edit (H : Hashes) (xonlyOK : Bytes → Bool) (o : TxObj) (q q' : Query) (j : Nat)
    (g : List Bytes → List Bytes) :
    run Cfg.repaired H xonlyOK o [.query q, .edit (editWitness j g), .query q'] =
      [freshAnswer H xonlyOK o.tx q, freshAnswer H xonlyOK (editWitness j g o.tx) q'] :=
  history_independent H xonlyOK _ o

/-- F05d (fixed): with the memoisation of the unrepaired code (`Cfg.asWas`) the property fails — query,
    remove the outputs, query again: the second answer still commits to the removed output -/
theorem F05d_witness :
    ∃ (H : Hashes) (x : Bytes → Bool) (t : Tx) (ops : List Op),
      run Cfg.asWas H x { tx := t } ops ≠ expectedAnswers H x t ops := by
  refine ⟨⟨id, id⟩, fun _ => true,
    ⟨2, [⟨List.replicate 32 1, 0, ⟨[], none⟩, 0xFFFFFFFF, ⟨[]⟩, some 1000, some ⟨[.op 0, .push (List.replicate 20 7)], none⟩⟩],
      [⟨900, ⟨[.op 0x51], none⟩⟩], 0, true⟩,
    [.query (.bip143 0 none none 1), .edit (fun t => { t with outs := [] }), .query (.bip143 0 none none 1)], ?_⟩
  decide +kernel

/-! ## the hypotheses are satisfiable -/

example : (3 : Nat) ∈ Spec.Sighash.stdHashTypes ∧ (0x83 : Nat) ∈ Spec.Sighash.stdHashTypes := by decide

example : Rep ⟨2, [⟨List.replicate 32 1, 0, ⟨[], none⟩, 0xFFFFFFFE, ⟨[]⟩, some 1000, none⟩], [⟨900, ⟨[.op 0x51], none⟩⟩], 0, true⟩
    ⟨2, [⟨⟨List.replicate 32 1, 0⟩, [], 0xFFFFFFFE⟩], [⟨900, [0x51]⟩], 0⟩ :=
  toy_rep

example : Spec.Sighash.stripCodeSep 25 (Spec.Sighash.p2pkhCode (List.replicate 20 9)) = Spec.Sighash.p2pkhCode (List.replicate 20 9) := by
  decide

/-! ## beyond the property's quantifier: all 256 hash-type bytes, OP_CODESEPARATOR

    Recorded observations, not findings (the property quantifies over the seven standard hash types and
    standard script codes).  O05h: the library decodes the base type with `& 3`, Core with `& 0x1f`.
    O05i: BIP341 fails for a hash type outside the seven, the library computes a digest.
    O05j: Core's `SerializeScriptCode` drops OP_CODESEPARATOR opcodes, the library has no code-separator
    handling at all (opcode 171 is only a name in `OP_CODE_NAMES`; there is no FindAndDelete either). -/

/-- on which of the 256 hash-type bytes the library's decoding (`& 0x80`, `& 3`) is Core's (`& 0x80`, `& 0x1f`):
    exactly the 144 bytes with `ht & 3 < 2` or `ht & 0x1f < 4` -/
theorem hashtype_decoding_agrees_iff : ∀ ht, ht < 256 → (HtOK ht ↔ (ht % 4 < 2 ∨ ht % 32 < 4)) := by
  unfold HtOK; decide +kernel

/-- legacy: the library's serialisation is Core's for EVERY hash-type byte on which the decodings agree
    (0x00…0x05, 0x08, 0x09, …, 0x80…0x85, … — not only the seven standard ones) -/
theorem legacy_eq_spec_all_bytes (t : Tx) (st : Spec.Sighash.Tx) (i ht : Nat) (redeem : Option Script) (codeS : Script)
    (codeRaw : Bytes) (rep : Rep t st) (hb : ht < 256) (hag : ht % 4 < 2 ∨ ht % 32 < 4)
    (hcode : ∀ txin, t.ins[i]? = some txin → legacyCode redeem txin = some codeS)
    (hraw : rawSerialize codeS = some codeRaw) (hlen : codeRaw.length < 2 ^ 64)
    (hsep : Spec.Sighash.stripCodeSep codeRaw.length codeRaw = codeRaw) :
    sigHashLegacyPre t i redeem ht = some (legacyOfSpec (Spec.Sighash.legacy st i codeRaw ht)) :=
  legacy_pre_spec t st i ht redeem codeS codeRaw rep ((hashtype_decoding_agrees_iff ht hb).mpr hag) hcode hraw hlen hsep

/-- BIP143: likewise -/
theorem bip143_eq_spec_all_bytes (H : Hashes) (t : Tx) (st : Spec.Sighash.Tx) (i ht amount : Nat) (txin : TxIn)
    (redeem ws : Option Script) (code : Script) (codeRaw : Bytes)
    (rep : Rep t st) (hb : ht < 256) (hag : ht % 4 < 2 ∨ ht % 32 < 4)
    (hin : t.ins[i]? = some txin) (hcode : scriptCode143 txin redeem ws = some code)
    (hraw : rawSerialize code = some codeRaw) (hlen : codeRaw.length < 2 ^ 64)
    (hval : txin.value = some amount) (hamt : amount < 2 ^ 64) :
    sigHashBip143Pre Cfg.repaired H { tx := t } i redeem ws ht =
      (Spec.Sighash.bip143 H.hash256 st i codeRaw amount ht).map fun p => (p, { tx := t }) :=
  bip143_pre_spec H t st i ht amount txin redeem ws code codeRaw rep ((hashtype_decoding_agrees_iff ht hb).mpr hag) hin hcode hraw hlen hval hamt

/-- O05h witness: on the other 112 bytes they differ — hash type 0x06 (`& 3` = NONE, `& 0x1f` = 6 = like ALL) on a
    1-input 1-output transaction: legacy and BIP143 preimages are not Core's -/
theorem O05h_nonstandard_hashtype_witness :
    ∃ (t : Tx) (st : Spec.Sighash.Tx) (code : Script) (codeRaw : Bytes), Rep t st ∧ rawSerialize code = some codeRaw ∧
      sigHashLegacyPre t 0 (some code) 6 ≠ some (legacyOfSpec (Spec.Sighash.legacy st 0 codeRaw 6)) ∧
      (sigHashBip143Pre Cfg.repaired ⟨id, id⟩ { tx := t } 0 none (some code) 6).map (·.1) ≠
        Spec.Sighash.bip143 id st 0 codeRaw 1000 6 :=
  ⟨toyTx, toySt, ⟨[.op 0x51], none⟩, [0x51], toy_rep, rfl, by decide +kernel, by decide +kernel⟩

/-- O05i witness: BIP341 fails for hash type 0x04; the library returns a message -/
theorem O05i_taproot_invalid_hashtype_witness :
    ∃ (t : Tx) (st : Spec.Sighash.Tx) (spent : List Spec.Sighash.TxOut),
      Spec.Sighash.taprootMsg id st spent 0 4 none none = none ∧
      (sigHashBip341Pre Cfg.repaired ⟨id, id⟩ (fun _ => true) { tx := t } 0 0 4).isSome = true := by
  refine ⟨⟨2, [⟨List.replicate 32 1, 0, ⟨[], none⟩, 0xFFFFFFFE, ⟨[[7]]⟩, some 1000, some ⟨[.op 0x51, .push (List.replicate 32 3)], none⟩⟩],
      [⟨900, ⟨[.op 0x51], none⟩⟩], 0, true⟩,
    ⟨2, [⟨⟨List.replicate 32 1, 0⟩, [], 0xFFFFFFFE⟩], [⟨900, [0x51]⟩], 0⟩, [⟨1000, 0x51 :: 0x20 :: List.replicate 32 3⟩], ?_, ?_⟩
  · decide +kernel
  · decide +kernel

/-- a canonically encoded script code without the opcode OP_CODESEPARATOR satisfies the hypothesis `hsep` of
    `legacy_eq_spec`: Core's stripping leaves it unchanged (every standard script code is of this kind) -/
theorem no_codeseparator_no_stripping (cs : List Cmd) (b : Bytes) (wf : ∀ c ∈ cs, CmdWF c) (h : serCmds cs = some b)
    (hno : Cmd.op 0xab ∉ cs) : Spec.Sighash.stripCodeSep b.length b = b := by
  refine stripCodeSep_parsed b ?_
  rw [parseRaw_serCmds cs b wf h]
  intro hm
  obtain ⟨c, hc, he⟩ := List.mem_map.mp hm
  cases c with
  | op n => cases he; exact hno hc
  | push d => cases d <;> cases he

/-- O05j witness: for the script code `OP_CODESEPARATOR OP_1` the library hashes the opcode, Core does not -/
theorem O05j_codeseparator_witness :
    ∃ (t : Tx) (st : Spec.Sighash.Tx) (code : Script) (codeRaw : Bytes), Rep t st ∧ rawSerialize code = some codeRaw ∧
      Spec.Sighash.stripCodeSep codeRaw.length codeRaw ≠ codeRaw ∧
      sigHashLegacyPre t 0 (some code) 1 ≠ some (legacyOfSpec (Spec.Sighash.legacy st 0 codeRaw 1)) :=
  ⟨toyTx, toySt, ⟨[.op 0xab, .op 0x51], none⟩, [0xab, 0x51], toy_rep, rfl, by decide, by decide +kernel⟩

/-! ## consumers of the digest: which digest a signature is matched against -/

/-- **`Tx.finalize_p2tr_multisig` matches every signature against the digest of that signature's OWN hash type.**
    For one public key of the tap script and any list of signature elements: the element the loop places is the
    first one (in list order) that verifies for the key against `sig_hash(input_index, ht)` with `ht` read from
    THAT element (64 bytes: SIGHASH_DEFAULT, 65 bytes: its last byte) — and by `bip341_digest_eq_spec` that is the
    BIP341 digest for `ht`; every element before it is empty or fails against the digest of its own hash type; when
    nothing is placed, every element is empty or fails against its own digest.  The object's fields are unchanged
    by the search.  So co-signers may use different hash types in any order. -/
theorem finalize_p2tr_multisig_uses_each_sig_hashtype (H : Hashes) (x : Bytes → Bool)
    (verify : Bytes → Bytes → Bytes → Option Bool) (i : Nat) (point : Bytes) (o : TxObj) (sigs : List Bytes)
    (pick : Option Bytes) (o' : TxObj)
    (h : pickSig Cfg.repaired H x verify i point o sigs = some (pick, o')) :
    o' = o ∧
    match pick with
    | some s => ∃ pre post ht body msg, sigs = pre ++ s :: post ∧ schnorrSigKind s = .sig ht body ∧
        digestFor H x o i ht = some (.bytes msg) ∧ verify point msg body = some true ∧
        ∀ s' ∈ pre, NoMatch H x verify o i point s'
    | none => ∀ s' ∈ sigs, NoMatch H x verify o i point s' := by
  obtain ⟨e, hp⟩ := pickSig_spec H x verify i point o sigs pick o' h
  refine ⟨e, ?_⟩
  cases pick <;> exact hp

/-- how a Schnorr signature element names its hash type -/
theorem schnorr_sig_hashtype (sig : Bytes) :
    (sig.length = 0 → schnorrSigKind sig = .skip) ∧
    (sig.length = 64 → schnorrSigKind sig = .sig 0 sig) ∧
    (sig.length = 65 → ∃ b, sig.getLast? = some b ∧ schnorrSigKind sig = .sig b.toNat sig.dropLast) ∧
    (sig.length ≠ 0 → sig.length ≠ 64 → sig.length ≠ 65 → schnorrSigKind sig = .bad) := by
  refine ⟨fun h => by simp [schnorrSigKind, h], fun h => by simp [schnorrSigKind, h, Gen.sighashDefault], ?_, ?_⟩
  · intro h
    have hne : sig ≠ [] := fun e => by rw [e] at h; cases h
    have hb := List.getLast?_eq_some_getLast hne
    exact ⟨_, hb, by simp [schnorrSigKind, h, hb]⟩
  · intro h0 h1 h2; simp [schnorrSigKind, h0, h1, h2]

end Buidl.Props.C05
