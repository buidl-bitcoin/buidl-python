/-
  C13 — MuSig aggregation yields valid BIP340 signatures; k-of-n trees cover all subsets.
  Model: Buidl.Model.MuSig (buidl/taproot.py MuSigTapScript / MultiSigTapScript / TapRootMultiSig,
  pecc.py verify_schnorr; constants from Buidl.Gen.Taproot).  The tagged hashes `H : Hashes` are arbitrary
  functions.  The algebra runs in the ZMod N-module ⟨G⟩; the group facts are those of C03, through `groupLaw`
  (the lemmas that use them are in Buidl.Proofs.MuSig, stated relative to `GroupLaw`).

  A participant is a triple (secret d, nonce k₁, nonce k₂); its public key is `d·G` (`g d`), its x-only
  key `xo d`.  `cz` is the cast to ZMod N: `cz a = cz b` says `a ≡ b (mod N)`.

  Finding F13a (repaired in /repo, a6322ab): the original constructor gave coefficient 1 to list position 1
  and kept one coefficient per list *position* while `sign` looks the coefficient up by x-only *key*; for
  participants with equal x-only keys (the same key twice, or `d` and `N − d`) the two disagreed and
  get_signature raised.  The repaired constructor computes the coefficient as a function of the key (1 for the
  second distinct key), which is what the model describes; the session theorems below hold for every participant
  list, duplicates included.  `F13a_witness` documents the table semantics that made the old code fail.
-/
import Buidl.Proofs.TaprootGroup
import Buidl.Proofs.MuSig
import Buidl.Proofs.Combinations
import Buidl.Proofs.MuSigSpec
namespace Buidl.Props.C13
open Buidl Buidl.EC Buidl.Script Buidl.Taproot Buidl.MuSig

/-! ## the aggregate key does not depend on the order of the participants -/

/-- `sorted` returns a sorted permutation of its input … -/
theorem sort_sorted_perm (l : List Bytes) : (sortBytes l).Perm l ∧ (sortBytes l).Pairwise bytesLe :=
  ⟨sortBytes_perm l, sortBytes_sorted l⟩

/-- … hence permuted inputs sort to the same list -/
theorem sort_perm {l₁ l₂ : List Bytes} (h : l₁.Perm l₂) : sortBytes l₁ = sortBytes l₂ :=
  List.Perm.eq_of_pairwise (fun _ _ _ _ h1 h2 => bytesLe_antisymm h1 h2) (sortBytes_sorted l₁) (sortBytes_sorted l₂)
    ((sortBytes_perm l₁).trans (h.trans (sortBytes_perm l₂).symm))

/-- **MuSigTapScript(points) is invariant under permutation of the participant list**: aggregate point,
    coefficients, commitment and script (and failure) are the same -/
theorem aggregate_key_perm (H : Hashes) {p₁ p₂ : List Pt} (h : p₁.Perm p₂) (lock seq : Option ℕ) :
    musigNew H p₁ lock seq = musigNew H p₂ lock seq := by
  unfold musigNew
  rw [sort_perm (h.map xonly), h.length_eq]

/-- the same for MultiSigTapScript(points, k) -/
theorem multisig_script_perm {p₁ p₂ : List Pt} (h : p₁.Perm p₂) (k : ℕ) (lock seq : Option ℕ) :
    multiSigCmds p₁ k lock seq = multiSigCmds p₂ k lock seq := by
  unfold multiSigCmds
  rw [sort_perm (h.map xonly), h.length_eq]

/-- the aggregate key of participants with secrets `ds` (equal x-only keys allowed): `Q = q·G` with
    `q ≡ Σ_d F(x(d)) · ev(d) (mod N)`, where the coefficient `F` is a function of the x-only key — the very
    function `sign` reads from the coefficient table — and `ev d` is the even-y secret -/
theorem aggregate_key_formula (H : Hashes) (ds : List ℕ) (hd : ∀ d ∈ ds, 1 ≤ d ∧ d < N)
    {lock seq : Option ℕ} {M : MuSig}
    (hM : musigNew H (ds.map (fun (d : ℕ) => g (d : ℤ))) lock seq = some M) :
    ∃ (q : ℤ) (F : Bytes → ℕ), M.point = g q ∧
      cz q = (ds.map (fun d => (F (xo d) : ZMod N) * cz (ev (d : ℤ)))).sum ∧
      (∀ x c, coefLookup M.xonlys M.coefs x = some c → c = F x) ∧
      M.xonlys.Perm (ds.map xo) :=
  musigNew_point groupLaw H id ds hd hM

/-- the coefficients of the repaired constructor: a function of the key — 1 for the second distinct key of
    the sorted list, the KeyAgg coefficient hash otherwise; equal keys get equal coefficients -/
theorem coefficients_by_key {H : Hashes} {points : List Pt} {lock seq : Option ℕ} {M : MuSig}
    (h : musigNew H points lock seq = some M) :
    ∃ x0, M.xonlys[0]? = some x0 ∧
      M.coefs = M.xonlys.map (fun b => if some b = M.xonlys.find? (fun y => y != x0) then 1
        else beToNat (H.keyAggCoef (M.commitment ++ b))) := by
  obtain ⟨_, x0, _, _, _, _, _, hx0, hcoefs, _⟩ := musigNew_some h
  exact ⟨x0, hx0, hcoefs⟩

/-! ## BIP340 verification: for fixed R and e exactly one s verifies -/

/-- `verify_schnorr` for the key `x·G ≠ ∞` and a signature `(even(r·G), s)`, `r·G ≠ ∞`: True exactly when
    `s ≡ ev r + e · ev x (mod N)` — i.e. `s·G = R_even + e·P_even`, the BIP340 equation -/
theorem verify_schnorr_unique (H : Hashes) (x r : ℤ) (hx : g x ≠ .inf) (hr : g r ≠ .inf) (msg : Bytes) (s : ℕ) :
    verifySchnorr H (g x) msg (evenPoint (g r)) s =
      some (decide (cz (s : ℤ) = cz (ev r) + cz (challengeOf H (evenPoint (g r)) (evenPoint (g x)) msg : ℤ) * cz (ev x))) :=
  verifySchnorr_g groupLaw H x r hx hr msg s

/-! ## the signing session -/

/-- **MuSig session (plain and tweaked, every parity combination).**  Participants `(d, k₁, k₂)` with valid
    secrets (equal x-only keys allowed) — at least one, as `MuSigTapScript` itself demands — any
    nonces, any message, any merkle root (`[]` = untweaked), any timelock.  Whenever the library produces the
    partial signatures `ss` (nothing hits the point at infinity), `get_signature` applied to their sum returns
    a signature `(R_even, s)` that `verify_schnorr` accepts for the external key. -/
theorem get_signature_valid (H : Hashes) (parts : List (ℕ × ℕ × ℕ)) (sigHash root : Bytes) (lock seq : Option ℕ)
    (hd : ∀ p ∈ parts, 1 ≤ p.1 ∧ p.1 < N) (hne : parts ≠ [])
    {M : MuSig} (hM : musigNew H (parts.map (fun p => g (p.1 : ℤ))) lock seq = some M)
    {sums : Pt × Pt} (hs : nonceSums (parts.map (fun p => (generateNonces p.2.1 p.2.2).2)) = some sums)
    {R : Pt} (hR : computeR H M sums sigHash = some R)
    {ss : List ℕ} (hss : List.Forall₂ (fun (p : ℕ × ℕ × ℕ) (s : ℕ) =>
        ∃ k, computeK H M (p.2.1, p.2.2) sums sigHash = some k ∧ sign H M p.1 k R sigHash root = some s) parts ss) :
    ∃ ext s, externalKey H M root = some ext ∧
      getSignature H M (ss.map (fun (s : ℕ) => (s : ℤ))).sum R sigHash root = some (evenPoint R, s) ∧ s < N ∧
      verifySchnorr H ext sigHash (evenPoint R) s = some true := by
  obtain ⟨xe, _, s, hext, _, _, _, hN, hv, hget⟩ :=
    session_signature groupLaw H parts sigHash root lock seq hd hne hM hs hR hss
  exact ⟨_, s, hext, (hget _).trans (if_pos rfl), hN, hv⟩

/-- **the aggregate signature is a BIP340 signature** (tagged hashes instantiated with SHA-256, any `sha256`):
    the 64 bytes `get_signature` returns satisfy `Spec.BIP340.verify` — the verification algorithm transcribed
    from the BIP — for the x-only external key (aggregate key, or its taproot tweak).  Uses C02's theorem that
    `verify_schnorr` is BIP340 verification. -/
theorem get_signature_bip340 (sha256 : Bytes → Bytes) (parts : List (ℕ × ℕ × ℕ)) (sigHash root : Bytes)
    (lock seq : Option ℕ)
    (hd : ∀ p ∈ parts, 1 ≤ p.1 ∧ p.1 < N) (hne : parts ≠ [])
    {M : MuSig} (hM : musigNew (Hashes.ofSha256 sha256) (parts.map (fun p => g (p.1 : ℤ))) lock seq = some M)
    {sums : Pt × Pt} (hs : nonceSums (parts.map (fun p => (generateNonces p.2.1 p.2.2).2)) = some sums)
    {R : Pt} (hR : computeR (Hashes.ofSha256 sha256) M sums sigHash = some R)
    {ss : List ℕ} (hss : List.Forall₂ (fun (p : ℕ × ℕ × ℕ) (s : ℕ) =>
        ∃ k, computeK (Hashes.ofSha256 sha256) M (p.2.1, p.2.2) sums sigHash = some k ∧
          sign (Hashes.ofSha256 sha256) M p.1 k R sigHash root = some s) parts ss) :
    ∃ ext sig b, externalKey (Hashes.ofSha256 sha256) M root = some ext ∧
      getSignature (Hashes.ofSha256 sha256) M (ss.map (fun (s : ℕ) => (s : ℤ))).sum R sigHash root = some sig ∧
      sigSerialize sig = some b ∧ b.length = 64 ∧
      Spec.BIP340.verify sha256 (xonly ext) sigHash b = true := by
  obtain ⟨xe, r, s, hext, hxe, rfl, hr, h2, hv, hget⟩ :=
    session_signature groupLaw (Hashes.ofSha256 sha256) parts sigHash root lock seq hd hne hM hs hR hss
  have hlt : s < 256 ^ 32 := Nat.lt_trans h2 N_lt_2_256
  refine ⟨g xe, (evenPoint (g r), s), xonly (g r) ++ natToBE' 32 s, hext, (hget _).trans (if_pos rfl), ?_, ?_,
    verify_is_bip340 groupLaw sha256 xe r hxe hr sigHash s h2 hv⟩
  · simp only [sigSerialize, natToBE_some hlt, Option.bind_eq_bind, Option.bind_some, Option.pure_def]
    rw [groupLaw.xonly_evenPoint_smul]
  · rw [List.length_append, xonly_length, natToBE'_length]

/-- **… and only then**: `get_signature(s_sum)` succeeds exactly when `s_sum` is congruent modulo N to the
    sum of the partial signatures (uniqueness of `s` for fixed `R`, `e`); otherwise its self-verification
    fails and it raises. -/
theorem get_signature_iff (H : Hashes) (parts : List (ℕ × ℕ × ℕ)) (sigHash root : Bytes) (lock seq : Option ℕ)
    (hd : ∀ p ∈ parts, 1 ≤ p.1 ∧ p.1 < N) (hne : parts ≠ [])
    {M : MuSig} (hM : musigNew H (parts.map (fun p => g (p.1 : ℤ))) lock seq = some M)
    {sums : Pt × Pt} (hs : nonceSums (parts.map (fun p => (generateNonces p.2.1 p.2.2).2)) = some sums)
    {R : Pt} (hR : computeR H M sums sigHash = some R)
    {ss : List ℕ} (hss : List.Forall₂ (fun (p : ℕ × ℕ × ℕ) (s : ℕ) =>
        ∃ k, computeK H M (p.2.1, p.2.2) sums sigHash = some k ∧ sign H M p.1 k R sigHash root = some s) parts ss)
    (sSum : ℤ) :
    (getSignature H M sSum R sigHash root).isSome ↔
      sSum % (N : ℤ) = (ss.map (fun (s : ℕ) => (s : ℤ))).sum % (N : ℤ) := by
  obtain ⟨_, _, _, _, _, _, _, _, _, hget⟩ := session_signature groupLaw H parts sigHash root lock seq hd hne hM hs hR hss
  rw [hget, emod_eq_iff]
  exact Option.isSome_ite

/-- **altering a partial signature**: a sum changed by `δ ≢ 0 (mod N)` makes `get_signature` raise -/
theorem alter_partial_rejected (H : Hashes) (parts : List (ℕ × ℕ × ℕ)) (sigHash root : Bytes) (lock seq : Option ℕ)
    (hd : ∀ p ∈ parts, 1 ≤ p.1 ∧ p.1 < N) (hne : parts ≠ [])
    {M : MuSig} (hM : musigNew H (parts.map (fun p => g (p.1 : ℤ))) lock seq = some M)
    {sums : Pt × Pt} (hs : nonceSums (parts.map (fun p => (generateNonces p.2.1 p.2.2).2)) = some sums)
    {R : Pt} (hR : computeR H M sums sigHash = some R)
    {ss : List ℕ} (hss : List.Forall₂ (fun (p : ℕ × ℕ × ℕ) (s : ℕ) =>
        ∃ k, computeK H M (p.2.1, p.2.2) sums sigHash = some k ∧ sign H M p.1 k R sigHash root = some s) parts ss)
    (δ : ℤ) (hδ : δ % (N : ℤ) ≠ 0) :
    getSignature H M ((ss.map (fun (s : ℕ) => (s : ℤ))).sum + δ) R sigHash root = none := by
  obtain ⟨_, _, _, _, _, _, _, _, _, hget⟩ := session_signature groupLaw H parts sigHash root lock seq hd hne hM hs hR hss
  refine (hget _).trans (if_neg fun h => hδ ((emod_zero_iff δ).mpr ?_))
  rw [cz_add] at h
  exact add_eq_left.mp h

/-- **omitting a partial signature** `s_j ≢ 0 (mod N)` (it is a hash-derived residue; `s_j = 0` is a negligible
    event) makes `get_signature` raise -/
theorem omit_partial_rejected (H : Hashes) (parts : List (ℕ × ℕ × ℕ)) (sigHash root : Bytes) (lock seq : Option ℕ)
    (hd : ∀ p ∈ parts, 1 ≤ p.1 ∧ p.1 < N) (hne : parts ≠ [])
    {M : MuSig} (hM : musigNew H (parts.map (fun p => g (p.1 : ℤ))) lock seq = some M)
    {sums : Pt × Pt} (hs : nonceSums (parts.map (fun p => (generateNonces p.2.1 p.2.2).2)) = some sums)
    {R : Pt} (hR : computeR H M sums sigHash = some R)
    {ss : List ℕ} (hss : List.Forall₂ (fun (p : ℕ × ℕ × ℕ) (s : ℕ) =>
        ∃ k, computeK H M (p.2.1, p.2.2) sums sigHash = some k ∧ sign H M p.1 k R sigHash root = some s) parts ss)
    (a b : List ℕ) (sj : ℕ) (hsplit : ss = a ++ sj :: b) (hsj : sj % N ≠ 0) :
    getSignature H M ((a ++ b).map (fun (s : ℕ) => (s : ℤ))).sum R sigHash root = none := by
  have hδ : (-(sj : ℤ)) % (N : ℤ) ≠ 0 := fun h =>
    hsj (Nat.mod_eq_zero_of_dvd (Int.natCast_dvd_natCast.mp (Int.dvd_neg.mp (Int.dvd_of_emod_eq_zero h))))
  have hsum : (ss.map (fun (s : ℕ) => (s : ℤ))).sum + -(sj : ℤ) = ((a ++ b).map (fun (s : ℕ) => (s : ℤ))).sum := by
    rw [hsplit]; simp only [List.map_append, List.map_cons, List.sum_append, List.sum_cons]; ring
  exact hsum ▸ alter_partial_rejected H parts sigHash root lock seq hd hne hM hs hR hss (-(sj : ℤ)) hδ

/-- F13a (old behaviour, documentation): the table `sign` consults is a dict keyed by x-only key, so with two
    equal keys it holds one coefficient — the last — for both participants.  The original constructor built the
    aggregate key with positional coefficients `[c₀, 1]`, which this table cannot reproduce; the repaired one makes
    the positional coefficients a function of the key (`coefficients_by_key`), and the table agrees with them
    (`aggregate_key_formula`). -/
theorem F13a_witness (x : Bytes) (c₀ c₁ : ℕ) : coefLookup [x, x] [c₀, c₁] x = some c₁ := by
  simp [coefLookup]

/-! ## k-of-n trees: one leaf per k-subset -/

/-- `itertools.combinations(l, k)` yields exactly the subsequences of length `k` -/
theorem combinations_mem {α : Type} (l : List α) (k : ℕ) (s : List α) :
    s ∈ combinations l k ↔ s.Sublist l ∧ s.length = k :=
  mem_combinations l k s

/-- without repetition (for pairwise different elements) -/
theorem combinations_no_repeat {α : Type} (l : List α) (k : ℕ) (h : l.Nodup) : (combinations l k).Nodup :=
  combinations_nodup l k h

/-- `C(n, k)` of them -/
theorem combinations_count {α : Type} (l : List α) (k : ℕ) : (combinations l k).length = Nat.choose l.length k :=
  combinations_length l k

/-- **bijection with the k-subsets**: every `k`-element subset of pairwise different elements (listed in any
    order, without repetition) is a permutation of exactly one combination -/
theorem combinations_bijection {α : Type} [DecidableEq α] {l : List α} (hl : l.Nodup) {k : ℕ} {s : List α}
    (hs : s.Nodup) (hsub : ∀ a ∈ s, a ∈ l) (hk : s.length = k) :
    ∃ c ∈ combinations l k, c.Perm s ∧ ∀ c' ∈ combinations l k, c'.Perm s → c' = c := by
  have hp : (l.filter (· ∈ s)).Perm s := by
    rw [List.perm_ext_iff_of_nodup (hl.filter _) hs]
    intro a; simp only [List.mem_filter, decide_eq_true_eq]
    exact ⟨fun h => h.2, fun h => ⟨hsub a h, h⟩⟩
  refine ⟨l.filter (· ∈ s), ?_, hp, fun c' hc' hp' => ?_⟩
  · rw [mem_combinations]
    exact ⟨List.filter_sublist, by rw [hp.length_eq, hk]⟩
  · -- two sublists of a duplicate-free list with the same members are equal
    exact (hl.perm_iff_eq_of_sublist ((mem_combinations l k c').mp hc').1 List.filter_sublist).mp (hp'.trans hp.symm)

/-- `TapBranch.combine` keeps the leaves in order (and never fails on a non-empty list) -/
theorem combine_keeps_leaves (nodes : List Tree) (hne : nodes ≠ []) :
    ∃ t, combine nodes = some t ∧ t.leaves = (nodes.map Tree.leaves).flatten :=
  combine_leaves nodes hne

/-- **multi_leaf_tree**: the leaves are, position by position, the `MultiSigTapScript(subset, k)` leaves of the
    combinations of the points; there are `C(n, k)` of them -/
theorem multi_leaf_tree_leaves {T : TapRootMultiSig} {lock seq : Option ℕ} {t : Tree}
    (h : multiLeafTree T lock seq = some t) :
    ∃ cs : List (List Cmd),
      List.Forall₂ (fun pk c => multiSigCmds pk T.k lock seq = some c) (combinations T.points T.k) cs ∧
      t.leaves = cs.map (fun c => ({ script := { cmds := c } } : Leaf)) ∧
      t.leaves.length = Nat.choose T.points.length T.k := by
  obtain ⟨cs, hcs, h2, _⟩ := leafTree_some (fun pk => multiSigCmds pk T.k lock seq) id h
  exact ⟨cs, hcs, h2, by rw [h2, List.length_map, ← hcs.length_eq, combinations_length]⟩

/-- **musig_tree**: likewise with `MuSigTapScript(subset)` -/
theorem musig_tree_leaves {H : Hashes} {T : TapRootMultiSig} {lock seq : Option ℕ} {t : Tree}
    (h : musigTree H T lock seq = some t) :
    ∃ Ms : List MuSig,
      List.Forall₂ (fun pk M => musigNew H pk lock seq = some M) (combinations T.points T.k) Ms ∧
      t.leaves = Ms.map (fun M => ({ script := { cmds := M.cmds } } : Leaf)) ∧
      t.leaves.length = Nat.choose T.points.length T.k := by
  obtain ⟨Ms, hMs, h2, _⟩ := leafTree_some (fun pk => musigNew H pk lock seq) (·.cmds) h
  exact ⟨Ms, hMs, h2, by rw [h2, List.length_map, ← hMs.length_eq, combinations_length]⟩

/-- **different k-subsets own different leaves** (multi_leaf_tree; points with pairwise different x-only
    keys): two combinations with the same MultiSigTapScript commands are the same combination.  Together with
    `multi_leaf_tree_leaves` and `combinations_bijection`: every k-subset owns exactly one leaf. -/
theorem multisig_leaf_injective {pts : List Pt} (hnd : (pts.map xonly).Nodup) {k : ℕ} {lock seq : Option ℕ}
    {s₁ s₂ : List Pt} {c : List Cmd} (hs₁ : s₁ ∈ combinations pts k) (hs₂ : s₂ ∈ combinations pts k)
    (h₁ : multiSigCmds s₁ k lock seq = some c) (h₂ : multiSigCmds s₂ k lock seq = some c) : s₁ = s₂ := by
  have sub₁ := ((mem_combinations pts k s₁).mp hs₁).1
  have sub₂ := ((mem_combinations pts k s₂).mp hs₂).1
  have hperm : (s₁.map xonly).Perm (s₂.map xonly) :=
    (sortBytes_perm _).symm.trans (multiSigCmds_sorted_eq h₁ h₂ ▸ sortBytes_perm _)
  -- the two sublists have the same x-only keys, hence (x-only is injective on `pts`) the same members
  have key : ∀ {s s' : List Pt}, s.Sublist pts → s'.Sublist pts → (s.map xonly).Perm (s'.map xonly) →
      ∀ a ∈ s, a ∈ s' := fun hs hs' hp a ha => by
    obtain ⟨b, hb, hab⟩ := List.mem_map.mp (hp.mem_iff.mp (List.mem_map_of_mem ha))
    exact List.inj_on_of_nodup_map hnd (hs'.subset hb) (hs.subset ha) hab ▸ hb
  exact (hnd.of_map.perm_iff_eq_of_sublist sub₁ sub₂).mp
    ((List.perm_ext_iff_of_nodup (sub₁.nodup hnd.of_map) (sub₂.nodup hnd.of_map)).mpr fun a =>
      ⟨key sub₁ sub₂ hperm a, key sub₂ sub₁ hperm.symm a⟩)

/-- the leaf of a subset does not depend on the order in which the subset is listed -/
theorem subset_leaf_order_independent (H : Hashes) {s₁ s₂ : List Pt} (h : s₁.Perm s₂) (k : ℕ) (lock seq : Option ℕ) :
    multiSigCmds s₁ k lock seq = multiSigCmds s₂ k lock seq ∧ musigNew H s₁ lock seq = musigNew H s₂ lock seq :=
  ⟨multisig_script_perm h k lock seq, aggregate_key_perm H h lock seq⟩

/-! ## timelocks: the generators are parametric in the requested timelock -/

/-- every MuSig leaf script is the requested timelock prefix followed by `<aggregate x-only key> OP_CHECKSIG` -/
theorem musig_leaf_timelock_prefix {H : Hashes} {pk : List Pt} {lock seq : Option ℕ} {M : MuSig}
    (h : musigNew H pk lock seq = some M) :
    ∃ pre, timelockCmds lock seq = some pre ∧ M.cmds = pre ++ [.push (xonly M.point), .op Gen.muSigOpChecksig] := by
  obtain ⟨pre, _, hpre, _, _, _, _, _, _, _, hc⟩ := musigNew_some h
  exact ⟨pre, hpre, hc⟩

/-- every MultiSig leaf script starts with the requested timelock prefix -/
theorem multisig_leaf_timelock_prefix {pk : List Pt} {k : ℕ} {lock seq : Option ℕ} {c : List Cmd}
    (h : multiSigCmds pk k lock seq = some c) :
    ∃ pre rest, timelockCmds lock seq = some pre ∧ c = pre ++ rest := by
  obtain ⟨pre, x₀, r, hpre, _, ⟨_, kop, _, hc⟩ | ⟨_, hc⟩⟩ := multiSigCmds_some h
  · exact ⟨pre, _, hpre, by rw [hc, List.append_assoc, List.append_assoc]⟩
  · exact ⟨pre, _, hpre, hc⟩

/-- **everything_tree / musig_and_single_leaf_tree pass the SAME timelock to every subtree**: their leaves are the
    leaves of `single_leaf`, `multi_leaf_tree` and `musig_tree` built with the requested `(locktime, sequence)` — so, by
    `multi_leaf_tree_leaves` / `musig_tree_leaves` with that timelock, every k-subset owns its MultiSig and its MuSig
    leaf carrying exactly the requested prefix -/
theorem everything_tree_leaves {H : Hashes} {T : TapRootMultiSig} {lock seq : Option ℕ} {t : Tree}
    (h : everythingTree H T lock seq = some t) :
    ∃ a b c, singleLeaf T lock seq = some a ∧ multiLeafTree T lock seq = some b ∧ musigTree H T lock seq = some c ∧
      t.leaves = a.leaves ++ (b.leaves ++ c.leaves) := by
  obtain ⟨a, ha, h⟩ := Option.bind_eq_some_iff.mp h
  obtain ⟨b, hb, h⟩ := Option.bind_eq_some_iff.mp h
  obtain ⟨c, hc, h⟩ := Option.bind_eq_some_iff.mp h
  cases h
  exact ⟨a, b, c, ha, hb, hc, rfl⟩

theorem musig_and_single_leaf_tree_leaves {H : Hashes} {T : TapRootMultiSig} {lock seq : Option ℕ} {t : Tree}
    (h : musigAndSingleLeafTree H T lock seq = some t) :
    ∃ a c, singleLeaf T lock seq = some a ∧ musigTree H T lock seq = some c ∧ t.leaves = a.leaves ++ c.leaves := by
  obtain ⟨a, ha, h⟩ := Option.bind_eq_some_iff.mp h
  obtain ⟨c, hc, h⟩ := Option.bind_eq_some_iff.mp h
  cases h
  exact ⟨a, c, ha, hc, rfl⟩

/-! ## non-vacuity -/

example : combinations [1, 2, 3, 4] 2 = [[1, 2], [1, 3], [1, 4], [2, 3], [2, 4], [3, 4]] := by decide

example : sortBytes [[3], [1, 2], [1]] = [[1], [1, 2], [3]] := by decide

/-- `combine` on five leaves: 2 + 3, then 1 + 1 and 1 + 2 -/
example : (combine ((List.range 5).map (fun i => leafOfCmds [.op i]))).map Tree.leaves
    = some ((List.range 5).map (fun i => ({ script := { cmds := [.op i] } } : Leaf))) := by decide

end Buidl.Props.C13
