/-
  C06 ∘ (C01, C02, C03, C12) — end-to-end: input verification with the REAL signature checks.

  Props/C06 proves soundness and completeness of `verifyInput` relative to oracles of the environment.
  Here the oracles are instantiated with the models of the real code (`Compose.realEnv`: `S256Point.parse`,
  `Signature.parse`, `S256Point.verify`, `S256Point.parse_xonly`, `SchnorrSignature.parse`,
  `S256Point.verify_schnorr`, consulted exactly as op_checksig / op_checksig_schnorr do) and the oracle
  hypotheses are discharged from C01 (`verify_sign`, `verify_sound`, `der_roundtrip`), C02
  (`sign_verifies`, `verifySchnorr_eq_spec`), C03 (`sec_roundtrip`, `parse_sound`, `parse_sec_canonical`,
  group law) and C12 (`priv_tweaked_key_point`).

  Parameters of every theorem: `base : Env` (hash functions — arbitrary —, locktime, control-block parsing,
  taproot commitment), `zOf : Nat → Option Nat` and `msgOf : Nat → Option Bytes` (hash type ↦ the digest
  `tx_obj.sig_hash(input_index, hash_type)`; C05 proves what they are), `c` (state of TAG_HASH_CACHE,
  any state satisfying the invariant of C02).

  Completeness: for every secret, digest, hash type: the scriptSig / witness the library builds from
  `PrivateKey.sign` / `sign_schnorr` is accepted.  Hypotheses standing for negligible events are those of
  C01 / C02 (`r < n`, `s ≠ 0`; BIP340 nonce `≠ 0`).
  Soundness: for EVERY scriptSig (any opcodes), witness and fuel: acceptance exhibits a curve point whose
  encoding hashes to the committed hash and a pair `(r, s)` satisfying the ECDSA predicate
  `Spec.ECDSA.Valid` for the digest of the signature's hash type; for P2TR a signature satisfying BIP340
  verification under the output key, or a script-path spend.

  Observation (not a finding of this file): `S256Point.parse` dispatches on the length, so op_checksig
  also accepts a 32-byte x-only key; soundness therefore says "SEC encoding or 32-byte x-only key".
-/
import Buidl.Props.C06
import Buidl.Proofs.Compose
namespace Buidl.Props.C06Compose
open Buidl Buidl.EC Buidl.Script Buidl.Interp Buidl.Compose

attribute [local irreducible] pmul

variable (base : Env) (zOf : Nat → Option Nat) (msgOf : Nat → Option Bytes) (c : Schnorr.Cache)

/-! ## the oracles of `realEnv` are the real checks -/

/-- op_checksig's three consultations succeed exactly when `S256Point.parse`, `Signature.parse` (on the
    element minus its last byte) and `sig_hash` (of that byte) succeed and `point.verify` returns True -/
theorem ecdsa_oracle_iff (pk tmp : Bytes) :
    EcdsaAuth (realEnv base zOf msgOf c) pk tmp ↔
      ∃ der ht Q r s z, splitHashType tmp = .ok (der, ht) ∧ parsePoint pk = some Q ∧
        ECDSA.parseDer der = some (r, s) ∧ zOf ht = some z ∧ ECDSA.verify Q z r s = some true :=
  ecdsaAuth_iff base zOf msgOf c pk tmp

/-- op_checksig_schnorr pushes 1 exactly when `parse_xonly`, `SchnorrSignature.parse` (65 bytes: minus the
    hash-type byte; other non-zero lengths: hash type 0) and `sig_hash` succeed and `verify_schnorr`
    returns True -/
theorem schnorr_oracle_iff (x sig : Bytes) :
    schnorrCheck (realEnv base zOf msgOf c) x sig = .ok (some true) ↔
      ∃ body ht m c', ((sig.length = 65 ∧ ∃ b : UInt8, sig = body ++ [b] ∧ ht = b.toNat) ∨
          (sig.length ≠ 65 ∧ sig.length ≠ 0 ∧ body = sig ∧ ht = 0)) ∧
        msgOf ht = some m ∧ verifyRawXonly base.sha256 c x m body = some (true, c') :=
  schnorrCheck_true_iff base zOf msgOf c x sig

/-- for a 32-byte key `parse_xonly` is `parse`: the Schnorr oracle is `Schnorr.verifyRaw` (C02) -/
theorem schnorr_oracle_is_verifyRaw (pk msg sig : Bytes) (h : pk.length = 32) :
    verifyRawXonly base.sha256 c pk msg sig = Schnorr.verifyRaw base.sha256 c pk msg sig :=
  verifyRawXonly_eq_verifyRaw c base.sha256 pk msg sig h

theorem realEnv_hashes : (realEnv base zOf msgOf c).hash160 = base.hash160 ∧
    (realEnv base zOf msgOf c).sha256 = base.sha256 := ⟨rfl, rfl⟩

/-! ## completeness: what the library signs is accepted -/

/-- the DER signature and both SEC encodings exist for every signature `PrivateKey.sign` returns -/
theorem signed_encodings (hmac : Bytes → Bytes → Bytes) (fuel d z r s : Nat)
    (hsign : ECDSA.sign hmac fuel d z = .ok (r, s)) (hr : r < N) (hs0 : s ≠ 0) (cmp : Bool) :
    ∃ derb pkb, ECDSA.der r s = some derb ∧ sec (smul (d : Int) G) cmp = some pkb :=
  sign_encodings hmac fuel d z r s hsign hr hs0 cmp

/-- **P2PKH, end to end**: for every secret `d` (`sign` refuses those outside [1, n−1]), every digest `z`,
    every HMAC and loop bound, every hash-type byte whose digest is `z`, compressed or uncompressed key:
    scriptSig `<der(sign d z) ‖ hashtype> <sec(d·G)>` against `DUP HASH160 <hash160(sec(d·G))>
    EQUALVERIFY CHECKSIG` is accepted -/
theorem complete_p2pkh_signed (hmac : Bytes → Bytes → Bytes) (fuel0 d z r s : Nat)
    (hsign : ECDSA.sign hmac fuel0 d z = .ok (r, s)) (hr : r < N) (hs0 : s ≠ 0)
    (htb : UInt8) (hz : zOf htb.toNat = some z) (cmp : Bool) (derb pkb : Bytes)
    (hder : ECDSA.der r s = some derb) (hsec : sec (smul (d : Int) G) cmp = some pkb)
    (wit : List Bytes) (fuel : Nat) (hf : 7 ≤ fuel) :
    verifyInput Cfg.repaired (realEnv base zOf msgOf c) [.push (derb ++ [htb]), .push pkb]
      (p2pkhCommands (base.hash160 pkb)) wit fuel = .accept :=
  Props.C06.complete_p2pkh (realEnv base zOf msgOf c) _ pkb _ wit rfl
    (ecdsaAuth_of_sign base zOf msgOf c hmac fuel0 d z r s hsign hr hs0 htb hz cmp derb pkb hder hsec) fuel hf

/-- **native P2WPKH, end to end**: empty scriptSig, witness `[der(sign d z) ‖ hashtype, sec(d·G)]` against
    `OP_0 <hash160(sec(d·G))>` (hash160 yields 20 bytes) -/
theorem complete_p2wpkh_signed (hmac : Bytes → Bytes → Bytes) (fuel0 d z r s : Nat)
    (hsign : ECDSA.sign hmac fuel0 d z = .ok (r, s)) (hr : r < N) (hs0 : s ≠ 0)
    (htb : UInt8) (hz : zOf htb.toNat = some z) (cmp : Bool) (derb pkb : Bytes)
    (hder : ECDSA.der r s = some derb) (hsec : sec (smul (d : Int) G) cmp = some pkb)
    (h20 : (base.hash160 pkb).length = 20) (fuel : Nat) (hf : 9 ≤ fuel) :
    verifyInput Cfg.repaired (realEnv base zOf msgOf c) [] (p2wpkhSpk (base.hash160 pkb))
      [derb ++ [htb], pkb] fuel = .accept :=
  Props.C06.complete_p2wpkh (realEnv base zOf msgOf c) _ pkb _ h20 rfl
    (ecdsaAuth_of_sign base zOf msgOf c hmac fuel0 d z r s hsign hr hs0 htb hz cmp derb pkb hder hsec) fuel hf

/-- **P2SH-P2WPKH, end to end**: scriptSig `[redeem script]`, witness as above -/
theorem complete_p2sh_p2wpkh_signed (hmac : Bytes → Bytes → Bytes) (fuel0 d z r s : Nat)
    (hsign : ECDSA.sign hmac fuel0 d z = .ok (r, s)) (hr : r < N) (hs0 : s ≠ 0)
    (htb : UInt8) (hz : zOf htb.toNat = some z) (cmp : Bool) (derb pkb rs : Bytes)
    (hder : ECDSA.der r s = some derb) (hsec : sec (smul (d : Int) G) cmp = some pkb)
    (h20 : (base.hash160 pkb).length = 20) (hparse : parseCommands rs = some (p2wpkhSpk (base.hash160 pkb)))
    (hh : (base.hash160 rs).length = 20) (fuel : Nat) (hf : 10 ≤ fuel) :
    verifyInput Cfg.repaired (realEnv base zOf msgOf c) [.push rs] (p2shSpk (base.hash160 rs))
      [derb ++ [htb], pkb] fuel = .accept :=
  Props.C06.complete_p2sh_p2wpkh (realEnv base zOf msgOf c) rs _ pkb _ h20 hparse hh rfl
    (ecdsaAuth_of_sign base zOf msgOf c hmac fuel0 d z r s hsign hr hs0 htb hz cmp derb pkb hder hsec) fuel hf

/-- **P2TR key path, end to end**: for every secret `d`, merkle root and tagged hashes `H`: let
    `(d', Q) = PrivateKey(d).tweaked_key(root)`.  Then `Q` is the output key of
    `PrivateKey(d).point.p2tr_script(root)`, and the BIP340 signature of the 32-byte digest `m` by `d'`
    (`sign_schnorr`, which equals the BIP's signing algorithm) is accepted as the single witness element —
    as 64 bytes when `m` is the digest of the default hash type, or with the hash-type byte appended -/
theorem complete_p2tr_keypath_signed (hc : Schnorr.CacheOK base.sha256 c) (H : Taproot.Hashes)
    (d d' : Nat) (Q : Pt) (root m a : Bytes) (htw : Taproot.privTweakedKey H d root = some (d', Q))
    (hm : m.length = 32) (ha : a.length = 32) (hk : Spec.BIP340.nonce base.sha256 d' m a ≠ some 0)
    (fuel : Nat) (hf : 2 ≤ fuel) :
    ∃ pt script sig R s c', Taproot.privPoint d = some pt ∧ Taproot.p2trScript H pt root = some script ∧
      script.cmds = p2trSpk (xonly Q) ∧
      Schnorr.signSchnorr base.sha256 c d' m (some a) = some ((R, s), c') ∧
      Schnorr.serialize R s = some sig ∧ Spec.BIP340.sign base.sha256 d' m a = some sig ∧
      (msgOf 0 = some m →
        verifyInput Cfg.repaired (realEnv base zOf msgOf c) [] script.cmds [sig] fuel = .accept) ∧
      (∀ htb : UInt8, msgOf htb.toNat = some m →
        verifyInput Cfg.repaired (realEnv base zOf msgOf c) [] script.cmds [sig ++ [htb]] fuel = .accept) := by
  obtain ⟨pt, hpt, htk, hQ, hd1, hd2⟩ := Props.C12.priv_tweaked_key_point H htw
  obtain ⟨sig, R, s, c', hs, _, hser, hlen, hspec, hver⟩ :=
    Props.C02.sign_verifies base.sha256 c hc d' m a hd1 hd2 hm ha hk
  obtain ⟨h64, h65⟩ := schnorrCheck_of_bip340 base zOf msgOf c hc _ m sig (xonly_length _) hlen hver
  have hscript : Taproot.p2trScript H pt root = some { cmds := Taproot.p2trCmds Q } := by
    simp [Taproot.p2trScript, htk]
  have hxl : (xonly Q).length = 32 := xonly_length Q
  rw [← hQ] at h64 h65
  refine ⟨pt, _, sig, R, s, c', hpt, hscript, rfl, hs, hser, hspec, ?_, ?_⟩
  · intro hmsg
    exact Props.C06.complete_p2tr_keypath _ (xonly Q) sig hxl (h64 hmsg) fuel hf
  · intro htb hmsg
    exact Props.C06.complete_p2tr_keypath _ (xonly Q) (sig ++ [htb]) hxl (h65 htb hmsg) fuel hf

/-! ## soundness: an accepted spend carries a valid signature of the committed key -/

/-- **P2PKH, end to end**: whatever the scriptSig (any opcodes, pushes, conditionals), witness and fuel,
    an accepted spend of `DUP HASH160 <h> EQUALVERIFY CHECKSIG` exhibits a key `pk` with
    `hash160(pk) = h` that is the SEC encoding of a curve point `Q` (or a 32-byte x-only key), and
    `(r, s)` with `r, s ∈ [1, n−1]` satisfying the ECDSA verification equation for `Q` and the digest of the
    hash type carried by the signature element -/
theorem sound_p2pkh_ecdsa (h : Bytes) (ss : List Cmd) (wit : List Bytes) (fuel : Nat)
    (ha : verifyInput Cfg.repaired (realEnv base zOf msgOf c) ss (p2pkhCommands h) wit fuel = .accept) :
    ∃ pk tmp, base.hash160 pk = h ∧ EcdsaWitness zOf pk tmp := by
  obtain ⟨pk, tmp, hh, hauth⟩ := Props.C06.sound_p2pkh _ h ss wit fuel ha
  exact ⟨pk, tmp, hh, ecdsaWitness_of_auth base zOf msgOf c hauth⟩

theorem ecdsaWitness_iff (pk tmp : Bytes) : EcdsaWitness zOf pk tmp ↔
    ∃ der ht Q r s z, splitHashType tmp = .ok (der, ht) ∧ parsePoint pk = some Q ∧ Valid P A B Q ∧
      ((∃ cmp, sec Q cmp = some pk) ∨ (pk.length = 32 ∧ parseXonly pk = some Q)) ∧
      ECDSA.parseDer der = some (r, s) ∧ zOf ht = some z ∧ Spec.ECDSA.Valid Q z r s :=
  ⟨fun h => h.ex, fun h => ⟨h⟩⟩

/-- **native P2WPKH, end to end**; key and signature are witness items -/
theorem sound_p2wpkh_ecdsa (h : Bytes) (hl : h.length = 20) (ss : List Cmd) (wit : List Bytes) (fuel : Nat)
    (ha : verifyInput Cfg.repaired (realEnv base zOf msgOf c) ss (p2wpkhSpk h) wit fuel = .accept) :
    ∃ pk tmp, pk ∈ wit ∧ tmp ∈ wit ∧ base.hash160 pk = h ∧ EcdsaWitness zOf pk tmp := by
  obtain ⟨pk, tmp, h1, h2, hh, hauth⟩ := Props.C06.sound_p2wpkh _ h hl ss wit fuel ha
  exact ⟨pk, tmp, h1, h2, hh, ecdsaWitness_of_auth base zOf msgOf c hauth⟩

/-- **P2SH-P2WPKH, end to end** (or a second preimage of the script hash is exhibited) -/
theorem sound_p2sh_p2wpkh_ecdsa (rs kh : Bytes) (hkh : kh.length = 20)
    (hparse : parseCommands rs = some (p2wpkhSpk kh)) (hrs : 1 < rs.length)
    (hh : (base.hash160 rs).length = 20) (ss : List Cmd) (wit : List Bytes) (fuel : Nat)
    (ha : verifyInput Cfg.repaired (realEnv base zOf msgOf c) ss (p2shSpk (base.hash160 rs)) wit fuel = .accept) :
    (∃ x, x ≠ rs ∧ base.hash160 x = base.hash160 rs) ∨
    (∃ pk tmp, pk ∈ wit ∧ tmp ∈ wit ∧ base.hash160 pk = kh ∧ EcdsaWitness zOf pk tmp) :=
  (Props.C06.sound_p2sh_p2wpkh (realEnv base zOf msgOf c) rs kh hkh hparse hrs hh ss wit fuel ha).imp_right
    fun ⟨pk, tmp, h1, h2, hk, hauth⟩ => ⟨pk, tmp, h1, h2, hk, ecdsaWitness_of_auth base zOf msgOf c hauth⟩

/-- **P2TR, end to end**: an accepted spend of `OP_1 <x>` is a key-path spend whose single element carries
    a signature that `verify_schnorr` accepts under the output key `x` for the digest of its hash type —
    BIP340 verification whenever the signature proper has 64 bytes (always for a 65-byte element) — or it
    is a script-path spend (control block committing the script to `x`, C06 / C12) -/
theorem sound_p2tr_bip340 (hc : Schnorr.CacheOK base.sha256 c) (x : Bytes) (hl : x.length = 32)
    (ss : List Cmd) (wit : List Bytes) (fuel : Nat)
    (ha : verifyInput Cfg.repaired (realEnv base zOf msgOf c) ss (p2trSpk x) wit fuel = .accept) :
    ∃ items, (items = wit ∨ items = wit.dropLast) ∧
      ((∃ sig body ht m, items = [sig] ∧
          ((sig.length = 65 ∧ ∃ b : UInt8, sig = body ++ [b] ∧ ht = b.toNat) ∨
            (sig.length ≠ 65 ∧ sig.length ≠ 0 ∧ body = sig ∧ ht = 0)) ∧ msgOf ht = some m ∧
          (∃ c', Schnorr.verifyRaw base.sha256 c x m body = some (true, c')) ∧
          (body.length = 64 → Spec.BIP340.verify base.sha256 x m body = true)) ∨
        ScriptPath (realEnv base zOf msgOf c) x [] items) := by
  obtain ⟨items, hor, hcase⟩ := Props.C06.sound_p2tr _ x hl ss wit fuel ha
  refine ⟨items, hor, ?_⟩
  rcases hcase with ⟨sig, hi, hv⟩ | hsp
  · obtain ⟨body, ht, m, hc1, hm, hraw, hspec⟩ := bip340_of_schnorrCheck base zOf msgOf c hc x sig hl hv
    exact Or.inl ⟨sig, body, ht, m, hi, hc1, hm, hraw, hspec⟩
  · exact Or.inr hsp

/-! ## m-of-n multisig, soundness -/

/-- **P2SH m-of-n, end to end**: an accepted spend exhibits a second preimage of the script hash, or `m`
    signature elements that are, in order, valid ECDSA signatures (for the digests of their hash types) of
    `m` distinct keys of the redeem script -/
theorem sound_p2sh_multisig_ecdsa (rs : Bytes) (m : Nat) (pks : List Bytes) (hm : 1 ≤ m ∧ m ≤ 16)
    (hn : 1 ≤ pks.length ∧ pks.length ≤ 16) (hparse : parseCommands rs = some (multisigScript m pks))
    (hrs : 1 < rs.length) (hh : (base.hash160 rs).length = 20) (ss : List Cmd) (wit : List Bytes) (fuel : Nat)
    (ha : verifyInput Cfg.repaired (realEnv base zOf msgOf c) ss (p2shSpk (base.hash160 rs)) wit fuel = .accept) :
    (∃ x, x ≠ rs ∧ base.hash160 x = base.hash160 rs) ∨
    (∃ (raw : List Bytes) (sigs : List (Bytes × Nat)), raw.length = m ∧ splitSigs raw = .ok sigs ∧
      RealSigMatch zOf sigs pks.reverse) :=
  (Props.C06.sound_p2sh_multisig (realEnv base zOf msgOf c) rs m pks hm hn hparse hrs hh ss wit fuel ha).imp_right
    (multisig_real base zOf msgOf c)

/-- **native P2WSH m-of-n, end to end** -/
theorem sound_p2wsh_multisig_ecdsa (ws : Bytes) (m : Nat) (pks : List Bytes) (hm : 1 ≤ m ∧ m ≤ 16)
    (hn : 1 ≤ pks.length ∧ pks.length ≤ 16) (hparse : parseCommands ws = some (multisigScript m pks))
    (hh : (base.sha256 ws).length = 32) (ss : List Cmd) (wit : List Bytes) (fuel : Nat)
    (ha : verifyInput Cfg.repaired (realEnv base zOf msgOf c) ss (p2wshSpk (base.sha256 ws)) wit fuel = .accept) :
    (∃ x, x ≠ ws ∧ base.sha256 x = base.sha256 ws) ∨
    (∃ (raw : List Bytes) (sigs : List (Bytes × Nat)), raw.length = m ∧ splitSigs raw = .ok sigs ∧
      RealSigMatch zOf sigs pks.reverse) :=
  (Props.C06.sound_p2wsh_multisig (realEnv base zOf msgOf c) ws m pks hm hn hparse hh ss wit fuel ha).imp_right
    (multisig_real base zOf msgOf c)

/-- **P2SH-P2WSH m-of-n, end to end** -/
theorem sound_p2sh_p2wsh_multisig_ecdsa (rs ws : Bytes) (m : Nat) (pks : List Bytes) (hm : 1 ≤ m ∧ m ≤ 16)
    (hn : 1 ≤ pks.length ∧ pks.length ≤ 16) (hparseW : parseCommands ws = some (multisigScript m pks))
    (hw32 : (base.sha256 ws).length = 32) (hparseR : parseCommands rs = some (p2wshSpk (base.sha256 ws)))
    (hrs : 1 < rs.length) (hh : (base.hash160 rs).length = 20) (ss : List Cmd) (wit : List Bytes) (fuel : Nat)
    (ha : verifyInput Cfg.repaired (realEnv base zOf msgOf c) ss (p2shSpk (base.hash160 rs)) wit fuel = .accept) :
    (∃ x, x ≠ rs ∧ base.hash160 x = base.hash160 rs) ∨ (∃ x, x ≠ ws ∧ base.sha256 x = base.sha256 ws) ∨
    (∃ (raw : List Bytes) (sigs : List (Bytes × Nat)), raw.length = m ∧ splitSigs raw = .ok sigs ∧
      RealSigMatch zOf sigs pks.reverse) :=
  (Props.C06.sound_p2sh_p2wsh_multisig (realEnv base zOf msgOf c) rs ws m pks hm hn hparseW hw32 hparseR
    hrs hh ss wit fuel ha).imp_right (Or.imp_right (multisig_real base zOf msgOf c))

/-- one step of `RealSigMatch`: the remaining signatures match keys AFTER the one this signature matched -/
theorem realSigMatch_cons_iff (der : Bytes) (ht : Nat) (sigs : List (Bytes × Nat)) (keys : List Bytes) :
    RealSigMatch zOf ((der, ht) :: sigs) keys ↔
      ∃ pre p rest Q r s z, keys = pre ++ p :: rest ∧ parsePoint p = some Q ∧ Valid P A B Q ∧
        ECDSA.parseDer der = some (r, s) ∧ zOf ht = some z ∧ Spec.ECDSA.Valid Q z r s ∧
        RealSigMatch zOf sigs rest := by
  constructor
  · intro h
    cases h with
    | cons _ _ _ pre p rest Q r s z hQ hv hd hz hval hrest =>
      exact ⟨pre, p, rest, Q, r, s, z, rfl, hQ, hv, hd, hz, hval, hrest⟩
  · rintro ⟨pre, p, rest, Q, r, s, z, rfl, hQ, hv, hd, hz, hval, hrest⟩
    exact RealSigMatch.cons der ht sigs pre p rest Q r s z hQ hv hd hz hval hrest

/-! ## the hypotheses are satisfiable -/

-- a signature exists with `r < n`, `s ≠ 0` (an "HMAC" answering 00…01: nonce 1, secret 1, digest 0)
example : ECDSA.sign (fun _ _ => List.replicate 31 0 ++ [1]) 1 1 0 = .ok (Gen.secpGx, Gen.secpGx) ∧
    Gen.secpGx < N ∧ Gen.secpGx ≠ 0 := sign_one

example (sha256 : Bytes → Bytes) : Schnorr.CacheOK sha256 [] := Schnorr.cacheOK_nil sha256

example (X : Pt) : Taproot.p2trCmds X = p2trSpk (xonly X) := rfl

end Buidl.Props.C06Compose
