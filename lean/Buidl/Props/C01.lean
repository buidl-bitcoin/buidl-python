/-
  C01 — ECDSA: signing is complete, verification is sound, signatures canonical.
  Models: Buidl.Model.ECDSA over Buidl.Model.EC (constants, comparison operators and thresholds
  from Buidl.Gen.Ecc / Buidl.Gen.Ecdsa, re-extracted from /repo on every run).
  Specifications: Buidl.Spec.RFC6979 (nonce generation, abstract HMAC), Buidl.Spec.ECDSA.Valid.
  `hmac` is an arbitrary function with 32-byte outputs.
-/
import Buidl.Proofs.ECDSAGroup
namespace Buidl.Props.C01
open Buidl Buidl.EC Buidl.ECDSA

/-! ## the nonce is the RFC 6979 nonce -/

/-- PrivateKey.deterministic_k computes RFC 6979 §3.2 (HMAC-SHA256, qlen = 256, bits2octets = z mod q)
    for every secret and digest below 2^256, every HMAC and every loop bound (F01c repaired: also for
    `z = N`). -/
theorem deterministicK_rfc6979 (hmac : Bytes → Bytes → Bytes) (hlen : ∀ k m, (hmac k m).length = 32)
    (fuel d z : Nat) (hd : d < 2 ^ 256) (hz : z < 2 ^ 256) :
    deterministicK hmac fuel d z =
      match Spec.RFC6979.rfc6979 hmac fuel d z with
      | some k => .ok k
      | none => .error .outOfFuel := by
  have e : (256 : Nat) ^ 32 = 2 ^ 256 := by decide
  have hzr : z % N < 256 ^ 32 := by
    have : z % N ≤ z := Nat.mod_le _ _
    omega
  have hd' : d < 256 ^ 32 := by omega
  have hz' : z < 256 ^ 32 := by omega
  have hb : Spec.RFC6979.bits2octets N 256 (natToBE' 32 z) = natToBE' 32 (z % N) := by
    simp [Spec.RFC6979.bits2octets, Spec.RFC6979.bits2int, Spec.RFC6979.int2octets, beToNat_natToBE' hz']
  have hi : Spec.RFC6979.int2octets 256 d = natToBE' 32 d := by
    simp [Spec.RFC6979.int2octets]
  simp only [deterministicK, detkReduce_eq, decide_eq_true_eq, reduce_eq_mod hz, natToBE, hzr, hd',
    if_true, Spec.RFC6979.rfc6979, Spec.RFC6979.generateK, hb, hi]
  exact detkLoop_eq_stepH hmac hlen fuel _ _

/-- the loop bound is immaterial: an answer obtained with some fuel is the answer with any more -/
theorem deterministicK_fuel (hmac : Bytes → Bytes → Bytes) (fuel extra d z k : Nat)
    (h : deterministicK hmac fuel d z = .ok k) : deterministicK hmac (fuel + extra) d z = .ok k := by
  simp only [deterministicK] at h ⊢
  split
  · next hz hd => simp only [hz, hd] at h; exact detkLoop_mono hmac _ _ _ _ h extra
  · next hne =>
    split at h
    · next hz hd => exact absurd hd (hne _ _ hz)
    · cases h

/-- the nonce lies in [1, N-1] -/
theorem deterministicK_range (hmac : Bytes → Bytes → Bytes) (fuel d z k : Nat)
    (h : deterministicK hmac fuel d z = .ok k) : 1 ≤ k ∧ k < N :=
  ECDSA.deterministicK_range hmac fuel d z k h

/-- `z = N` and `z = 0` get the same nonce (the F01c witness; the repaired code agrees with the RFC) -/
theorem deterministicK_N (hmac : Bytes → Bytes → Bytes) (fuel d : Nat) :
    deterministicK hmac fuel d N = deterministicK hmac fuel d 0 := by
  have h1 : (if detkReduce N then N - N else N) = 0 := by
    rw [detkReduce_eq, if_pos (decide_eq_true (Nat.le_refl N)), Nat.sub_self]
  have h2 : (if detkReduce 0 then 0 - N else 0) = 0 := by
    rw [detkReduce_eq, if_neg (by decide)]
  unfold deterministicK
  rw [h1, h2]

/-! ## canonical signatures -/

/-- low S (F01b repaired: the threshold is the integer `N / 2`) -/
theorem signWith_lowS (k d z r s : Nat) (h : signWith k d z = some (r, s)) : s ≤ (N - 1) / 2 :=
  ECDSA.signWith_lowS k d z r s h

theorem sign_lowS (hmac : Bytes → Bytes → Bytes) (fuel d z r s : Nat)
    (h : sign hmac fuel d z = .ok (r, s)) : s ≤ (N - 1) / 2 := by
  obtain ⟨-, k, -, hrs⟩ := sign_ok h
  exact ECDSA.signWith_lowS k d z r s hrs

/-- the low-S threshold read from the source is an integer and equals `N / 2` -/
theorem lowS_threshold : Gen.lowSIsInt = true ∧ Gen.lowSRhs = N / 2 ∧ Gen.lowSOp = "Gt" :=
  ⟨rfl, lowSRhs_eq, rfl⟩

/-! ## DER -/

/-- Signature.parse inverts Signature.der for all `1 ≤ r, s < 2^256` -/
theorem der_roundtrip (r s : Nat) (hr1 : 1 ≤ r) (hr2 : r < 2 ^ 256) (hs1 : 1 ≤ s) (hs2 : s < 2 ^ 256) :
    ∃ b, der r s = some b ∧ parseDer b = some (r, s) := by
  obtain ⟨R, S, mR, mS, lR, lS, hd⟩ := der_spec r s hr1 hr2 hs1 hs2
  refine ⟨_, hd, ?_⟩
  rw [parseDer_layout R S mR.ne_nil mS.ne_nil lR lS, mR.1, mS.1]

/-- the encoding is strict DER: `30 len 02 |R| R 02 |S| S` with minimal positive INTEGER contents
    (first octet < 0x80; a leading 00 only in front of an octet ≥ 0x80), at most 72 bytes -/
theorem der_minimal (r s : Nat) (hr1 : 1 ≤ r) (hr2 : r < 2 ^ 256) (hs1 : 1 ≤ s) (hs2 : s < 2 ^ 256) :
    ∃ R S, MinimalInt R r ∧ MinimalInt S s ∧ R.length ≤ 33 ∧ S.length ≤ 33 ∧
      der r s = some ([0x30, UInt8.ofNat (2 + R.length + (2 + S.length))] ++
        (([2, UInt8.ofNat R.length] ++ R) ++ ([2, UInt8.ofNat S.length] ++ S))) :=
  der_spec r s hr1 hr2 hs1 hs2

example : der 1 (2 ^ 255) = some [0x30, 0x26, 2, 1, 1, 2, 0x21, 0, 0x80, 0, 0, 0, 0, 0, 0, 0, 0, 0, 0, 0, 0, 0, 0,
    0, 0, 0, 0, 0, 0, 0, 0, 0, 0, 0, 0, 0, 0, 0, 0, 0] := by decide +kernel
example : MinimalInt [0, 0x80] 128 ∧ MinimalInt [0x7f] 127 := by
  refine ⟨⟨rfl, 0, [0x80], rfl, by decide, fun _ => ⟨0x80, [], rfl, by decide⟩⟩,
    ⟨rfl, 0x7f, [], rfl, by decide, fun h => absurd h (by decide)⟩⟩

/-! ## verification: range check -/

/-- r or s equal to 0 or ≥ n is reported invalid (F01a repaired) -/
theorem out_of_range_rejected (Q : Pt) (z r s : Nat) (h : r = 0 ∨ s = 0 ∨ r ≥ N ∨ s ≥ N) :
    verify Q z r s = some false :=
  verify_out_of_range Q z r s h

/-- in particular the F01a witness `(r, s + N)` is rejected -/
theorem F01a_fixed (Q : Pt) (z r s : Nat) : verify Q z r (s + N) = some false :=
  verify_out_of_range Q z r (s + N) (Or.inr (Or.inr (Or.inr (by omega))))

/-! ## verification is the ECDSA predicate (N prime: Fermat inverse; group law not needed) -/

/-- soundness: S256Point.verify answers true only for tuples with r, s ∈ [1, n-1] that satisfy the
    ECDSA equation `x(z s⁻¹ G + r s⁻¹ Q) ≡ r (mod n)` (F01a repaired) -/
theorem verify_sound (Q : Pt) (z r s : Nat) (h : verify Q z r s = some true) : Spec.ECDSA.Valid Q z r s := by
  obtain ⟨hr1, hr2, hs1, hs2⟩ := verify_true_range Q z r s h
  rw [verify_eq, if_pos ⟨hr1, hr2, hs1, hs2⟩] at h
  refine ⟨hr1, hr2, hs1, hs2, powmod s (N - 2) N, powmod_lt _ _ _ N_pos, powmod_inv_mul s hs1 hs2, ?_⟩
  rw [← smul_natCast_mod (z * _), ← smul_natCast_mod (r * _)]
  split at h
  · cases h
  · next x y hxy =>
    refine ⟨x, y, hxy, ?_⟩
    have : x = r := by simpa using h
    rw [this, Nat.mod_eq_of_lt hr2]

/-- completeness: a tuple satisfying the predicate is accepted.  Explicit hypothesis for the negligible
    event: the x coordinate of the point computed lies below n (the code compares `x == r` without
    reducing x modulo n; x ∈ [n, p) has probability ≈ 2⁻¹²⁸ and no instance is known). -/
theorem verify_complete (Q : Pt) (z r s : Nat) (h : Spec.ECDSA.Valid Q z r s)
    (hx : ∀ x y, sadd (smul ((z * powmod s (N - 2) N : Nat) : Int) G)
      (smul ((r * powmod s (N - 2) N : Nat) : Int) Q) = .aff x y → x < N) :
    verify Q z r s = some true := by
  obtain ⟨hr1, hr2, hs1, hs2, w, hw, hws, x, y, hxy, hxr⟩ := h
  rw [inv_eq_powmod hs1 hs2 hw hws] at hxy
  rw [verify_eq, if_pos ⟨hr1, hr2, hs1, hs2⟩, smul_natCast_mod (z * _), smul_natCast_mod (r * _), hxy]
  have := hx x y hxy
  rw [Nat.mod_eq_of_lt this] at hxr
  simp [hxr]

/-- hence: anything accepted has r, s in range — "never accepted" for every out-of-range tuple -/
theorem verify_true_in_range (Q : Pt) (z r s : Nat) (h : verify Q z r s = some true) :
    1 ≤ r ∧ r < N ∧ 1 ≤ s ∧ s < N :=
  verify_true_range Q z r s h

/-! ## sign → verify (group law of secp256k1, order of G, N prime) -/

/-- For every secret `d`, every nonce `k ∈ [1, n-1]` and every digest `z`: when the signing equation
    yields `(r, s)` with `s ≠ 0` and `r = x(kG) < n` (explicit hypotheses for the two negligible events),
    verification under the public key `dG` accepts — including after the low-S flip (`x(−R) = x(R)`). -/
theorem verify_signWith (k d z r s : Nat) (hk1 : 1 ≤ k) (hk2 : k < N)
    (h : signWith k d z = some (r, s)) (hr : r < N) (hs0 : s ≠ 0) :
    verify (smul (d : Int) G) z r s = some true :=
  ECDSA.verify_signWith k d z r s hk1 hk2 h hr hs0

/-- the same for PrivateKey.sign with its RFC 6979 nonce, for every HMAC and loop bound -/
theorem verify_sign (hmac : Bytes → Bytes → Bytes) (fuel d z r s : Nat)
    (h : sign hmac fuel d z = .ok (r, s)) (hr : r < N) (hs0 : s ≠ 0) :
    verify (smul (d : Int) G) z r s = some true := by
  obtain ⟨-, k, hk, hrs⟩ := sign_ok h
  obtain ⟨hk1, hk2⟩ := ECDSA.deterministicK_range hmac fuel d z k hk
  exact ECDSA.verify_signWith k d z r s hk1 hk2 hrs hr hs0

/-- the hypotheses of `verify_signWith` are satisfiable: k = d = 1, z = 0 -/
example : signWith 1 1 0 = some (55066263022277343669578718895168534326250603453777594175500187360389116729240, 55066263022277343669578718895168534326250603453777594175500187360389116729240) ∧ 55066263022277343669578718895168534326250603453777594175500187360389116729240 < N := by
  decide +kernel

end Buidl.Props.C01
