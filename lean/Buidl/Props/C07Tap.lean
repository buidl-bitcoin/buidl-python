/-
  C07 (tapscript dispatch table) — TAPROOT_OP_CODE_FUNCTIONS of buidl/op.py against BIP342, transcribed in
  Buidl.Spec.Tapscript.

  The table (Buidl.Gen.Op.taprootOpCodeFunctions, re-extracted from /repo on every run) differs from the legacy
  table in four ways, each with its theorem below:
  * OP_SUCCESSx — the `op_success` entries are exactly BIP342's list (`success_codes_are_bip342`); as coded they
    are no-ops (`op_success_is_nop`), where BIP342 lets the mere presence of one validate the script
    (`op_success_not_unconditional`: a one-sided deviation, false refusals only);
  * CHECKSIG / CHECKSIGVERIFY / CHECKSIGADD — conform to the "rules for signature opcodes" on 32-byte keys with
    an empty or a valid signature (`sigops_conform`); they deviate on an invalid non-empty signature
    (`invalid_signature_continues`: continues where the script must fail — more lenient than consensus), on
    unknown public key types and on counters longer than 4 bytes (`unknown_key_and_long_counter`);
  * CHECKMULTISIG(VERIFY) — disabled; never continue, but by raising TypeError (`checkmultisig_disabled`);
  * everything else — the same function as in the legacy table (`shared_codes`), hence `op_conforms_partial`
    carries over (`op_conforms_partial_tap`).
  Also: MINIMALIF is not enforced (`minimalif_not_enforced`); OP_CODESEPARATOR has no entry (`absent_codes`).
-/
import Buidl.Proofs.InterpTap

namespace Buidl.Props.C07Tap
open Buidl Buidl.Script Buidl.Interp Buidl.Spec

/-! ## the table -/

/-- **OP_SUCCESSx: the table's `op_success` entries are exactly BIP342's list** (80, 98, 126-129, 131-134,
    137-138, 141-142, 149-153, 187-254), over all 256 opcode numbers -/
theorem success_codes_are_bip342 (c : Nat) (hc : c < 256) :
    Tapscript.isOpSuccess c = true ↔ lookup (table true) c = some "op_success" :=
  (tap_lookup_success c).symm

/-- every legacy opcode other than 172..175 has the same function in the tapscript table: nothing else changed -/
theorem shared_codes (c : Nat) (hc : c < 256) (h4 : c ≠ 172 ∧ c ≠ 173 ∧ c ≠ 174 ∧ c ≠ 175)
    (hl : lookup (table false) c ≠ none) : lookup (table true) c = lookup (table false) c := by
  cases h : lookup (table false) c with
  | none => exact absurd h hl
  | some v => exact tap_lookup_legacy h (by omega)

/-- the changed entries: CHECKSIG / CHECKSIGVERIFY are the Schnorr versions, CHECKSIGADD (186) is new (not in
    the legacy table), CHECKMULTISIG(VERIFY) point to op_return -/
theorem changed_codes : resolve true 172 = some .checksigSchnorr ∧ resolve true 173 = some .checksigverifySchnorr ∧
    resolve true 186 = some .checksigaddSchnorr ∧ resolve true 174 = some .return_ ∧
    resolve true 175 = some .return_ ∧ resolve false 186 = none := tap_table_sig

/-- the opcode numbers without an entry (KeyError when executed): push opcodes 1..78, 101..104 (ELSE / ENDIF are
    consumed by op_if), OP_CODESEPARATOR (171 — still a valid opcode under BIP342) and 255 -/
theorem absent_codes (c : Nat) (hc : c < 256) :
    lookup (table true) c = none ↔ ((1 ≤ c ∧ c ≤ 78) ∨ (101 ≤ c ∧ c ≤ 104) ∨ c = 171 ∨ c = 255) := by
  rw [tap_lookup_none]
  omega

/-! ## unchanged opcodes -/

/-- **`op_conforms_partial` under the tapscript table**: the 75 flow-free opcodes of C07's subset, dispatched
    through TAPROOT_OP_CODE_FUNCTIONS, map every stack to what BIP342 specifies (= the legacy opcode), under the
    same side conditions as in the legacy case -/
theorem op_conforms_partial_tap (env : Env) (hlt : env.locktime ≤ 4294967295) (st : St) (htap : st.tap = true)
    (c : Nat) (fn : OpFn) (hp : (c, fn) ∈ opPairs)
    (hve : c = 178 → op_checksequenceverify Cfg.repaired env st.stack ≠ .err .valueError)
    (h : Consensus.execOp (ctxOf env) c st.stack st.alt ≠ .oversize) :
    stepSpec (stepOp Cfg.repaired env st c) = Tapscript.execOp (ctxOf env) (validOf env) c st.stack st.alt := by
  have hspec : Tapscript.execOp (ctxOf env) (validOf env) c st.stack st.alt
      = Consensus.execOp (ctxOf env) c st.stack st.alt := by
    have : ∀ p ∈ opPairs, Tapscript.isOpSuccess p.1 = false ∧ Tapscript.isDisabled p.1 = false ∧
        ¬ (p.1 = 172 ∨ p.1 = 173 ∨ p.1 = 186) := by decide +kernel
    obtain ⟨h1, h2, h3⟩ := this (c, fn) hp
    unfold Tapscript.execOp
    rw [h1, h2, if_neg Bool.false_ne_true, if_neg Bool.false_ne_true, if_neg h3]
  rw [hspec, (OpIs.of_pair hp).stepSpec _ env st htap]
  exact fn_conforms env c fn hp st.stack st.alt hlt hve h

/-! ## the signature opcodes -/

/-- **OP_CHECKSIG, OP_CHECKSIGVERIFY, OP_CHECKSIGADD conform to BIP342's rules for signature opcodes** on
    every stack whose top elements are `SigConforming`: a 32-byte public key and a signature that is empty
    (key parses) or passes the Schnorr check; for CHECKSIGADD a counter of at most 4 bytes.  Stacks that are
    too short fail on both sides.  (`validOf env` is the validity oracle of the spec: the check of the code.) -/
theorem sigops_conform (env : Env) (st : St) (htap : st.tap = true) :
    ((∀ pk sig r, st.stack = pk :: sig :: r → SigConforming env pk sig) →
      stepSpec (stepOp Cfg.repaired env st 172) = Tapscript.execOp (ctxOf env) (validOf env) 172 st.stack st.alt ∧
      stepSpec (stepOp Cfg.repaired env st 173) = Tapscript.execOp (ctxOf env) (validOf env) 173 st.stack st.alt) ∧
    ((∀ pk nb sig r, st.stack = pk :: nb :: sig :: r → nb.length ≤ 4 ∧ SigConforming env pk sig) →
      stepSpec (stepOp Cfg.repaired env st 186) = Tapscript.execOp (ctxOf env) (validOf env) 186 st.stack st.alt) :=
  ⟨fun h =>
    ⟨(opIs_tap_checksig.stepSpec _ env st htap).trans (checksig_tap_fn_conforms env st.stack st.alt h),
     (opIs_tap_checksigverify.stepSpec _ env st htap).trans (checksigverify_tap_fn_conforms env st.stack st.alt h)⟩,
   fun h => (opIs_tap_checksigadd.stepSpec _ env st htap).trans (checksigadd_tap_fn_conforms env st.stack st.alt h)⟩

/-- **where they do not conform, 1: an invalid non-empty signature does not fail the script.**  BIP342:
    "Validation failure in this case immediately terminates script execution with failure."  The code pushes
    false (CHECKSIG) or the unchanged counter (CHECKSIGADD) and continues — for every 32-byte key and every
    signature that parses but does not verify.  (Authorisation is unaffected — C06's tapleaf theorems count
    valid signatures only — but `<sig> <key> CHECKSIG NOT`, or a k-of-n CHECKSIGADD witness with a wrong
    signature where an empty one belongs, is accepted here and rejected by the network.) -/
theorem invalid_signature_continues (env : Env) (pk sig nb : Bytes) (s : Stack) (h32 : pk.length = 32)
    (h4 : nb.length ≤ 4) (hbad : schnorrCheck env pk sig = .ok (some false)) :
    op_checksig_schnorr env (pk :: sig :: s) = .ok ([] :: s) ∧
    Tapscript.execSigOp (validOf env) 172 (pk :: sig :: s) = .fail ∧
    op_checksigadd_schnorr env (pk :: nb :: sig :: s) = .ok (encodeNum (decodeNum nb) :: s) ∧
    Tapscript.execSigOp (validOf env) 186 (pk :: nb :: sig :: s) = .fail := by
  have hne : sig ≠ [] := by
    intro e; subst e
    unfold schnorrCheck optErr at hbad
    cases hx : env.xonlyErr pk <;> simp [hx] at hbad
  have hout : Tapscript.sigOutcome (validOf env) pk sig = .fail := by
    simp [Tapscript.sigOutcome, h32, hne, validOf, hbad]
  have hn4 : ¬ nb.length > 4 := by omega
  refine ⟨?_, ?_, ?_, ?_⟩
  · simp [op_checksig_schnorr, hbad, Res.bind, boolNum]; rfl
  · simp [Tapscript.execSigOp, hout]
  · simp [op_checksigadd_schnorr, hbad, Res.bind]
  · simp [Tapscript.execSigOp, hout, hn4]

/-- **where they do not conform, 2: unknown public key types and oversized counters.**  A key that is neither
    empty nor 32 bytes is an "unknown public key type" under BIP342 — any non-empty signature counts as valid;
    the code calls `parse_xonly` on it, which raises (here: whenever `xonlyErr` reports an error), so the
    script is refused: stricter than consensus.  A CHECKSIGADD counter longer than 4 bytes must fail the script;
    `decode_num` has no size limit and the code continues: more lenient than consensus. -/
theorem unknown_key_and_long_counter (env : Env) (pk sig nb : Bytes) (s : Stack) :
    (pk.length ≠ 0 → pk.length ≠ 32 → sig ≠ [] → ∀ e, env.xonlyErr pk = some e →
      op_checksig_schnorr env (pk :: sig :: s) = .err e ∧
      Tapscript.execSigOp (validOf env) 172 (pk :: sig :: s) = .ok ([1] :: s)) ∧
    (4 < nb.length → SigConforming env pk sig →
      (∃ r, op_checksigadd_schnorr env (pk :: nb :: sig :: s) = .ok r) ∧
      Tapscript.execSigOp (validOf env) 186 (pk :: nb :: sig :: s) = .fail) := by
  constructor
  · intro h0 h32 hne e he
    refine ⟨by simp [op_checksig_schnorr, schnorrCheck, optErr, he, Res.bind], ?_⟩
    simp [Tapscript.execSigOp, Tapscript.sigOutcome, h0, h32, hne]
  · intro h4 hc
    refine ⟨?_, by simp [Tapscript.execSigOp, h4]⟩
    rcases sigOutcome_conforming hc with ⟨_, h1, _⟩ | ⟨h1, _⟩ <;>
      simp [op_checksigadd_schnorr, h1, Res.bind]

/-! ## the disabled opcodes -/

/-- **OP_CHECKMULTISIG / OP_CHECKMULTISIGVERIFY in a tapscript never continue** — as BIP342 demands ("behave in
    the same way as OP_RETURN") — but not by returning False: the table maps them to `op_return(stack)`, which
    `Script.evaluate` calls with three arguments like every opcode in (172..175, 177, 178, 186): TypeError on
    every stack -/
theorem checkmultisig_disabled (cfg : Cfg) (env : Env) (st : St) (htap : st.tap = true) :
    stepOp cfg env st 174 = .error (.err .typeError) ∧ stepOp cfg env st 175 = .error (.err .typeError) ∧
    stepSpec (stepOp cfg env st 174) = Tapscript.execOp (ctxOf env) (validOf env) 174 st.stack st.alt ∧
    stepSpec (stepOp cfg env st 175) = Tapscript.execOp (ctxOf env) (validOf env) 175 st.stack st.alt := by
  obtain ⟨_, _, _, h174, h175, _⟩ := tap_table_sig
  rw [← htap] at h174 h175
  have e174 := stepOp_conv_mismatch cfg env st 174 _ h174 (by decide)
  have e175 := stepOp_conv_mismatch cfg env st 175 _ h175 (by decide)
  refine ⟨e174, e175, ?_, ?_⟩
  · rw [e174]; rfl
  · rw [e175]; rfl

/-! ## OP_SUCCESSx as coded -/

/-- **as coded, every OP_SUCCESSx is a no-op**: `op_success(stack)` returns True and the loop goes on with the
    next command, stack and alt-stack untouched -/
theorem op_success_is_nop (cfg : Cfg) (env : Env) (st : St) (htap : st.tap = true) (c : Nat)
    (hs : Tapscript.isOpSuccess c = true) : stepOp cfg env st c = .ok st :=
  (opIs_success hs).stepOp cfg env st htap

/-- **BIP342 says more: validation succeeds as soon as such an opcode is *present*.**  The code is stricter:
    it goes on executing, so `OP_SUCCESS80 OP_0` — valid under BIP342 — is refused, and an OP_SUCCESSx in an
    unexecuted branch has no effect at all (it is skipped with the branch).  Since the spec accepts every script
    with an OP_SUCCESSx, the deviation is one-sided: a false refusal, never a false acceptance. -/
theorem op_success_not_unconditional (env : Env) :
    Tapscript.hasOpSuccess [.op 80, .op 0] = true ∧
    run Cfg.repaired env 5 ⟨[.op 80, .op 0], [], [], none, true⟩ = .reject ∧
    Tapscript.hasOpSuccess [.op 0, .op 99, .op 80, .op 104, .op 0] = true ∧
    run Cfg.repaired env 9 ⟨[.op 0, .op 99, .op 80, .op 104, .op 0], [], [], none, true⟩ = .reject := by
  refine ⟨by decide, ?_, by decide, ?_⟩ <;> rfl

/-! ## MINIMALIF -/

/-- **MINIMALIF is not enforced**: BIP342 makes it a consensus rule of tapscript that the argument of OP_IF /
    OP_NOTIF is exactly the empty vector or `[1]`; op_if takes any element whose `decode_num` is non-zero as true
    (more lenient than consensus; the scripts the library itself builds have no conditionals) -/
theorem minimalif_not_enforced (env : Env) :
    Tapscript.minimalIfArg [2] = false ∧
    run Cfg.repaired env 9 ⟨[.push [2], .op 99, .op 81, .op 104], [], [], none, true⟩ = .accept := by
  refine ⟨by decide, ?_⟩
  rfl

end Buidl.Props.C07Tap
