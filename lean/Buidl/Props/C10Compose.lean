/-
  C10 (composition) — "create, update, sign, combine, finalise and extract produce a transaction that verifies
  exactly when at least the required number of signers signed."  Property theorems only; definitions and helper
  lemmas are in Buidl.Proofs.ComposePsbt.

  Two models meet here: the PSBT workflow (Buidl.Model.PsbtFlow with the `…Branch` closed forms of
  Buidl.Proofs.PsbtFinalize, C10: what ScriptSig / witness `PSBTIn.finalize` emits per script type) and the
  script interpreter with Tx.verify_input (Buidl.Model.Interp, C06: the `complete_*` theorems).  For each of
  the six wallet types — p2pkh, p2wpkh, p2sh-p2wpkh, p2sh multisig, p2wsh multisig, p2sh-p2wsh multisig — the
  `…_flow` theorem has two halves: with enough valid partial signatures `finalize` succeeds, the emitted
  ScriptSig / witness is literally the shape the matching `complete_*` theorem accepts, hence
  `verifyInput = .accept`; with too few `finalize` raises (for the whole PSBT: `finalize_raises_of_input`, so
  there is nothing to extract).  `finalize_all_inputs` lifts the first half to the PSBT, `extract_of_verifies`
  is `final_tx`.

  Glue hypotheses, explicit in every statement:
  * same script: the PSBT's ScriptPubKey / RedeemScript / WitnessScript command lists are the interpreter's
    templates (`p2pkhCommands`, `p2wpkhSpk`, `p2wshSpk`, `p2shSpk`, `multisigScript`), their serialisations read
    back as their commands (`parseCommands raw = some cmds`; `same_script_glue` discharges this for well-formed
    command lists) and hash to the program in the ScriptPubKey with the interpreter's hash functions;
  * same keys: the script's keys are pairwise different and parse (`env.pkErr`);
  * digest oracle: `EcdsaAuth env sec sig` / `SigsValid env p.sigs pks` — the stored partial signatures are
    valid for the digest of this input as the interpreter computes it (C05); `valid_partial_sigs` derives it
    from PSBT.validate's check under agreement of the two digest oracles.
  `finalizeIn true` is the repaired p2sh count (F10d); `Cfg.repaired` the code after the C06/C07 patches.
  `finalScriptSig q` / `finalWitness q` are the commands of the final ScriptSig and the witness items (an absent
  witness is empty) of the finalised input map `q`.
-/
import Buidl.Props.C06
import Buidl.Proofs.ComposePsbt

namespace Buidl.Props.C10Compose
open Buidl Buidl.Script Buidl.Interp Buidl.ComposePsbt
open Buidl.Psbt (Dict dget scriptSigs scriptKeys PIn TxInV TxCodec Oracles finalizeIn sigsOK finalized
  WitnessBranch P2shBranch P2wpkhBranch P2pkhBranch Psbt finalize finalTx)

/-! ## single-key wallets -/

/-- **p2pkh.**  Glue: the ScriptPubKey is the p2pkh template of `h`.  One partial signature, for a key that
    hashes to `h` and valid for the input's digest: `finalize` emits `<sig> <sec>` and `verifyInput` accepts;
    any other number of partial signatures: `finalize` raises. -/
theorem p2pkh_flow {Tx : Type} {C : TxCodec Tx} {txin : TxInV} {p : PIn Tx} {spk : Script}
    (hb : P2pkhBranch C txin p spk) (env : Env) (h : Bytes) (hspk : spk.cmds = p2pkhCommands h) :
    (∀ sec sig, p.sigs = [(sec, sig)] → env.hash160 sec = h → EcdsaAuth env sec sig →
      ∃ q, finalizeIn true C txin p = some q ∧ finalScriptSig q = [.push sig, .push sec] ∧
        ∀ fuel, 7 ≤ fuel →
          verifyInput Cfg.repaired env (finalScriptSig q) spk.cmds (finalWitness q) fuel = .accept) ∧
    (p.sigs.length ≠ 1 → finalizeIn true C txin p = none) := by
  refine ⟨fun sec sig hs hh hauth => ?_, finalize_single_key_none (Or.inr hb)⟩
  refine ⟨_, by rw [Psbt.finalizeIn_p2pkh true hb, hs], rfl, fun fuel hf => ?_⟩
  rw [hspk]
  exact Props.C06.complete_p2pkh env h sec sig _ hh hauth fuel hf

/-- **p2wpkh** (native).  Glue: no RedeemScript, the ScriptPubKey is `OP_0 <h>` with a 20-byte `h`. -/
theorem p2wpkh_flow {Tx : Type} {C : TxCodec Tx} {txin : TxInV} {p : PIn Tx} {spk : Script}
    (hb : P2wpkhBranch C txin p spk) (env : Env) (h : Bytes) (hl : h.length = 20)
    (hnative : p.redeem = none) (hspk : spk.cmds = p2wpkhSpk h) :
    (∀ sec sig, p.sigs = [(sec, sig)] → env.hash160 sec = h → EcdsaAuth env sec sig →
      ∃ q, finalizeIn true C txin p = some q ∧ finalScriptSig q = [] ∧ finalWitness q = [sig, sec] ∧
        ∀ fuel, 9 ≤ fuel →
          verifyInput Cfg.repaired env (finalScriptSig q) spk.cmds (finalWitness q) fuel = .accept) ∧
    (p.sigs.length ≠ 1 → finalizeIn true C txin p = none) := by
  refine ⟨fun sec sig hs hh hauth => ?_, finalize_single_key_none (Or.inl hb)⟩
  obtain ⟨q, hq, hss, e2⟩ := finalize_p2wpkh_single hb hs
  have e1 : finalScriptSig q = [] := by rw [finalScriptSig, hss, hnative]; rfl
  refine ⟨q, hq, e1, e2, fun fuel hf => ?_⟩
  rw [e1, e2, hspk]
  exact Props.C06.complete_p2wpkh env h sec sig hl hh hauth fuel hf

/-- **p2sh-p2wpkh.**  Glue: the RedeemScript `r` is `OP_0 <kh>` (20 bytes), serialises to `rs`, `rs` reads
    back as these commands, and the ScriptPubKey is the p2sh template of `hash160(rs)`. -/
theorem p2sh_p2wpkh_flow {Tx : Type} {C : TxCodec Tx} {txin : TxInV} {p : PIn Tx} {spk r : Script}
    (hb : P2wpkhBranch C txin p spk) (env : Env) (kh rs : Bytes) (hl : kh.length = 20)
    (hredeem : p.redeem = some r) (hr : r.cmds = p2wpkhSpk kh) (hraw : Psbt.rawOf r = some rs)
    (hparse : parseCommands rs = some r.cmds) (hh : (env.hash160 rs).length = 20)
    (hspk : spk.cmds = p2shSpk (env.hash160 rs)) :
    (∀ sec sig, p.sigs = [(sec, sig)] → env.hash160 sec = kh → EcdsaAuth env sec sig →
      ∃ q, finalizeIn true C txin p = some q ∧ finalScriptSig q = [.push rs] ∧ finalWitness q = [sig, sec] ∧
        ∀ fuel, 10 ≤ fuel →
          verifyInput Cfg.repaired env (finalScriptSig q) spk.cmds (finalWitness q) fuel = .accept) ∧
    (p.sigs.length ≠ 1 → finalizeIn true C txin p = none) := by
  refine ⟨fun sec sig hs hk hauth => ?_, finalize_single_key_none (Or.inl hb)⟩
  obtain ⟨q, hq, hss, e2⟩ := finalize_p2wpkh_single hb hs
  have e1 : finalScriptSig q = [.push rs] := by
    rw [finalScriptSig, hss, hredeem, Psbt.segwitScriptSig_some, Psbt.singlePush_of_raw hraw]; rfl
  refine ⟨q, hq, e1, e2, fun fuel hf => ?_⟩
  rw [e1, e2, hspk]
  exact Props.C06.complete_p2sh_p2wpkh env rs kh sec sig hl (hr ▸ hparse) hh hk hauth fuel hf

/-! ## multisig wallets

  Common glue: `MultisigGlue` (template over pairwise different keys that parse, serialisation that reads back,
  valid partial signatures — `valid_partial_sigs`).  The number of script keys that carry a signature is
  `(pks.filterMap (dget p.sigs)).length`. -/

/-- **p2wsh multisig** (native).  At least `mm` script keys carry signatures: `finalize` emits the witness
    `[b"", first mm signatures in script order, WitnessScript]` with an empty ScriptSig and `verifyInput`
    accepts; fewer: `finalize` raises. -/
theorem p2wsh_multisig_flow {Tx : Type} {C : TxCodec Tx} {txin : TxInV} {p : PIn Tx} {spk ws : Script} {m : Int}
    {wraw : Bytes} (hb : WitnessBranch C txin p spk ws m wraw) (env : Env) (mm : Nat) (pks : List Bytes)
    (g : MultisigGlue env p.sigs mm pks ws wraw) (hnative : p.redeem = none)
    (h32 : (env.sha256 wraw).length = 32) (hspk : spk.cmds = p2wshSpk (env.sha256 wraw)) :
    (mm ≤ (pks.filterMap (dget p.sigs)).length →
      ∃ q, finalizeIn true C txin p = some q ∧ finalScriptSig q = [] ∧
        finalWitness q = [] :: (pks.filterMap (dget p.sigs)).take mm ++ [wraw] ∧
        ∀ fuel, mm + pks.length + 7 ≤ fuel →
          verifyInput Cfg.repaired env (finalScriptSig q) spk.cmds (finalWitness q) fuel = .accept) ∧
    ((pks.filterMap (dget p.sigs)).length < mm → finalizeIn true C txin p = none) := by
  obtain ⟨hmm, hn, hnd, hws, hparse, hpk, hv⟩ := g
  obtain ⟨hfin, hnone⟩ := finalize_witness_multisig hb mm pks hmm hnd hws
  refine ⟨fun hge => ?_, hnone⟩
  obtain ⟨q, hq, hss, e2⟩ := hfin hge
  have e1 : finalScriptSig q = [] := by rw [finalScriptSig, hss, hnative]; rfl
  refine ⟨q, hq, e1, e2, fun fuel hf => ?_⟩
  obtain ⟨hwit, hlen⟩ := multisigWitness_of_sigs env p.sigs pks mm hpk hv hge
  rw [e1, e2, hspk]
  exact Props.C06.complete_p2wsh_multisig env wraw pks _ (hlen.symm ▸ hmm) hn (hlen.symm ▸ hws ▸ hparse) h32 hwit
    fuel (hlen.symm ▸ hf)

/-- **p2sh-p2wsh multisig.**  Additional glue: the RedeemScript `r` is `OP_0 <sha256(WitnessScript bytes)>`,
    serialises to `rs`, reads back, and the ScriptPubKey is the p2sh template of `hash160(rs)`.  The ScriptSig
    is the single push of the RedeemScript. -/
theorem p2sh_p2wsh_multisig_flow {Tx : Type} {C : TxCodec Tx} {txin : TxInV} {p : PIn Tx} {spk ws r : Script}
    {m : Int} {wraw : Bytes} (hb : WitnessBranch C txin p spk ws m wraw) (env : Env) (mm : Nat)
    (pks : List Bytes) (rs : Bytes) (g : MultisigGlue env p.sigs mm pks ws wraw) (hredeem : p.redeem = some r)
    (h32 : (env.sha256 wraw).length = 32) (hr : r.cmds = p2wshSpk (env.sha256 wraw))
    (hraw : Psbt.rawOf r = some rs) (hparseR : parseCommands rs = some r.cmds)
    (hh : (env.hash160 rs).length = 20) (hspk : spk.cmds = p2shSpk (env.hash160 rs)) :
    (mm ≤ (pks.filterMap (dget p.sigs)).length →
      ∃ q, finalizeIn true C txin p = some q ∧ finalScriptSig q = [.push rs] ∧
        finalWitness q = [] :: (pks.filterMap (dget p.sigs)).take mm ++ [wraw] ∧
        ∀ fuel, mm + pks.length + 8 ≤ fuel →
          verifyInput Cfg.repaired env (finalScriptSig q) spk.cmds (finalWitness q) fuel = .accept) ∧
    ((pks.filterMap (dget p.sigs)).length < mm → finalizeIn true C txin p = none) := by
  obtain ⟨hmm, hn, hnd, hws, hparse, hpk, hv⟩ := g
  obtain ⟨hfin, hnone⟩ := finalize_witness_multisig hb mm pks hmm hnd hws
  refine ⟨fun hge => ?_, hnone⟩
  obtain ⟨q, hq, hss, e2⟩ := hfin hge
  have e1 : finalScriptSig q = [.push rs] := by
    rw [finalScriptSig, hss, hredeem, Psbt.segwitScriptSig_some, Psbt.singlePush_of_raw hraw]; rfl
  refine ⟨q, hq, e1, e2, fun fuel hf => ?_⟩
  obtain ⟨hwit, hlen⟩ := multisigWitness_of_sigs env p.sigs pks mm hpk hv hge
  rw [e1, e2, hspk]
  exact Props.C06.complete_p2sh_p2wsh_multisig env rs wraw pks _ (hlen.symm ▸ hmm) hn (hlen.symm ▸ hws ▸ hparse)
    h32 (hr ▸ hparseR) hh hwit fuel (hlen.symm ▸ hf)

/-- **bare p2sh multisig** (count repaired, F10d).  The ScriptSig is `OP_0, the first mm signatures in script
    order, the RedeemScript`; the witness stays as it was (none). -/
theorem p2sh_multisig_flow {Tx : Type} {C : TxCodec Tx} {txin : TxInV} {p : PIn Tx} {spk r : Script} {m : Int}
    {rraw : Bytes} (hb : P2shBranch C txin p spk r m rraw) (env : Env) (mm : Nat) (pks : List Bytes)
    (g : MultisigGlue env p.sigs mm pks r rraw)
    (hh : (env.hash160 rraw).length = 20) (hspk : spk.cmds = p2shSpk (env.hash160 rraw)) :
    (mm ≤ (pks.filterMap (dget p.sigs)).length →
      ∃ q, finalizeIn true C txin p = some q ∧
        finalScriptSig q = .op 0 :: (((pks.filterMap (dget p.sigs)).take mm).map .push ++ [.push rraw]) ∧
        q.witness = p.witness ∧
        ∀ fuel, mm + pks.length + 6 ≤ fuel →
          verifyInput Cfg.repaired env (finalScriptSig q) spk.cmds (finalWitness q) fuel = .accept) ∧
    ((pks.filterMap (dget p.sigs)).length < mm → finalizeIn true C txin p = none) := by
  obtain ⟨hmm, hn, hnd, hr, hparse, hpk, hv⟩ := g
  have hk : (scriptKeys r.cmds).Nodup := by rw [hr, scriptKeys_multisig]; exact hnd
  have hm := quorum_multisig hb.quorum mm pks hr hmm
  have hm1 : 1 ≤ m := by rw [hm]; exact_mod_cast hmm.1
  rw [Psbt.finalizeIn_p2sh_fixed hb hm1 hk, hr, scriptSigs_multisig, hm, Int.toNat_natCast]
  refine ⟨fun hge => ⟨_, if_pos (Int.ofNat_le.mpr hge), rfl, rfl, fun fuel hf => ?_⟩, fun hlt => if_neg (by omega)⟩
  obtain ⟨hwit, hlen⟩ := multisigWitness_of_sigs env p.sigs pks mm hpk hv hge
  rw [hspk]
  exact Props.C06.complete_p2sh_multisig env rraw pks _ (hlen.symm ▸ hmm) hn (hlen.symm ▸ hr ▸ hparse) hh hwit _
    fuel (hlen.symm ▸ hf)

/-! ## the whole PSBT: finalise, extract -/

/-- **every input ready ⇒ `PSBT.finalize` succeeds and every finalised input has the promised property**
    (`Good j q`: for instance "`verifyInput` accepts input `j`", as delivered per wallet type by the `…_flow`
    theorems above) -/
theorem finalize_all_inputs {Tx : Type} (C : TxCodec Tx) (P : Psbt Tx) (Good : Nat → PIn Tx → Prop)
    (hlen : (C.ins P.tx).length = P.ins.length)
    (hready : ∀ j txin p, (C.ins P.tx)[j]? = some txin → P.ins[j]? = some p →
      ∃ q, finalizeIn true C txin p = some q ∧ Good j q) :
    ∃ Q, finalize true C P = some Q ∧ Q.tx = P.tx ∧ Q.ins.length = P.ins.length ∧
      ∀ j q, Q.ins[j]? = some q → Good j q := by
  rw [Psbt.finalize_eq, if_pos hlen]
  cases hcs : Psbt.zipWithM' (finalizeIn true C) (C.ins P.tx) P.ins with
  | none =>
    obtain ⟨j, a, b, ha, hb, hn⟩ := Psbt.zipWithM'_eq_none_iff.mp hcs
    obtain ⟨q, hq, _⟩ := hready j a b ha hb
    cases hq.symm.trans hn
  | some cs =>
    obtain ⟨hl, hall⟩ := Psbt.zipWithM'_some hcs
    refine ⟨_, rfl, rfl, by rw [hl, hlen, Nat.min_self], fun j q hj => ?_⟩
    obtain ⟨a, b, ha, hb, hf⟩ := hall j q hj
    obtain ⟨q', hq', hg⟩ := hready j a b ha hb
    cases hq'.symm.trans hf
    exact hg

/-- **one input short of its quorum ⇒ no finalised PSBT, hence no transaction**: `PSBT.finalize` raises as
    soon as `finalize` raises for one input -/
theorem finalize_raises_of_input {Tx : Type} (C : TxCodec Tx) (P : Psbt Tx) (j : Nat) (txin : TxInV) (p : PIn Tx)
    (htx : (C.ins P.tx)[j]? = some txin) (hp : P.ins[j]? = some p) (hnone : finalizeIn true C txin p = none) :
    finalize true C P = none := by
  rw [Psbt.finalize_eq, Psbt.zipWithM'_eq_none_iff.mpr ⟨j, txin, p, htx, hp, hnone⟩]
  split <;> rfl

/-- **extract.**  `PSBT.final_tx` serialises the transaction with the finalised ScriptSigs and witnesses and
    returns it iff `tx_obj.verify()` (the oracle `verify` of the PSBT model) says yes.  Glue: `verify` answers
    yes for a serialisation all of whose inputs the interpreter accepts (`AllVerify`; the fee test is outside
    the models).  Then the extracted transaction exists. -/
theorem extract_of_verifies {Tx : Type} (C : TxCodec Tx) (verify : Bytes → Bool) (Q : Psbt Tx) (AllVerify : Prop)
    (b : Bytes) (hser : C.finalSerialize Q.tx (Q.ins.map fun i => (i.scriptSig, i.witness)) = some b)
    (hglue : AllVerify → verify b = true) (hall : AllVerify) : finalTx C verify Q = some b := by
  simp [finalTx, hser, Psbt.req, hglue hall]

/-! ## partial signatures: the link to PSBT.validate; the hypotheses are satisfiable -/

/-- **`SigsValid` is what PSBT.validate establishes**: an input with a UTXO whose partial signatures passed
    `validate` (oracle `O.sigOK seg i sec sig`: `point.verify(z, sig)` with the digest of input `i`) has valid
    partial signatures in the interpreter's sense — glue: the digest oracle of the PSBT model and the
    interpreter's signature oracles agree on input `i` -/
theorem valid_partial_sigs {Tx : Type} (env : Env) (O : Oracles) (i : Nat) (p : PIn Tx) (keys : List Bytes)
    (hutxo : p.prevOut.isSome = true ∨ p.prevTx.isSome = true) (hv : sigsOK O i p = true)
    (hglue : ∀ seg sec sig, O.sigOK seg i sec sig = true → EcdsaAuth env sec sig) :
    SigsValid env p.sigs keys :=
  fun _ _ _ hs => hglue _ _ _ (Psbt.sigsOK_sigOK hv hutxo (Psbt.dget_some_mem hs))

/-- the glue hypothesis `parseCommands raw = some cmds` holds for every script of opcodes outside 1..78 and
    data pushes of 1..520 bytes built from commands -/
theorem same_script_glue {s : Script} {raw : Bytes} (hraw : s.raw = none) (h : Psbt.rawOf s = some raw)
    (wf : ∀ c ∈ s.cmds, CmdWF c) (hne : Cmd.push [] ∉ s.cmds) (hlen : s.cmds.length ≤ 2 ^ 40) :
    parseCommands raw = some s.cmds := by
  have hser : serCmds s.cmds = some raw := by simpa [Psbt.rawOf, rawSerialize, hraw] using h
  obtain ⟨v, hv, hp⟩ := parse_serCmds wf hne hlen hser
  simp only [parseCommands, hv, hp, Option.map_some]

/-- non-vacuity: the toy 2-of-3 p2wsh input of Buidl.Proofs.PsbtFinalize (signatures of keys [3] and [1])
    satisfies every hypothesis of `p2wsh_multisig_flow`, and the finalised input is accepted -/
example : ∃ q, finalizeIn true Psbt.toyCodec Psbt.toyTxin Psbt.toyWitnessIn = some q ∧
    finalWitness q = [[], [0xA1], [0xA3], Psbt.toyMultisigRaw] ∧
    verifyInput Cfg.repaired toyEnv (finalScriptSig q) Psbt.toyP2wshSpk.cmds (finalWitness q) 12 = .accept := by
  have hv : SigsValid toyEnv Psbt.toyWitnessIn.sigs [[1], [2], [3]] := by
    intro k _ s hs
    have : s ≠ [] := by
      intro e; subst e
      have := Psbt.dget_some_mem hs
      simp [Psbt.toyWitnessIn] at this
    obtain ⟨b, r, hr⟩ : ∃ b r, s.reverse = b :: r := by
      cases h : s.reverse with
      | nil => exact absurd (by simpa using h) this
      | cons b r => exact ⟨b, r, rfl⟩
    exact ⟨r.reverse, b.toNat, by simp [splitHashType, hr], rfl, rfl, rfl⟩
  obtain ⟨q, hq, hss, hw, hacc⟩ := (p2wsh_multisig_flow Psbt.toyWitnessBranch toyEnv 2 [[1], [2], [3]]
    ⟨by decide, by decide, by decide, rfl, by decide, fun _ _ => rfl, hv⟩ rfl (by decide) rfl).1 (by decide)
  refine ⟨q, hq, ?_, hacc 12 (by decide)⟩
  rw [hw]; decide

/-! ## sign and combine: who signed -/

/-- **the quorum count after any combine history**: `signers` are script keys (an order-preserving selection of
    the script's keys), each of which signed some copy of the input (a leaf of the combine tree of pairwise
    compatible copies); then at least `signers.length` script keys carry a signature in the combined input —
    the count that the `…_multisig_flow` theorems compare with the quorum.  (By `C10.combine_tree_sigs` the
    combined signatures are exactly those of the copies.) -/
theorem combined_signers_count {Tx : Type} (t : Psbt.CTree (PIn Tx))
    (hc : ∀ l, l ∈ t.leaves → ∀ l', l' ∈ t.leaves → Psbt.InCompat l l') (pks signers : List Bytes)
    (hsub : signers.Sublist pks) (hsigned : ∀ k ∈ signers, ∃ l, l ∈ t.leaves ∧ (dget l.sigs k).isSome) :
    signers.length ≤ (pks.filterMap (dget t.foldIn.sigs)).length := by
  have hall : ∀ k ∈ signers, (dget t.foldIn.sigs k).isSome := by
    intro k hk
    obtain ⟨l, hl, hs⟩ := hsigned k hk
    obtain ⟨v, hv⟩ := Option.isSome_iff_exists.mp hs
    exact Option.isSome_iff_exists.mpr ⟨v, (Props.C10.combine_tree_sigs t hc k v).mpr ⟨l, hl, hv⟩⟩
  rw [← List.filterMap_length_eq_length.mpr hall]
  exact (hsub.filterMap _).length_le

end Buidl.Props.C10Compose
