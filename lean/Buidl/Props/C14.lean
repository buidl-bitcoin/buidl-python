/-
  C14 — BIP39 mnemonics encode entropy + checksum exactly and seeds follow PBKDF2.

  Models: Buidl.Model.Mnemonic (buidl/mnemonic.py, buidl/pbkdf2.py, helper.hmac_sha512_kdf,
  HDPrivateKey.from_mnemonic up to the call of from_seed); specification: Buidl.Spec.PBKDF2 (RFC 2898).
  `sha256` and the PRF (HMAC-SHA512 in the code) are arbitrary functions; strings are lists of code
  points.  `wl` is the word list loaded from the generated table (`BIP39? = some wl`), which is
  re-extracted from /repo/buidl/bip39_words.txt on every run; the table facts are re-checked by the
  kernel (`Buidl.Mnemonic.bip39_check`) whenever it changes.
-/
import Buidl.Proofs.Mnemonic
namespace Buidl.Props.C14
open Buidl Buidl.Mnemonic

/-! ## the word table -/

/-- the BIP39 table loads, has 2^11 entries, every word is a non-empty string of `a`..`z` (so it survives
    `split()` and `lower()`), and no key — a word, or the first four letters of a word longer than four —
    is stored for two different indices -/
theorem bip39_table_facts :
    ∃ wl, BIP39? = some wl ∧ wl.words.length = 2048 ∧ KeysUnique wl.words ∧
      ∀ w ∈ wl.words, IsWord w ∧ asciiLower w = w ∧ ∀ c ∈ w, 97 ≤ c ∧ c ≤ 122 := by
  obtain ⟨wl, h⟩ := checkWL_some bip39_check
  have tok := tableOK_of_check bip39_check h
  exact ⟨wl, h, tok.hlen, tok.huniq, tok.hlower⟩

/-- the table is sorted: strictly increasing in the left-aligned base-2^21 numbering `encKey` of the words, which
    for these words (at most eight letters `a`..`z`) is the lexicographic order -/
theorem bip39_sorted (wl : WordList) (hwl : BIP39? = some wl) :
    wl.words.Pairwise (fun a b => encKey a < encKey b) :=
  (tableOK_of_check bip39_check hwl).hsorted

theorem table_ok (wl : WordList) (hwl : BIP39? = some wl) : TableOK 2048 wl :=
  tableOK_of_check bip39_check hwl

/-- prefix lookup is well-defined: `BIP39[key]` succeeds exactly for full words and for the first four letters
    of words longer than four, and returns the index of that (unique) word -/
theorem lookup_well_defined (wl : WordList) (hwl : BIP39? = some wl) (key : PyStr) (i : Nat) :
    wl.lookup key = some i ↔
      i < 2048 ∧ (wl.words.getD i [] = key ∨ ((wl.words.getD i []).length > 4 ∧ (wl.words.getD i []).take 4 = key)) := by
  have tok := table_ok wl hwl
  rw [lookup_iff wl tok.huniq, matchesKey_eq, tok.hlen]

/-- every index has its word, and the word looks up to the index -/
theorem word_lookup (wl : WordList) (hwl : BIP39? = some wl) (i : Nat) (hi : i < 2048) :
    ∃ w, wl.word i = some w ∧ wl.lookup w = some i := by
  have tok := table_ok wl hwl
  have hi' : i < wl.words.length := by rw [tok.hlen]; exact hi
  exact ⟨_, word_eq_getD wl i hi', lookup_of_match wl tok.huniq i _ hi' (matchesKey_self _)⟩

/-! ## entropy → mnemonic → entropy -/

/-- `mnemonic_to_bytes (bytes_to_mnemonic e) = e` for every entropy of 16/20/24/28/32 bytes and every
    hash function returning at least one byte -/
theorem roundtrip (sha256 : Bytes → Bytes) (hne : ∀ b, sha256 b ≠ []) (wl : WordList)
    (hwl : BIP39? = some wl) (e : Bytes)
    (hlen : e.length = 16 ∨ e.length = 20 ∨ e.length = 24 ∨ e.length = 28 ∨ e.length = 32) :
    ∃ m, bytesToMnemonic sha256 wl e (8 * e.length) = some m ∧ mnemonicToBytes sha256 wl m = some e := by
  have tok := table_ok wl hwl
  have ok := sizeOK_of_bytes e.length hlen
  obtain ⟨h0, t, hs⟩ := List.exists_cons_of_ne_nil (hne e)
  have hb := bytesToWords_eq sha256 wl tok.hlen e _ _ ok h0 t hs
  refine ⟨_, by rw [bytesToMnemonic, hb]; rfl, ?_⟩
  rw [mnemonicToBytes, pySplit_pyJoin]
  · -- the number of the produced words is `allBitsOf e …`: its entropy part is `e`, which fits
    refine (wordsToBytes_eq_some_iff sha256 wl _ e).mpr ⟨_, _, h0, t,
      by rw [List.length_map, Digits.digitsBE_length]; exact ok,
      lookupAll_map_words wl tok.huniq _ (fun d hd => by rw [tok.hlen]; exact Digits.digitsBE_lt (by decide) _ _ d hd),
      hs, ?_⟩
    rw [ofDigits_eq, Digits.ofDigitsBE_digitsBE, Nat.mod_eq_of_lt]
    refine (ok.lt_iff _).mpr ?_
    rw [((allBitsOf_eq_iff e h0 ok.hcs8 _).mp rfl).1]
    exact beToNat_lt e
  -- every produced word is a table word, so `split` gives the words back
  intro w hw
  obtain ⟨d, hd, rfl⟩ := List.mem_map.mp hw
  have hdl : d < wl.words.length := by rw [tok.hlen]; exact Digits.digitsBE_lt (by decide) _ _ d hd
  exact (tok.hlower _ (getD_mem _ _ hdl)).1

/-- the words are the 11-bit groups of  entropy ‖ first |e|/4 bits of sha256(e):  with
    `N = int(e) · 2^cs + (sha256(e)[0] >> (8 - cs))`, `cs = |e| / 4` bits, there are `nw = (8|e| + cs) / 11`
    words and the `i`-th one is table entry number `(N >> 11 (nw - 1 - i)) mod 2^11` -/
theorem words_are_11bit_groups (sha256 : Bytes → Bytes) (wl : WordList) (hwl : BIP39? = some wl) (e : Bytes)
    (hlen : e.length = 16 ∨ e.length = 20 ∨ e.length = 24 ∨ e.length = 28 ∨ e.length = 32)
    (h0 : UInt8) (t : Bytes) (hs : sha256 e = h0 :: t) :
    ∃ ws, bytesToWords sha256 wl e (8 * e.length) = some ws ∧
      ws.length = (8 * e.length + e.length / 4) / 11 ∧
      ∀ i, i < ws.length →
        ws[i]? = wl.word
          ((beToNat e * 2 ^ (e.length / 4) + h0.toNat / 2 ^ (8 - e.length / 4))
            / 2048 ^ (ws.length - 1 - i) % 2048) := by
  have tok := table_ok wl hwl
  refine ⟨_, bytesToWords_eq sha256 wl tok.hlen e _ _ (sizeOK_of_bytes e.length hlen) h0 t hs,
    by rw [List.length_map, Digits.digitsBE_length], ?_⟩
  intro i hi
  rw [List.length_map, Digits.digitsBE_length] at hi ⊢
  rw [List.getElem?_map, Digits.digitsBE_getElem _ _ _ hi, Option.map_some, allBitsOf]
  exact (word_eq_getD wl _ (by rw [tok.hlen]; exact Nat.mod_lt _ (by decide))).symm

/-- `bytes_to_mnemonic` refuses every `num_bits` other than 128/160/192/224/256 -/
theorem bytesToMnemonic_rejects_size (sha256 : Bytes → Bytes) (wl : WordList) (b : Bytes) (numBits : Nat)
    (h : ¬ (numBits = 128 ∨ numBits = 160 ∨ numBits = 192 ∨ numBits = 224 ∨ numBits = 256)) :
    bytesToMnemonic sha256 wl b numBits = none := by
  have : Gen.b2mNumBits.contains numBits = false := by
    simp only [Gen.b2mNumBits, List.contains_eq_mem, List.mem_cons, List.not_mem_nil, or_false,
      decide_eq_false_iff_not]
    exact h
  unfold bytesToMnemonic bytesToWords
  rw [this]; rfl

/-! ## acceptance -/

/-- a word sequence is accepted — and decodes to `e` — exactly when its length is 12/15/18/21/24, every word
    is a stored key of the table (`lookupAll`; by `lookup_well_defined`: a full word or the first four letters
    of a longer word) and, with `N` the number whose base-2^11 digits are the indices and `cs = len / 3`:
    `e` is the big-endian `(11·len − cs)/8`-byte string of `N >> cs` and the low `cs` bits of `N` are the
    top `cs` bits of the first byte of `sha256 e` -/
theorem accept_iff (sha256 : Bytes → Bytes) (hne : ∀ b, sha256 b ≠ []) (wl : WordList)
    (hwl : BIP39? = some wl) (mnemonic : PyStr) (e : Bytes) :
    mnemonicToBytes sha256 wl mnemonic = some e ↔
      let ws := pySplit mnemonic
      (ws.length = 12 ∨ ws.length = 15 ∨ ws.length = 18 ∨ ws.length = 21 ∨ ws.length = 24) ∧
      ∃ idx, lookupAll wl ws = some idx ∧
        e = natToBE' ((11 * ws.length - ws.length / 3) / 8) (ofDigits 0 idx / 2 ^ (ws.length / 3)) ∧
        ∃ h0 t, sha256 e = h0 :: t ∧
          ofDigits 0 idx % 2 ^ (ws.length / 3) = h0.toNat / 2 ^ (8 - ws.length / 3) := by
  have hl := (table_ok wl hwl).hlen
  rw [mnemonicToBytes]
  generalize pySplit mnemonic = ws
  dsimp only
  constructor
  · intro h
    have hlen := wordsToBytes_some_length h
    rw [wordsToBytes_of_indices sha256 wl ws _ _ (sizeOK_of_words ws.length hlen)] at h
    simp only [Option.bind_eq_some_iff, natToBE_eq_some_iff, List.head?_eq_some_iff, Option.ite_none_right_eq_some,
      Option.some.injEq] at h
    obtain ⟨idx, hidx, s, ⟨_, rfl⟩, h0, ⟨t, hs⟩, hc, rfl⟩ := h
    exact ⟨hlen, idx, hidx, rfl, h0, t, hs, hc⟩
  · rintro ⟨hlen, idx, hidx, rfl, h0, t, hs, hc⟩
    have ok := sizeOK_of_words ws.length hlen
    -- the entropy part of the number fits its `L` bytes
    have hN : ofDigits 0 idx < _ :=
      Digits.ofDigitsBE_lt idx (fun d hd => by rw [← hl]; exact lookupAll_lt wl ws idx hidx d hd)
    rw [lookupAll_length wl ws idx hidx] at hN
    rw [wordsToBytes_of_indices sha256 wl ws _ _ ok, hidx, Option.bind_some, natToBE_some ((ok.lt_iff _).mp hN),
      Option.bind_some, hs, List.head?_cons, Option.bind_some, if_pos hc]

/-- `[BIP39[w] for w in words]` succeeds exactly when every word is a stored key, and lists their indices -/
theorem lookupAll_spec (wl : WordList) (ws : List PyStr) (idx : List Nat) :
    lookupAll wl ws = some idx ↔ List.Forall₂ (fun w i => wl.lookup w = some i) ws idx := by
  rw [lookupAll_eq, List.mapM_eq_some_iff_map]
  induction ws generalizing idx with
  | nil =>
    constructor
    · intro h
      cases idx with
      | nil => exact .nil
      | cons _ _ => cases h
    · intro h
      cases h
      rfl
  | cons w r ih =>
    constructor
    · intro h
      cases idx with
      | nil => cases h
      | cons i is =>
        rw [List.map_cons, List.map_cons, List.cons.injEq] at h
        exact .cons h.1 ((ih is).mp h.2)
    · rintro (_ | ⟨h1, h2⟩)
      rw [List.map_cons, List.map_cons, h1, (ih _).mpr h2]

/-- a wrong length is refused whatever the words are -/
theorem wrong_length_rejected (sha256 : Bytes → Bytes) (wl : WordList) (mnemonic : PyStr)
    (h : ¬ ((pySplit mnemonic).length = 12 ∨ (pySplit mnemonic).length = 15 ∨ (pySplit mnemonic).length = 18 ∨
      (pySplit mnemonic).length = 21 ∨ (pySplit mnemonic).length = 24)) :
    mnemonicToBytes sha256 wl mnemonic = none :=
  wordsToBytes_wrong_length sha256 wl (pySplit mnemonic) h

/-- a word that is not a stored key is refused (KeyError) -/
theorem unknown_word_rejected (sha256 : Bytes → Bytes) (wl : WordList) (mnemonic : PyStr) (w : PyStr)
    (hw : w ∈ pySplit mnemonic) (hk : wl.lookup w = none) :
    mnemonicToBytes sha256 wl mnemonic = none := by
  cases h : mnemonicToBytes sha256 wl mnemonic with
  | none => rfl
  | some e =>
    exfalso
    obtain ⟨_, idx, _, _, _, hidx, _⟩ := (wordsToBytes_eq_some_iff sha256 wl _ e).mp h
    obtain ⟨i, _, hi⟩ := List.mapM_some_mem_left (lookupAll_eq wl _ ▸ hidx) hw
    rw [hk] at hi; cases hi

/-! ## the vendored PBKDF2 is RFC 2898 -/

/-- `PBKDF2(P, S, c).read(dkLen)` (buidl/pbkdf2.py) equals RFC 2898 PBKDF2 for every PRF with a fixed
    non-zero output length, every password, salt, iteration count ≥ 1 and output length — including the
    refusal "derived key too long" beyond (2^32 − 1)·hLen -/
theorem pbkdf2_vendored_eq_rfc2898 (prf : Bytes → Bytes → Bytes) (hLen : Nat)
    (hh : ∀ k m, (prf k m).length = hLen) (h0 : 0 < hLen) (P S : Bytes) (c : Nat) (hc : 1 ≤ c) (dkLen : Nat) :
    pbkdf2Vendored prf P S c dkLen = Spec.pbkdf2 prf hLen P S c dkLen := by
  obtain ⟨_, _, hr⟩ := read_at prf hLen hh P S c dkLen (l := 0) (t := 0) (Nat.zero_le _) (Nat.zero_le _)
  rw [pbkdf2Vendored, new_at prf P S c hc, Spec.pbkdf2]
  simp only
  rw [hr _ (by simpa using ceil_mul_ge dkLen hLen h0), Nat.zero_add, show Gen.counterMax = 2 ^ 32 - 1 by decide]
  by_cases hbig : dkLen ≤ (2 ^ 32 - 1) * hLen
  · rw [if_pos hbig, if_neg (Nat.not_lt.mpr hbig)]; rfl
  · rw [if_neg hbig, if_pos (Nat.not_le.mp hbig)]; rfl

/-- an iteration count of 0 is refused (`_setup`) -/
theorem pbkdf2_zero_iterations (prf : Bytes → Bytes → Bytes) (P S : Bytes) (n : Nat) :
    pbkdf2Vendored prf P S 0 n = none := by
  simp [pbkdf2Vendored, PBKDF2.new]

/-- buffering across reads: consecutive `read(n₁), read(n₂), …` on one object return the consecutive pieces
    of the RFC 2898 key stream of total length `n₁ + n₂ + …` -/
theorem pbkdf2_reads (prf : Bytes → Bytes → Bytes) (hLen : Nat)
    (hh : ∀ k m, (prf k m).length = hLen) (h0 : 0 < hLen) (P S : Bytes) (c : Nat) (hc : 1 ≤ c)
    (ns : List Nat) (hsum : ns.sum ≤ (2 ^ 32 - 1) * hLen) :
    ∃ st dk, PBKDF2.new P S c = some st ∧ Spec.pbkdf2 prf hLen P S c ns.sum = some dk ∧
      PBKDF2.reads prf st ns = some (chunks ns dk) := by
  have hmax : Gen.counterMax = 2 ^ 32 - 1 := by decide
  refine ⟨_, (Spec.blocks prf P S c 0 ((ns.sum + hLen - 1) / hLen)).take ns.sum, new_at prf P S c hc, ?_, ?_⟩
  · rw [Spec.pbkdf2, if_neg (by omega)]
  · exact (reads_at prf hLen hh P S c ns 0 0 (Nat.zero_le _) (Nat.zero_le _) (by rw [hmax]; omega)
      ((ns.sum + hLen - 1) / hLen) (by simpa using ceil_mul_ge ns.sum hLen h0)).trans (by rw [List.drop_zero, chunks_take])

/-! ## from_mnemonic -/

/-- the extracted parameters of `hmac_sha512_kdf` / `from_mnemonic`: 2048 rounds (`PBKDF2_ROUNDS`, used as
    `iterations=`), SHA-512, 64 bytes read, salt prefix `b"mnemonic"` -/
theorem kdf_parameters :
    Gen.pbkdf2Rounds = 2048 ∧ Gen.kdfIterations = Gen.pbkdf2Rounds ∧ Gen.kdfReadLen = 64 ∧
    Gen.seedSaltPrefix = [109, 110, 101, 109, 111, 110, 105, 99] ∧ Gen.kdfDigest = "sha512" := by
  refine ⟨rfl, rfl, rfl, rfl, by decide⟩

/-- for an accepted mnemonic, the seed handed to `from_seed` is
    `PBKDF2-PRF(password = the full table words of the indices joined by single spaces,
                salt = "mnemonic" ‖ passphrase, c = 2048, dkLen = 64)` of RFC 2898 —
    for every passphrase (any bytes), whatever whitespace or four-letter prefixes the input used -/
theorem from_mnemonic_seed (sha256 : Bytes → Bytes) (prf : Bytes → Bytes → Bytes) (hLen : Nat)
    (hh : ∀ k m, (prf k m).length = hLen) (h0 : 0 < hLen) (wl : WordList) (hwl : BIP39? = some wl)
    (mnemonic : PyStr) (passphrase e : Bytes) (hacc : mnemonicToBytes sha256 wl mnemonic = some e) :
    ∃ idx, lookupAll wl (pySplit mnemonic) = some idx ∧
      mnemonicToSeed sha256 prf wl mnemonic passphrase
        = Spec.pbkdf2 prf hLen (normalisedBytes wl idx)
            ([109, 110, 101, 109, 111, 110, 105, 99] ++ passphrase) 2048 64 := by
  have tok := table_ok wl hwl
  obtain ⟨_, idx, _, _, _, hidx, _⟩ := (wordsToBytes_eq_some_iff sha256 wl _ e).mp hacc
  refine ⟨idx, hidx, ?_⟩
  unfold mnemonicToSeed
  rw [hacc]
  simp only [mapM_normalize wl tok _ idx hidx, hmacSha512Kdf]
  have hascii : ∀ c ∈ pyJoin (idx.map fun i => wl.words.getD i []), c < 128 := by
    refine pyJoin_all (· < 128) (by decide) _ fun w hw c hcw => ?_
    obtain ⟨i, hi, rfl⟩ := List.mem_map.mp hw
    have := (tok.hlower _ (getD_mem _ _ (lookupAll_lt wl _ idx hidx i hi))).2.2 c hcw
    omega
  rw [utf8Encode_ascii _ hascii]
  exact pbkdf2_vendored_eq_rfc2898 prf hLen hh h0 _ _ Gen.kdfIterations (by decide) Gen.kdfReadLen

/-- a mnemonic that `mnemonic_to_bytes` refuses yields no key -/
theorem from_mnemonic_rejects (sha256 : Bytes → Bytes) (prf : Bytes → Bytes → Bytes) {K : Type}
    (fromSeed : Bytes → Option K) (wl : WordList) (mnemonic : PyStr) (passphrase : Bytes)
    (h : mnemonicToBytes sha256 wl mnemonic = none) :
    fromMnemonic sha256 prf fromSeed wl mnemonic passphrase = none := by
  simp [fromMnemonic, mnemonicToSeed, h]

/-- the master key is `from_seed` (BIP32 master derivation, property C08) applied to that seed -/
theorem from_mnemonic_handoff (sha256 : Bytes → Bytes) (prf : Bytes → Bytes → Bytes) {K : Type}
    (fromSeed : Bytes → Option K) (wl : WordList) (mnemonic : PyStr) (passphrase : Bytes) :
    fromMnemonic sha256 prf fromSeed wl mnemonic passphrase
      = (mnemonicToSeed sha256 prf wl mnemonic passphrase).bind fromSeed := rfl

/-! ## the helpers: split / join, normalize, membership, hexread, histories on one object -/

/-- `" ".join(ws).split() == ws` for non-empty whitespace-free words, and `split()` only returns such words -/
theorem split_join (ws : List PyStr) (h : ∀ w ∈ ws, IsWord w) : pySplit (pyJoin ws) = ws :=
  pySplit_pyJoin ws h

theorem split_fields (s : PyStr) : ∀ w ∈ pySplit s, IsWord w :=
  splitAux_isWord s [] (fun _ h => nomatch h)

/-- `BIP39.normalize(w)` returns the full word of the (unique) index of `w`, for every accepted spelling -/
theorem normalize_spec (wl : WordList) (hwl : BIP39? = some wl) (w : PyStr) (i : Nat)
    (h : wl.lookup w = some i) : wl.normalize w = wl.word i := by
  have tok := table_ok wl hwl
  rw [normalize_eq wl tok w i h, word_eq_getD wl i (lookup_some wl i w h).1]

/-- a string that is no stored key is refused by lookup; `in` tests full words only -/
theorem lookup_unknown (wl : WordList) (key : PyStr) :
    wl.lookup key = none ↔ ∀ i, i < wl.words.length → matchesKey (wl.words.getD i []) key = false := by
  rw [WordList.lookup, lookupAux_eq_none_iff]
  simp

theorem contains_iff (wl : WordList) (key : PyStr) : wl.contains key = true ↔ key ∈ wl.words := by
  simp [WordList.contains]

/-- `hexread(n)` is `read(n)` in lower-case hex (2n characters) and advances the object exactly as `read` -/
theorem hexread_spec (prf : Bytes → Bytes → Bytes) (st : PBKDF2) (n : Nat) :
    st.hexread prf n = (st.read prf n).map (fun p => (hexOf p.1, p.2)) ∧
    ∀ b, (hexOf b).length = 2 * b.length := by
  refine ⟨by unfold PBKDF2.hexread; cases st.read prf n <;> rfl, fun b => ?_⟩
  induction b with
  | nil => rfl
  | cons x r ih => simp only [hexOf, List.length_cons, ih]; omega

/-- histories on ONE object: reads in any chunking return the consecutive pieces of the RFC 2898 stream
    (`pbkdf2_reads`); expressed for the call history interpreter, and after `close()` every read raises -/
theorem history_of_reads (prf : Bytes → Bytes → Bytes) (ns : List Nat) (st : PBKDF2) (outs : List Bytes)
    (h : PBKDF2.reads prf st ns = some outs) :
    PBKDF2.run prf (some st) (ns.map PbOp.read) = outs.map PbOut.bytes := by
  induction ns generalizing st outs with
  | nil => cases h; rfl
  | cons n r ih =>
    rw [PBKDF2.reads] at h
    cases hr : st.read prf n with
    | none => rw [hr] at h; cases h
    | some p =>
      obtain ⟨b, st'⟩ := p
      rw [hr] at h
      cases hrs : PBKDF2.reads prf st' r with
      | none => simp only [hrs, Option.map_none] at h; cases h
      | some os =>
        simp only [hrs, Option.map_some, Option.some.injEq] at h
        subst h
        simp only [List.map_cons, PBKDF2.run, hr, ih st' os hrs]

theorem history_after_close (prf : Bytes → Bytes → Bytes) (ops : List PbOp) :
    PBKDF2.run prf none ops = ops.map fun op => if op = PbOp.close then PbOut.unit else PbOut.raised := by
  induction ops with
  | nil => rfl
  | cons op r ih =>
    cases op <;> simp only [PBKDF2.run, ih, List.map_cons, reduceCtorEq, if_false, if_true]

/-- `str.encode("utf-8")` of an ASCII string is its code points -/
theorem utf8_ascii (s : PyStr) (h : ∀ c ∈ s, c < 128) : utf8Encode s = some (s.map UInt8.ofNat) :=
  utf8Encode_ascii s h

/-! ## non-vacuity -/

example : ∃ wl, BIP39? = some wl := by
  obtain ⟨wl, h, _⟩ := bip39_table_facts; exact ⟨wl, h⟩

example : SizeOK 16 4 12 ∧ SizeOK 32 8 24 := ⟨sizeOK_of_bytes 16 (.inl rfl), sizeOK_of_bytes 32 (by decide)⟩

/-! ## unique decodability (corollary of the round trip) -/

/-- two entropies (of any of the five sizes) never share a mnemonic -/
theorem mnemonic_injective (sha256 : Bytes → Bytes) (hne : ∀ b, sha256 b ≠ []) (wl : WordList)
    (hwl : BIP39? = some wl) (e₁ e₂ : Bytes)
    (h₁ : e₁.length = 16 ∨ e₁.length = 20 ∨ e₁.length = 24 ∨ e₁.length = 28 ∨ e₁.length = 32)
    (h₂ : e₂.length = 16 ∨ e₂.length = 20 ∨ e₂.length = 24 ∨ e₂.length = 28 ∨ e₂.length = 32)
    (m : PyStr) (a₁ : bytesToMnemonic sha256 wl e₁ (8 * e₁.length) = some m)
    (a₂ : bytesToMnemonic sha256 wl e₂ (8 * e₂.length) = some m) : e₁ = e₂ := by
  obtain ⟨m₁, x₁, d₁⟩ := roundtrip sha256 hne wl hwl e₁ h₁
  obtain ⟨m₂, x₂, d₂⟩ := roundtrip sha256 hne wl hwl e₂ h₂
  rw [a₁] at x₁; rw [a₂] at x₂; cases x₁; cases x₂
  rw [d₂] at d₁; exact (Option.some.inj d₁).symm
end Buidl.Props.C14
