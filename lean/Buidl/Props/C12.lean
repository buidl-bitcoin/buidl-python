/-
  C12 — taproot output keys commit to the script tree; control blocks.
  Model: Buidl.Model.Taproot (buidl/taproot.py, pecc.py, witness.py; constants from Buidl.Gen.Taproot,
  re-extracted from /repo on every run).  The tagged hashes `H : Hashes` are arbitrary functions; no
  injectivity is ever assumed — the tamper theorems exhibit collisions instead.  Theorems about private
  keys use the secp256k1 group facts of C03 through `groupLaw`.
-/
import Buidl.Proofs.TaprootGroup
namespace Buidl.Props.C12
open Buidl Buidl.EC Buidl.Script Buidl.Taproot

/-! ## the output key -/

/-- `S256Point.tweaked_key`: `Q = even(P) + int(H_TapTweak(x(P) ‖ root)) · G` for every point `P ≠ ∞`
    (`even(P)` is the code's `even_point`, `· G` and `+` the code's `__rmul__` / `__add__`) -/
theorem tweaked_key_formula (H : Hashes) (P : Pt) (hP : P ≠ .inf) (root : Bytes) :
    tweakedKey H P root = some (sadd (evenPoint P) (smul (beToNat (H.tapTweak (xonly P ++ root)) : Int) G)) :=
  tweakedKey_eq H hP root

/-- on the point at infinity it raises -/
theorem tweaked_key_infinity (H : Hashes) (root : Bytes) : tweakedKey H .inf root = none :=
  tweakedKey_inf H root

/-- `TapLeaf.external_pubkey` / `TapBranch.external_pubkey`: the tweak commits to the tree's root hash -/
theorem external_pubkey_formula (H : Hashes) (t : Tree) (P Q : Pt) (h : t.externalPubkey H P = some Q) :
    ∃ root, t.hash H = some root ∧ P ≠ .inf ∧
      Q = sadd (evenPoint P) (smul (beToNat (H.tapTweak (xonly P ++ root)) : Int) G) := by
  obtain ⟨root, hr, h⟩ := Option.bind_eq_some_iff.mp h
  obtain ⟨h1, h2⟩ := tweakedKey_some h
  exact ⟨root, hr, h1, h2⟩

/-- the even representative used by the tweak has even y and the same x (keys `a·G`) -/
theorem even_point_even (a : Int) (h : smul a G ≠ .inf) :
    parity (evenPoint (smul a G)) = 0 ∧ xonly (evenPoint (smul a G)) = xonly (smul a G) :=
  ⟨groupLaw.parity_evenPoint_smul a h, groupLaw.xonly_evenPoint_smul a⟩

/-! ## private keys -/

/-- `PrivateKey.even_secret` is the discrete logarithm of `point.even_point()` and stays in `[1, N-1]` -/
theorem even_secret_point {d e : Nat} {pt : Pt} (hp : privPoint d = some pt) (he : evenSecret d pt = some e) :
    smul (e : Int) G = evenPoint pt ∧ parity (evenPoint pt) = 0 ∧ 1 ≤ e ∧ e < N :=
  evenSecret_point_relGroup groupLaw hp he

/-- **`PrivateKey.tweaked_key(root).point = point.tweaked_key(root)`**: the tweaked private key is the
    discrete logarithm of the tweaked public key, for every secret, root and hash function -/
theorem priv_tweaked_key_point (H : Hashes) {d d' : Nat} {pt' : Pt} {root : Bytes}
    (h : privTweakedKey H d root = some (d', pt')) :
    ∃ pt, privPoint d = some pt ∧ tweakedKey H pt root = some pt' ∧ pt' = smul (d' : Int) G ∧ 1 ≤ d' ∧ d' < N :=
  privTweakedKey_point_relGroup groupLaw H h

/-- … and it raises on a valid secret exactly when the tweaked public key is the point at infinity
    (`H_TapTweak ≡ −even_secret (mod N)`, a negligible event) -/
theorem priv_tweaked_key_none_iff (H : Hashes) {d : Nat} {pt : Pt} {root : Bytes} (hp : privPoint d = some pt) :
    privTweakedKey H d root = none ↔ tweakedKey H pt root = some .inf :=
  privTweakedKey_none_iff_relGroup groupLaw H hp

/-! ## sibling order -/

/-- `TapBranch(l, r).hash() = TapBranch(r, l).hash()` at the level of the two child hashes -/
theorem branch_hash_comm (H : Hashes) (a b : Bytes) : branchHash H a b = branchHash H b a :=
  branchHash_comm H a b

/-- … and for trees (including the case where a child fails to hash) -/
theorem tree_hash_swap (H : Hashes) (l r : Tree) : (Tree.branch l r).hash H = (Tree.branch r l).hash H := by
  simp only [Tree.hash]
  cases l.hash H with
  | none => cases r.hash H <;> rfl
  | some a =>
    cases r.hash H with
    | none => rfl
    | some b => exact congrArg some (branchHash_comm H a b)

/-! ## control blocks built by the library -/

/-- leaves built from commands (no `raw` override) hash alike when TapLeaf.__eq__ says they are equal -/
theorem coherent_of_no_raw (H : Hashes) (t : Tree) (x : Leaf) (hx : x.script.raw = none)
    (ht : ∀ l ∈ t.leaves, l.script.raw = none) :
    ∀ l ∈ t.leaves, x.eqv l = true → l.hash H = x.hash H := by
  intro l hl he
  have hl := ht l hl
  rw [Leaf.eqv_iff] at he
  obtain ⟨⟨lc, lr⟩, lv⟩ := l
  obtain ⟨⟨xc, xr⟩, xv⟩ := x
  dsimp only at hl hx he
  subst hl hx
  obtain ⟨rfl, rfl⟩ := he
  rfl

/-- `control_block` answers for every leaf of a tree whose output key exists -/
theorem control_block_exists (H : Hashes) {t : Tree} {P Q : Pt} {x : Leaf} {root : Bytes}
    (hx : x ∈ t.leaves) (hr : t.hash H = some root) (hq : tweakedKey H P root = some Q) (hQ : Q ≠ .inf) :
    ∃ cb, t.controlBlock H P (some x) = some cb := by
  have hin : leafIn x t.leaves = true := (leafIn_iff x _).mpr ⟨x, hx, x.eqv_refl⟩
  obtain ⟨p, hp, _⟩ := pathHashes_opens H t x root hin hr
  simp [Tree.controlBlock_eq, hin, Tree.externalPubkey, hr, hq, parityOf_eq hQ, hp]

/-- **for every tree and every leaf**: folding the control block's hashes from the leaf hash gives the
    root (`ControlBlock.merkle_root(leaf.tap_script) = tree.hash()`) -/
theorem control_block_merkle_root (H : Hashes) {t : Tree} {P : Pt} {x : Leaf} {cb : ControlBlock}
    (hcoh : ∀ l ∈ t.leaves, x.eqv l = true → l.hash H = x.hash H)
    (h : t.controlBlock H P (some x) = some cb) :
    ∃ root, t.hash H = some root ∧ cb.merkleRoot H x.script = some root := by
  obtain ⟨hver, _, root, Q, hr, _, _, y, hy, hey, c, hyc, ho⟩ := controlBlock_opens H h
  refine ⟨root, hr, ?_⟩
  have hxc : x.hash H = some c := (hcoh y hy hey).symm.trans hyc
  unfold ControlBlock.merkleRoot
  rw [hver]
  show (do let cur ← Leaf.hash H x; pure (foldPath H cur cb.hashes)) = some root
  rw [hxc, hr.symm.trans ho.fold]
  rfl

/-- … hence `ControlBlock.external_pubkey` reproduces the output key, and the parity recorded in the block
    is the parity of that key: the block is accepted for the output it was built for -/
theorem control_block_external_pubkey (H : Hashes) {t : Tree} {P : Pt} {x : Leaf} {cb : ControlBlock}
    (hcoh : ∀ l ∈ t.leaves, x.eqv l = true → l.hash H = x.hash H)
    (h : t.controlBlock H P (some x) = some cb) :
    ∃ Q, t.externalPubkey H P = some Q ∧ cb.externalPubkey H x.script = some Q ∧ parityOf Q = some cb.parity ∧
      cb.version = x.version ∧ cb.internal = P := by
  obtain ⟨root, hr, hm⟩ := control_block_merkle_root H hcoh h
  obtain ⟨hver, hint, root', Q, hr', hq, hpar, _⟩ := controlBlock_opens H h
  rw [hr] at hr'; cases hr'
  refine ⟨Q, by simp [Tree.externalPubkey, hr, hq], ?_, hpar, hver, hint⟩
  simp [ControlBlock.externalPubkey, hm, hint, hq]

/-! ## object state: the `_leaves` memo -/

/-- **the only cache of taproot.py is transparent.**  `TapBranch.leaves()` memoises its answer on the node.  On
    an object satisfying the invariant "every stored list is the node's leaf list" — in particular on a freshly
    built tree — every call returns the leaf list of the (unchanged) tree and keeps the invariant; so every method
    that consults `leaves()` (`path_hashes`, `control_block`) answers as the memo-free model does, in any order
    and any number of times.  Nothing else is kept on a tree: `external_pubkey` and `control_block` are functions
    of their arguments (the object-reuse histories of the harness test exactly that). -/
theorem leaves_memo_transparent (t : MTree) (h : t.MemoOK) :
    t.leavesM.1 = t.erase.leaves ∧ t.leavesM.2.erase = t.erase ∧ t.leavesM.2.MemoOK :=
  MTree.leavesM_spec t h

/-- a fresh object satisfies the invariant, and any number of calls in a row return the same list -/
theorem leaves_memo_history (t : Tree) (n : Nat) :
    (MTree.fresh t).MemoOK ∧ (MTree.leavesIter n (MTree.fresh t)).1 = List.replicate n t.leaves := by
  refine ⟨MTree.memoOK_fresh t, ?_⟩
  have := (MTree.leavesIter_spec n (MTree.fresh t) (MTree.memoOK_fresh t)).1
  rwa [MTree.erase_fresh] at this

/-! ## control block codec -/

/-- **parse ∘ serialize**: an even leaf version below 256, a parity bit, at most 128 hashes of 32 bytes
    and an internal key whose x-only bytes parse: the block serialises to `33 + 32m` bytes and parses back
    to the same version, parity and hashes, with the parsed (even-y) key -/
theorem cb_roundtrip {cb : ControlBlock} {X : Pt}
    (hv : cb.version < 256) (hv2 : cb.version % 2 = 0) (hp : cb.parity < 2)
    (hh : ∀ h ∈ cb.hashes, h.length = 32) (hn : cb.hashes.length ≤ 128)
    (hk : parseXonly (xonly cb.internal) = some X) :
    ∃ b, cb.serialize = some b ∧ b.length = 33 + 32 * cb.hashes.length ∧
      ControlBlock.parse b = some { cb with internal := X } := by
  have hvp : cb.version + cb.parity < 256 := by omega
  refine ⟨_, cbSerialize_eq hvp, ?_, ?_⟩
  · rw [List.length_cons, List.length_append, xonly_length, List.length_flatten_of_length hh]; omega
  · -- the first byte splits back into the even version and the parity bit
    have hb := byte_of_masks _ hvp
    have hpar : (cb.version + cb.parity) % 2 = cb.parity := by omega
    rw [Nat.and_one_is_mod, hpar] at hb
    rw [cbParse_cons _ (xonly_length _) hh hn, hk, u8_ofNat_toNat, Nat.mod_eq_of_lt hvp, Nat.add_right_cancel hb,
      Nat.and_one_is_mod, hpar]
    rfl

/-- **serialize ∘ parse**: whatever parses re-serialises to the same bytes -/
theorem cb_serialize_parse {b : Bytes} {cb : ControlBlock} (h : ControlBlock.parse b = some cb) :
    cb.serialize = some b := by
  obtain ⟨b0, key, hb, hkl, hkp, hv, hp, _, _, _⟩ := cb_parse_sound h
  have hsum : cb.version + cb.parity = b0.toNat := by
    rw [hv, hp]; exact byte_of_masks _ (UInt8.toNat_lt b0)
  rw [cbSerialize_eq (by rw [hsum]; exact UInt8.toNat_lt b0), hsum, hb, xonly_of_parseXonly hkl hkp]
  simp

/-- for internal keys `a·G` the parsed key is the even representative, which yields the same output key;
    the round trip is then the identity as far as `ControlBlock.__eq__` and `external_pubkey` can tell -/
theorem cb_roundtrip_key (H : Hashes) {cb : ControlBlock} (a : Int) (hint : cb.internal = smul a G) (ha : smul a G ≠ .inf)
    (hv : cb.version < 256) (hv2 : cb.version % 2 = 0) (hp : cb.parity < 2)
    (hh : ∀ h ∈ cb.hashes, h.length = 32) (hn : cb.hashes.length ≤ 128) :
    ∃ b cb', cb.serialize = some b ∧ ControlBlock.parse b = some cb' ∧ cb'.serialize = some b ∧
      cb'.version = cb.version ∧ cb'.parity = cb.parity ∧ cb'.hashes = cb.hashes ∧
      ∀ s, cb'.externalPubkey H s = cb.externalPubkey H s := by
  have hk : parseXonly (xonly cb.internal) = some (evenPoint (smul a G)) := hint ▸ groupLaw.lift_x a ha
  obtain ⟨b, hs, _, hpb⟩ := cb_roundtrip hv hv2 hp hh hn hk
  refine ⟨b, _, hs, hpb, cb_serialize_parse hpb, rfl, rfl, rfl, fun s => ?_⟩
  -- the parsed key is the even representative of the internal key: same x, same even point, same tweak
  have hc : ∀ root, tweakedKey H (evenPoint (smul a G)) root = tweakedKey H cb.internal root := fun root =>
    hint.symm ▸ tweakedKey_congr H root (groupLaw.evenPointOf_evenPoint a ha) (groupLaw.xonly_evenPoint_smul a)
  show ((cb.merkleRoot H s).bind fun root => tweakedKey H (evenPoint (smul a G)) root) =
    (cb.merkleRoot H s).bind fun root => tweakedKey H cb.internal root
  rw [funext hc]

/-- **lengths**: only `33 + 32m` bytes with `0 ≤ m ≤ 128` are ever accepted -/
theorem cb_parse_length {b : Bytes} (h : ¬ ∃ m, m ≤ 128 ∧ b.length = 33 + 32 * m) : ControlBlock.parse b = none := by
  cases hp : ControlBlock.parse b with
  | none => rfl
  | some cb => exact absurd (cbParse_length hp) h

/-- the fields of a parsed block are exactly the bytes: version and parity bits of the first byte, the
    x-only key, 32-byte hashes -/
theorem cb_parse_fields {b : Bytes} {cb : ControlBlock} (h : ControlBlock.parse b = some cb) :
    ∃ b0 key, b = b0 :: (key ++ cb.hashes.flatten) ∧ key.length = 32 ∧ parseXonly key = some cb.internal ∧
      cb.version = b0.toNat &&& 254 ∧ cb.parity = b0.toNat &&& 1 ∧ (∀ x ∈ cb.hashes, x.length = 32) ∧
      cb.hashes.length ≤ 128 ∧ b.length = 33 + 32 * cb.hashes.length :=
  cb_parse_sound h

/-! ## tampering: collision extraction -/

/-- **opening soundness.**  Let `Q` be the output key of internal key `P` and tree `t`.  Whatever
    (control block bytes, script) pair passes the script-path commitment test for `x(Q)` is a genuine
    opening of a leaf occurrence of `t` — the script (with the block's leaf version) hashes to that leaf's
    hash, the block's hashes are that occurrence's sibling path, its key has `P`'s x — or else the
    conclusion exhibits two different H_TapBranch preimages with equal hash, an H_TapLeaf hash equal to an
    H_TapBranch hash, or two different (x-only key, root) pairs whose tweaked keys have the same x. -/
theorem opening_sound (H : Hashes) (hL : ∀ m, (H.tapLeaf m).length = 32) (hB : ∀ m, (H.tapBranch m).length = 32)
    {t : Tree} {P Q : Pt} {root : Bytes} (hr : t.hash H = some root) (hq : tweakedKey H P root = some Q)
    {b : Bytes} {s : Script} (hacc : cbAccepts H b s (xonly Q) = true) :
    ∃ cb m, ControlBlock.parse b = some cb ∧ Leaf.preimage { script := s, version := cb.version } = some m ∧
      ((xonly cb.internal = xonly P ∧ Opens H t (H.tapLeaf m) cb.hashes) ∨
        BranchCollision H ∨ CrossCollision H ∨ TweakCollision H) := by
  obtain ⟨cb, m, q, hp, hm, hq', _, hx⟩ := cbAccepts_some hacc
  refine ⟨cb, m, hp, hm, ?_⟩
  obtain ⟨_, _, _, _, _, _, _, hlen, _, _⟩ := cb_parse_sound hp
  by_cases he : (xonly cb.internal, foldPath H (H.tapLeaf m) cb.hashes) = (xonly P, root)
  · rw [Prod.mk.injEq] at he
    rcases opens_of_fold H hL hB t root hr cb.hashes m hlen he.2 with ho | hc | hc
    · exact Or.inl ⟨he.1, ho⟩
    · exact Or.inr (Or.inl hc)
    · exact Or.inr (Or.inr (Or.inl hc))
  · exact Or.inr (Or.inr (Or.inr ⟨_, _, _, _, _, _, he, hq', hq, hx⟩))

/-- … and the opened leaf is one of the tree's leaves with the same hash preimage (version byte ‖ serialised
    script), or H_TapLeaf collides -/
theorem opening_is_leaf (H : Hashes) {t : Tree} {m : Bytes} {hs : List Bytes} (ho : Opens H t (H.tapLeaf m) hs) :
    (∃ l ∈ t.leaves, l.preimage = some m) ∨ LeafCollision H := by
  obtain ⟨l, hl, hc⟩ := ho.exists_leaf
  obtain ⟨ml, hp, hml⟩ := Leaf.hash_some hc
  by_cases e : ml = m
  · exact Or.inl ⟨l, hl, e ▸ hp⟩
  · exact Or.inr ⟨ml, m, e, hml⟩

/-- **altered leaf script**: if one control block is accepted for the same output key with two scripts
    whose serialisations differ (in any byte), a collision is exhibited -/
theorem tamper_script_collision (H : Hashes) (hL : ∀ m, (H.tapLeaf m).length = 32) (hB : ∀ m, (H.tapBranch m).length = 32)
    {b : Bytes} {s s' : Script} {qx : Bytes} {cb : ControlBlock} (hp : ControlBlock.parse b = some cb)
    (h : cbAccepts H b s qx = true) (h' : cbAccepts H b s' qx = true)
    (hne : Leaf.preimage { script := s, version := cb.version } ≠ Leaf.preimage { script := s', version := cb.version }) :
    LeafCollision H ∨ BranchCollision H ∨ TweakCollision H := by
  obtain ⟨cb1, m, q, hp1, hm, hq, _, hx⟩ := cbAccepts_some h
  obtain ⟨cb2, m', q', hp2, hm', hq', _, hx'⟩ := cbAccepts_some h'
  cases hp.symm.trans hp1
  cases hp.symm.trans hp2
  have hmm : m ≠ m' := fun e => hne (hm.trans (e ▸ hm'.symm))
  obtain ⟨_, _, _, _, _, _, _, hlen, _, _⟩ := cb_parse_sound hp
  by_cases hc : H.tapLeaf m = H.tapLeaf m'
  · exact Or.inl ⟨m, m', hmm, hc⟩
  · by_cases hroot : foldPath H (H.tapLeaf m) cb.hashes = foldPath H (H.tapLeaf m') cb.hashes
    · rcases foldPath_inj_left H hB cb.hashes _ _ (hL m) (hL m') hlen hroot with e | hcol
      · exact absurd e hc
      · exact Or.inr (Or.inl hcol)
    · exact Or.inr (Or.inr ⟨cb.internal, _, cb.internal, _, q, q', fun e => hroot (Prod.mk.inj e).2, hq, hq',
        hx.trans hx'.symm⟩)

/-- **altered control block**: let `b` be the serialised control block the library builds for leaf `x` of
    `t` under the internal key `P = a·G`.  If any other byte string `b' ≠ b` is accepted with `x`'s script for
    the same output key, a collision is exhibited.  (Tree hypotheses: leaves equal to `x` under
    TapLeaf.__eq__ hash like `x`; the leaves have pairwise different hash preimages; no other leaf carries
    `x`'s script bytes under another leaf version — otherwise that leaf's own control block is a second,
    legitimate, accepted block.) -/
theorem tamper_control_block_collision (H : Hashes)
    (hL : ∀ m, (H.tapLeaf m).length = 32) (hB : ∀ m, (H.tapBranch m).length = 32)
    {t : Tree} (a : Int) (ha : smul a G ≠ .inf) {x : Leaf} {cb : ControlBlock} {b b' : Bytes}
    (hcb : t.controlBlock H (smul a G) (some x) = some cb) (hser : cb.serialize = some b)
    (hcoh : ∀ l ∈ t.leaves, x.eqv l = true → l.hash H = x.hash H)
    (hnd : (t.leaves.map Leaf.preimage).Nodup)
    (huniq : ∀ l ∈ t.leaves, Script.serialize l.script = Script.serialize x.script → l.preimage = x.preimage)
    {Q : Pt} {root : Bytes} (hr : t.hash H = some root) (hq : tweakedKey H (smul a G) root = some Q)
    (hacc : cbAccepts H b' x.script (xonly Q) = true) :
    b' = b ∨ LeafCollision H ∨ BranchCollision H ∨ CrossCollision H ∨ TweakCollision H := by
  obtain ⟨hver, hint, root1, Q1, hr1, hq1, hpar1, y, hy, hey, c, hyc, ho⟩ := controlBlock_opens H hcb
  cases hr.symm.trans hr1
  cases hq.symm.trans hq1
  obtain ⟨cb', m', q', hp', hm', hq', hpar', _⟩ := cbAccepts_some hacc
  obtain ⟨cb2, m2, hp2, hm2, hrest⟩ := opening_sound H hL hB hr hq hacc
  cases hp'.symm.trans hp2
  cases hm'.symm.trans hm2
  rcases hrest with ⟨hxk, ho'⟩ | hc
  · -- the opening built by the library, and the leaf opened by b'
    obtain ⟨mx, hpx, rfl⟩ := Leaf.hash_some ((hcoh y hy hey).symm.trans hyc)
    rcases opening_is_leaf H ho' with ⟨l', hl', hpl⟩ | hcol
    · -- l' carries x's script bytes, hence has x's preimage: both openings are of the same leaf hash
      cases Option.some.inj (hpl.symm.trans ((huniq l' hl' (Leaf.preimage_inj hpl hm').2).trans hpx))
      rcases opens_unique H t _ _ _ hnd ho ho' with ehs | hcol
      · left
        have hvv : cb'.version = x.version := (Leaf.preimage_inj hm' hpx).1
        -- b' folds to the root too, and its key has P's x: the key recomputed from b' is Q, the parity bits agree
        have hkey := cbParse_internal hp'
        rw [hxk] at hkey
        rw [← Option.some.inj (hr.symm.trans ho'.fold), tweakedKey_congr H root (evenPointOf_parse_relGroup groupLaw ha hkey) hxk, hq] at hq'
        cases hq'
        have hser' := cb_serialize_parse hp'
        unfold ControlBlock.serialize at hser hser'
        rw [hvv, ← hver, Option.some.inj (hpar'.symm.trans hpar1), hxk, ← ehs] at hser'
        rw [hint] at hser
        exact Option.some.inj (hser'.symm.trans hser)
      · exact Or.inr (Or.inl hcol)
    · exact Or.inr (Or.inl hcol)
  · exact Or.inr (Or.inr hc)

/-! ## non-vacuity -/

/-- hash functions with 32-byte outputs exist (the real ones are such) -/
example : ∃ H : Hashes, (∀ m, (H.tapLeaf m).length = 32) ∧ (∀ m, (H.tapBranch m).length = 32) :=
  ⟨⟨fun _ => List.replicate 32 0, fun _ => List.replicate 32 1, id, id, id, id, id⟩, fun _ => by simp, fun _ => by simp⟩

/-- a 33-byte string with an all-zero key parses (to the point at infinity as internal key) -/
example : ControlBlock.parse (0xC1 :: List.replicate 32 0)
    = some { version := 0xC0, parity := 1, internal := .inf, hashes := [] } := by decide

example : ControlBlock.parse (List.replicate 32 0) = none ∧ ControlBlock.parse (List.replicate 34 0) = none := by
  decide

/-- the tree hypotheses of the tamper theorem are satisfiable (a two-leaf tree) -/
example : let l1 : Leaf := { script := { cmds := [.op 81] } }
          let l2 : Leaf := { script := { cmds := [.op 82] } }
          let t := Tree.branch (.leaf l1) (.leaf l2)
          (t.leaves.map Leaf.preimage).Nodup ∧
          (∀ l ∈ t.leaves, Script.serialize l.script = Script.serialize l1.script → l.preimage = l1.preimage) := by
  decide

end Buidl.Props.C12
