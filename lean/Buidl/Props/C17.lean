/-
  C17 — Merkle roots, SPV inclusion proofs and header proof-of-work follow consensus.
  The models are Buidl.Model.Merkle / Buidl.Model.Wire (constants and the shape of the tree-depth
  expression come from Buidl.Gen.Merkle, re-extracted from /repo on every run); the specifications
  are Buidl.Spec.Merkle (Bitcoin Core's ComputeMerkleRoot / CPartialMerkleTree / arith_uint256 / pow.cpp).
  `H` (hash256) is an arbitrary function; no injectivity is assumed anywhere: soundness is stated as
  collision extraction — the colliding pair is exhibited inside two explicit finite lists computed from the
  inputs (`CollisionBetween`), never claimed to exist among all strings (which would hold vacuously).
-/
import Buidl.Proofs.MerkleTree
import Buidl.Proofs.Pow
import Buidl.Proofs.Wire
import Buidl.Spec.Wire
namespace Buidl.Props.C17
open Buidl Buidl.Merkle Buidl.Spec.Merkle Buidl.Wire

/-! ## Merkle root -/

/-- helper.merkle_root computes Bitcoin's Merkle root: it equals ComputeMerkleRoot (pairwise hashing,
    the last element of an odd level paired with itself) and the hash of the top node of the tree -/
theorem merkle_root_eq_spec (H : Bytes → Bytes) (ids : List Bytes) (hne : ids ≠ []) :
    levelRoot H ids = some (treeRoot H ids) ∧
    merkleRoot H ids = some (treeRoot H ids, if ids.length > 1 then dupLast ids else ids) := by
  have h := levelRoot_eq_treeRoot H ids hne
  exact ⟨h, by rw [merkleRoot_eq, h]; rfl⟩

/-- helper.merkle_parent_level: one level of ComputeMerkleRoot (RuntimeError on a single hash), leaving the
    duplicated last hash in the caller's list -/
theorem merkle_parent_level_eq (H : Bytes → Bytes) (l : List Bytes) :
    merkleParentLevel H l = if l.length = 1 then none else some (levelUp H l, dupLast l) := by
  simp only [merkleParentLevel, pairUp_dupLast]

/-- an empty list has no root (IndexError) -/
theorem merkle_root_empty (H : Bytes → Bytes) : merkleRoot H [] = none := by
  rw [merkleRoot_eq, levelRoot]; rfl

/-- the in-place duplication: the caller's list is left with its last hash appended when it has an odd
    length greater than one — and calling merkle_root again on that list gives the same root and changes
    nothing more -/
theorem merkle_root_twice (H : Bytes → Bytes) (ids ids' : List Bytes) (r : Bytes)
    (h : merkleRoot H ids = some (r, ids')) : merkleRoot H ids' = some (r, ids') := by
  by_cases hl : ids.length > 1
  · rw [merkleRoot_eq, if_pos hl] at h
    obtain ⟨r0, hr, he⟩ := Option.map_eq_some_iff.mp h
    obtain ⟨rfl, rfl⟩ := Prod.mk.inj he
    have hlen : 1 < (dupLast ids).length := by
      have : ids.length ≤ (dupLast ids).length := by unfold dupLast; split <;> (try split) <;> simp
      omega
    rw [merkleRoot_eq, if_pos hlen, dupLast_dupLast, levelRoot_unfold H _ hlen, levelUp_dupLast, ← levelRoot_unfold H ids hl, hr]
    rfl
  · have h' := h
    rw [merkleRoot_eq, if_neg hl] at h'
    obtain ⟨r0, _, he⟩ := Option.map_eq_some_iff.mp h'
    obtain ⟨_, rfl⟩ := Prod.mk.inj he
    exact h

/-- Block.validate_merkle_root -/
theorem validate_merkle_root_eq (H : Bytes → Bytes) (txHashes : List Bytes) (root : Bytes) (hne : txHashes ≠ []) :
    validateMerkleRoot H txHashes root = some (decide ((treeRoot H (txHashes.map List.reverse)).reverse = root)) := by
  unfold validateMerkleRoot
  rw [(merkle_root_eq_spec H (txHashes.map List.reverse) (by simpa using hne)).2]
  rfl

/-! ## tree sizing (code after fix F17a) -/

/-- `max_depth` is the integer ⌈log₂ total⌉: `total ≤ 2^d`, and `d` is the least such exponent -/
theorem tree_depth_ceil_log2 (total : Nat) (hn : 0 < total) : IsCeilLog2 total (maxDepth total) := by
  have h : maxDepth total = bitLength (total - 1) := by
    unfold maxDepth
    rw [if_neg (by decide), if_neg (by omega)]
  rw [h]; exact bitLength_pred_isCeilLog2 total hn

theorem tree_depth_eq_spec (total : Nat) (hn : 0 < total) : maxDepth total = ceilLog2 total :=
  ((ceilLog2_spec total).unique (tree_depth_ceil_log2 total hn)).symm

/-- level `d` holds ⌈total / 2^(max_depth - d)⌉ nodes: index `i` exists iff its first leaf does -/
theorem level_sizes (total d i : Nat) :
    i < levelSize total (maxDepth total) d ↔ i * 2 ^ (maxDepth total - d) < total :=
  lt_levelSize_iff total (maxDepth total) d i

/-- F17a, the behaviour before the fix: `math.ceil(math.log(total, 2))` evaluates to 30 at 2^29 and to 32 at
    2^31, which is not ⌈log₂ total⌉ -/
theorem F17a_witness : ¬ IsCeilLog2 (2 ^ 29) (floatCeilLog2 (2 ^ 29)) ∧ ¬ IsCeilLog2 (2 ^ 31) (floatCeilLog2 (2 ^ 31)) :=
  ⟨floatCeilLog2_overshoot (k := 29) (.inl rfl), floatCeilLog2_overshoot (k := 31) (.inr rfl)⟩

/-! ## BIP37 partial Merkle trees -/

/-- MerkleTree(total).populate_tree(flag_bits, hashes) — the cursor machine with its error branches — is
    BIP37's recursive parsing of a partial Merkle tree, for every count, flag list and hash list -/
theorem populate_eq_spec (H : Bytes → Bytes) (total : Nat) (flagBits : List Bool) (hashes : List Bytes) :
    populate H total flagBits hashes =
      match extractProof H total flagBits hashes with
      | none => .error
      | some (r, m) => .done r (m.map List.reverse) :=
  populate_eq_extractProof H total (tree_depth_ceil_log2 total) flagBits hashes

/-- the loop never runs out of its fuel -/
theorem populate_never_out_of_fuel (H : Bytes → Bytes) (total : Nat) (flagBits : List Bool) (hashes : List Bytes) :
    populate H total flagBits hashes ≠ .outOfFuel := by
  rw [populate_eq_spec]
  cases extractProof H total flagBits hashes <;> simp

/-- one MerkleTree object used again: on a fresh tree `populate_tree` is `populate` … -/
theorem tree_reuse_fresh (H : Bytes → Bytes) (total : Nat) (flagBits : List Bool) (hashes : List Bytes) :
    (populateOn H (newTree total) flagBits hashes).2 = populate H total flagBits hashes := by
  have hfuel := populate_never_out_of_fuel H total flagBits hashes
  have hl := runLoopSt_of_runLoop H (3 * maxDepth total) (3 * flagBits.length + 4)
    ⟨total, maxDepth total, fun _ _ => none, 0, 0, flagBits, hashes, []⟩
  unfold populateOn populate at *
  simp only [newTree] at *
  cases hr : runLoop H (3 * flagBits.length + 4) ⟨total, maxDepth total, fun _ _ => none, 0, 0, flagBits, hashes, []⟩ with
  | none => rw [hr] at hl; simp only [hl]
  | some o =>
    cases o with
    | none => rw [hr] at hfuel; exact absurd rfl hfuel
    | some x =>
      obtain ⟨r, s'⟩ := x
      rw [hr] at hl
      simp only [hl]
      split <;> (try split) <;> rfl

/-- … and on a tree whose root is already known it runs no iteration: it raises unless it is given no hash and no
    set flag bit, and leaves the tree — root and `proved_txs` — as it was (no stale or doubled results) -/
theorem tree_reuse_finished (H : Bytes → Bytes) (t : TreeSt) (r : Bytes) (flagBits : List Bool) (hashes : List Bytes)
    (hroot : t.get 0 0 = some (some r)) :
    populateOn H t flagBits hashes = ({ t with flagBits := flagBits, hashes := hashes },
      if hashes.length ≠ 0 then .error else if flagBits.any id then .error else .done r t.proved) := by
  unfold populateOn
  have hg : ({ t with flagBits := flagBits, hashes := hashes } : TreeSt).get 0 0 = some (some r) := hroot
  rw [show 3 * flagBits.length + 4 + 3 * t.maxD = (3 * flagBits.length + 3 + 3 * t.maxD) + 1 by omega]
  simp only [runLoopSt, hg]
  split <;> (try split) <;> rfl

/-- bytes_to_bit_field inverts bit_field_to_bytes (flag bits are stored least significant bit first) -/
theorem bit_field_roundtrip (bits : List Bool) (bs : Bytes) (h : bitFieldToBytes bits = some bs) :
    bytesToBitField bs = bits :=
  bytesToBitField_bitFieldToBytes bits bs h

/-- the `merkleblock` message: MerkleBlock.parse inverts the protocol encoding (80-byte header, 4-byte count,
    CompactSize + 32-byte hashes in wire order, var-bytes flags), with any continuation -/
theorem merkleblock_parse_encode (hdr : Bytes) (total : Nat) (hashes : List Bytes) (flags rest e : Bytes)
    (hhdr : hdr.length = 80) (hh : ∀ x ∈ hashes, x.length = 32)
    (he : Spec.Wire.encodeMerkleBlock hdr total hashes flags = some e) :
    merkleBlockParse (e ++ rest) = some (((Header.parse hdr).1, total, hashes, flags), rest) := by
  simp only [Spec.Wire.encodeMerkleBlock, encodeVarstr, Option.pure_def, Option.bind_eq_bind, Option.bind_eq_some_iff,
    Option.map_eq_some_iff, Option.some.injEq] at he
  obtain ⟨t, ht, v, hv, f, ⟨fl, hfl, rfl⟩, rfl⟩ := he
  simp only [merkleBlockParse, List.append_assoc, Header.parse_append _ _ hhdr, take_drop_append (natToLE_length ht),
    leToNat_of_natToLE ht, readVarint_encodeVarint _ _ _ hv, readN32rev_flatten hashes _ hh,
    readVarint_encodeVarint _ _ _ hfl, Option.pure_def, Option.bind_eq_bind, Option.bind_some,
    take_drop_append (rfl : flags.length = _)]

/-- COMPLETENESS at the level of populate_tree (leaves in internal byte order): for every non-empty block and every
    match set, the partial Merkle tree built per BIP37 parses to the block's Merkle root and exactly the matched
    ids, in block order -/
theorem bip37_complete_tree (H : Bytes → Bytes) (ids : List Bytes) (matched : List Bool) (hne : ids ≠ [])
    (hm : matched.length = ids.length) :
    populate H (buildProof H ids matched).1 (buildProof H ids matched).2.2 (buildProof H ids matched).2.1
      = .done (treeRoot H ids) ((matchedIds ids matched).map List.reverse) :=
  (populate_done_iff (tree_depth_ceil_log2 _)).mpr ⟨_, extractProof_buildProof H hne (Nat.le_of_eq hm.symm), rfl⟩

/-- COMPLETENESS at the level of MerkleBlock.is_valid / proved_txs (ids, hashes and root in object byte order): the
    built proof validates against the block's Merkle root and yields exactly the matched ids, in block order -/
theorem bip37_complete (H : Bytes → Bytes) (txids : List Bytes) (matched : List Bool) (hne : txids ≠ [])
    (hm : matched.length = txids.length) :
    ∃ flags, bitFieldToBytes (buildProof H (txids.map List.reverse) matched).2.2 = some flags ∧
      isValid H (treeRoot H (txids.map List.reverse)).reverse (buildProof H (txids.map List.reverse) matched).1
        ((buildProof H (txids.map List.reverse) matched).2.1.map List.reverse) flags
        = .ok (some (true, matchedIds txids matched)) := by
  obtain ⟨flags, hfl⟩ := bitFieldToBytes_padBits_isSome
    (build H (ceilLog2 (txids.map List.reverse).length) ((txids.map List.reverse).zip matched)).1
  refine ⟨flags, hfl, isValid_true_iff.mpr ⟨_, ?_, rfl⟩⟩
  rw [bytesToBitField_bitFieldToBytes _ _ hfl, map_reverse_reverse, ← map_reverse_reverse (matchedIds txids matched),
    ← matchedIds_map]
  exact bip37_complete_tree H (txids.map List.reverse) matched (by simpa using hne) (by rw [List.length_map]; exact hm)

/-- SOUNDNESS with collision extraction: if ANY (flags, hashes) — honest or altered — validates against the
    Merkle root of `ids` with the true transaction count, then every id it yields is one of the block's ids, or a
    hash256 collision is EXHIBITED between a string hashed while parsing the proof and a string hashed when
    computing the block's root (two explicit finite lists, `extractPre` and `calcPre`).  Hashes are 32 bytes long. -/
theorem bip37_sound (H : Bytes → Bytes) (hH : ∀ b, (H b).length = 32) (ids : List Bytes) (hne : ids ≠ [])
    (hids : ∀ y ∈ ids, y.length = 32) (flagBits : List Bool) (hashes : List Bytes) (hhs : ∀ y ∈ hashes, y.length = 32)
    (r : Bytes) (proved : List Bytes) (h : populate H ids.length flagBits hashes = .done r proved)
    (hr : r = treeRoot H ids) :
    (∀ t ∈ proved, t.reverse ∈ ids) ∨
      CollisionBetween H (extractPre H (ceilLog2 ids.length) ids.length flagBits hashes) (calcPre H (ceilLog2 ids.length) ids) := by
  obtain ⟨m, hex, rfl⟩ := (populate_done_iff (tree_depth_ceil_log2 _)).mp h
  subst hr
  refine (extractProof_sound hH hids hhs hex).imp_left fun hm t ht => ?_
  obtain ⟨u, hu, rfl⟩ := List.mem_map.mp ht
  rw [List.reverse_reverse]
  exact hm u hu

/-- soundness at the level of MerkleBlock.is_valid / proved_txs (object byte order) -/
theorem bip37_sound_merkleblock (H : Bytes → Bytes) (hH : ∀ b, (H b).length = 32) (txids : List Bytes) (hne : txids ≠ [])
    (hids : ∀ y ∈ txids, y.length = 32) (hashes : List Bytes) (hhs : ∀ y ∈ hashes, y.length = 32) (flags : Bytes)
    (proved : List Bytes)
    (h : isValid H (treeRoot H (txids.map List.reverse)).reverse txids.length hashes flags = .ok (some (true, proved))) :
    (∀ t ∈ proved, t ∈ txids) ∨
      CollisionBetween H
        (extractPre H (ceilLog2 txids.length) txids.length (bytesToBitField flags) (hashes.map List.reverse))
        (calcPre H (ceilLog2 txids.length) (txids.map List.reverse)) := by
  obtain ⟨r, hp, hr⟩ := isValid_true_iff.mp h
  have hlen : (txids.map List.reverse).length = txids.length := List.length_map _
  rw [← hlen] at hp
  have hs := bip37_sound H hH (txids.map List.reverse) (by simpa using hne) (by simpa using hids)
    (bytesToBitField flags) (hashes.map List.reverse) (by simpa using hhs) r proved hp
    (List.reverse_inj.mp hr)
  rw [hlen] at hs
  rcases hs with h1 | h2
  · left
    intro t ht
    obtain ⟨u, hu, hu2⟩ := List.mem_map.mp (h1 t ht)
    rwa [← List.reverse_inj.mp hu2]
  · exact .inr h2

/-- ALTERED HASHES: two proofs with the same count and flags that both validate against the same root carry the
    same hashes, or a hash256 collision is exhibited between the strings hashed while parsing the one and the
    other — altering any hash of a validating proof makes validation fail (up to exhibited collisions) -/
theorem bip37_altered_hash (H : Bytes → Bytes) (hH : ∀ b, (H b).length = 32) (total : Nat) (hn : 0 < total)
    (flagBits : List Bool) (hashes hashes' : List Bytes)
    (hl : ∀ y ∈ hashes, y.length = 32) (hl' : ∀ y ∈ hashes', y.length = 32) (r : Bytes) (p p' : List Bytes)
    (h : populate H total flagBits hashes = .done r p) (h' : populate H total flagBits hashes' = .done r p') :
    hashes = hashes' ∨
      CollisionBetween H (extractPre H (ceilLog2 total) total flagBits hashes) (extractPre H (ceilLog2 total) total flagBits hashes') := by
  obtain ⟨m, hex, _⟩ := (populate_done_iff (tree_depth_ceil_log2 _)).mp h
  obtain ⟨m', hex', _⟩ := (populate_done_iff (tree_depth_ceil_log2 _)).mp h'
  exact (extractProof_determines hH hl hl' hex hex').imp_left And.left

/-- ALTERED ROOT: the computed root does not depend on the header, so a proof validates against at most one root -/
theorem bip37_altered_root (H : Bytes → Bytes) (root root' : Bytes) (total : Nat) (hashes : List Bytes) (flags : Bytes)
    (p p' : List Bytes) (h : isValid H root total hashes flags = .ok (some (true, p)))
    (h' : isValid H root' total hashes flags = .ok (some (true, p'))) : root = root' := by
  obtain ⟨r, hp, hr⟩ := isValid_true_iff.mp h
  obtain ⟨r', hp', hr'⟩ := isValid_true_iff.mp h'
  rw [hp] at hp'
  cases hp'
  rw [← hr, ← hr']

/-- F17b (inherent to BIP37): with a forged transaction count the claim is false.  For a block of four
    transactions a, b, c, d the proof (total = 2, flags 1 1 1, hashes H(a‖b), H(c‖d)) validates against the
    block's Merkle root and "proves" the two inner nodes, for every hash function -/
theorem F17b_witness (H : Bytes → Bytes) (a b c d : Bytes) :
    populate H 2 [true, true, true] [H (a ++ b), H (c ++ d)]
      = .done (treeRoot H [a, b, c, d]) [(H (a ++ b)).reverse, (H (c ++ d)).reverse] := by
  have h2 : maxDepth 2 = 1 := (tree_depth_ceil_log2 2 (by decide)).unique (isCeilLog2_two_pow 1)
  have h4 : ceilLog2 4 = 2 := (ceilLog2_spec 4).unique (isCeilLog2_two_pow 2)
  rw [populate_eq_extract H 2 (by omega), h2, treeRoot, show [a, b, c, d].length = 4 from rfl, h4]
  simp [extract, calcHash]

/-! ## compact bits, targets, retargeting, proof-of-work, header chains -/

/-- Block.hash: hash256 of the 80-byte serialisation, reversed (the codec is C19's subject) -/
theorem header_hash_eq (H : Bytes → Bytes) (h : Header) (s : Bytes) (hs : h.serialize = some s) :
    h.hash H = some (H s).reverse :=
  header_hash_of_serialize H hs

/-- EVERY 80-byte header (the version field is any 4-byte value, bit 31 included: the model keeps it as a natural
    number below 2^32): parsing and serialising gives the same 80 bytes back, and the hash is the reversed hash256 of
    those bytes — the consensus header hash -/
theorem header_raw_roundtrip (H : Bytes → Bytes) (raw : Bytes) (h80 : raw.length = 80) :
    (Header.parse raw).1.serialize = some raw ∧ (Header.parse raw).1.hash H = some (H raw).reverse ∧
    (Header.parse raw).1.version < 2 ^ 32 := by
  have hs := Header.parse_serialize raw (by omega)
  rw [List.take_of_length_le (by omega)] at hs
  exact ⟨hs, header_hash_of_serialize H hs, leToNat_take_lt 4 raw⟩

/-- … and check_pow is evaluated on the hash of exactly those 80 bytes -/
theorem header_raw_check_pow (H : Bytes → Bytes) (raw : Bytes) (h80 : raw.length = 80)
    (hexp : 3 ≤ leToNat (Header.parse raw).1.bits / 2 ^ 24) :
    checkPow H (Header.parse raw).1 = some (decide (leToNat (H raw) <
      (leToNat (Header.parse raw).1.bits % 2 ^ 24) * 256 ^ (leToNat (Header.parse raw).1.bits / 2 ^ 24 - 3))) := by
  have hb : (Header.parse raw).1.bits.length = 4 := by simp [Header.parse]; omega
  exact checkPow_eq H _ raw (header_raw_roundtrip H raw h80).1 hb hexp

/-- bits_to_target = SetCompact for 4-byte bits with exponent ≥ 3, clear sign bit, no overflow -/
theorem bits_to_target_eq_SetCompact (bits : Bytes) (h4 : bits.length = 4)
    (hexp : 3 ≤ leToNat bits / 2 ^ 24) (hsign : (leToNat bits / 2 ^ 23) % 2 = 0)
    (hov : (setCompact (leToNat bits)).overflow = false) :
    bitsToTarget bits = some (.int (setCompact (leToNat bits)).value) ∧ (setCompact (leToNat bits)).negative = false := by
  obtain ⟨h1, h2⟩ := setCompact_value_of_ok _ hexp hsign hov
  exact ⟨by rw [h1]; exact bitsToTarget_general bits h4 hexp, h2⟩

/-- what the code computes for every exponent ≥ 3: the 24-bit mantissa including the sign bit, never truncated -/
theorem bits_to_target_general (bits : Bytes) (h4 : bits.length = 4) (hexp : 3 ≤ leToNat bits / 2 ^ 24) :
    bitsToTarget bits = some (.int ((leToNat bits % 2 ^ 24) * 256 ^ (leToNat bits / 2 ^ 24 - 3))) :=
  bitsToTarget_general bits h4 hexp

/-- F17c: exponent < 3 yields a float; a set sign bit is taken as magnitude -/
theorem F17c_witness :
    bitsToTarget [0x12, 0x34, 0x56, 0x02] = some (.frac 0x563412 1) ∧ (setCompact 0x02563412).value = 0x5634 ∧
    bitsToTarget [0x00, 0x00, 0x80, 0x03] = some (.int 0x800000) ∧
      (setCompact 0x03800000).negative = false ∧ (setCompact 0x03800000).value = 0 ∧
    bitsToTarget [0x01, 0x00, 0x80, 0x03] = some (.int 0x800001) ∧
      (setCompact 0x03800001).negative = true ∧ (setCompact 0x03800001).value = 1 :=
  Merkle.F17c_witness

/-- target_to_bits = GetCompact for 2^16 ≤ target < 2^256 -/
theorem target_to_bits_eq_GetCompact (t : Nat) (hlo : 2 ^ 16 ≤ t) (hhi : t < 2 ^ 256) :
    ∃ b, targetToBits t = some b ∧ b.length = 4 ∧ leToNat b = getCompact t := by
  have hhi' : t < 256 ^ 32 := hhi
  obtain ⟨k, hk⟩ : ∃ k, byteLen t = k + 3 := ⟨byteLen t - 3, by have := byteLen_le_iff 2 t; omega⟩
  have hk32 : k + 3 ≤ 32 := hk ▸ (byteLen_le_iff 32 t).mpr hhi'
  obtain ⟨x, y, z, hxyz, hA⟩ := exists_bytes3 (lead3_lt hk)
  have hx := x.toNat_lt
  have hy := y.toNat_lt
  have hz := z.toNat_lt
  simp only [targetToBits, natToBE, if_pos hhi', Option.bind_eq_bind, Option.bind_some, lstripZeros_natToBE' hhi', hk,
    natToBE'_add k 3, getCompact_of_byteLen hk, hxyz, List.cons_append, Gen.targetSignCmp, List.take_succ_cons, List.take_zero,
    List.length_cons, natToBE'_length, List.reverse_cons, List.reverse_nil, List.nil_append]
  rw [hA]
  by_cases hb : x.toNat > 127
  · rw [if_pos hb, if_pos (by omega)]
    refine ⟨_, rfl, rfl, ?_⟩
    simp only [leToNat, u8_ofNat_toNat, show (0 : UInt8).toNat = 0 from rfl]
    omega
  · rw [if_neg hb, if_neg (by omega)]
    refine ⟨_, rfl, rfl, ?_⟩
    simp only [leToNat, u8_ofNat_toNat]
    omega

/-- F17d: a target below 2^16 gives fewer than four bytes; 0 raises -/
theorem F17d_witness :
    targetToBits 0x1234 = some [0x34, 0x12, 0x02] ∧ getCompact 0x1234 = 0x02123400 ∧ targetToBits 0 = none ∧ getCompact 0 = 0 :=
  Merkle.F17d_witness

/-- the retarget clamp: the time differential is confined to [two weeks / 4, two weeks · 4] -/
theorem retarget_clamp (bits : Bytes) (td : Int) :
    calculateNewBits bits td = calculateNewBits bits (max 302400 (min td 4838400)) :=
  Merkle.retarget_clamp bits td

/-- calculate_new_bits = CalculateNextWorkRequired -/
theorem calculate_new_bits_eq_spec (bits : Bytes) (td : Int) (h4 : bits.length = 4)
    (hexp : 3 ≤ leToNat bits / 2 ^ 24) (hsign : (leToNat bits / 2 ^ 23) % 2 = 0)
    (hov : (setCompact (leToNat bits)).overflow = false)
    (hprod : (setCompact (leToNat bits)).value * 4838400 < 2 ^ 256)
    (hbig : 2 ^ 16 * 1209600 ≤ (setCompact (leToNat bits)).value * 302400) :
    ∃ b, calculateNewBits bits td = some b ∧ b.length = 4 ∧
      leToNat b = nextWorkRequired (leToNat bits) td powLimitMainnet := by
  rw [calculateNewBits_int (bits_to_target_eq_SetCompact bits h4 hexp hsign hov).1, nextWorkRequired_eq, powLimitMainnet_eq]
  generalize (setCompact (leToNat bits)).value = V at hprod hbig
  have hc1 : 302400 ≤ (max 302400 (min td 4838400)).toNat := by omega
  have hc2 : (max 302400 (min td 4838400)).toNat ≤ 4838400 := by omega
  generalize (max 302400 (min td 4838400)).toNat = c at hc1 hc2
  rw [Nat.mod_eq_of_lt (Nat.lt_of_le_of_lt (Nat.mul_le_mul_left V hc2) hprod)]
  exact target_to_bits_eq_GetCompact _
    (Nat.le_min.mpr ⟨(Nat.le_div_iff_mul_le (by decide)).mpr (Nat.le_trans hbig (Nat.mul_le_mul_left V hc1)), by decide⟩)
    (Nat.lt_of_le_of_lt (Nat.min_le_right _ _) (by decide))

/-- buidl's MAX_TARGET (0xFFFF·2^208) and Core's mainnet powLimit (2^224 - 1) cap to the same compact value -/
theorem max_target_cap (t : Nat) : getCompact (min t (2 ^ 224 - 1)) = getCompact (min t powLimitMainnet) := by
  have hle : powLimitMainnet ≤ 2 ^ 224 - 1 := by decide
  by_cases h : t ≤ powLimitMainnet
  · rw [Nat.min_eq_left h, Nat.min_eq_left (Nat.le_trans h hle)]
  · rw [Nat.min_eq_right (Nat.le_of_not_le h), getCompact_top (Nat.le_refl _) (by decide),
      getCompact_top (Nat.le_min.mpr ⟨Nat.le_of_not_le h, hle⟩) (Nat.lt_of_le_of_lt (Nat.min_le_right _ _) (by decide))]

/-- Block.check_pow tests `hash < target` -/
theorem check_pow_eq (H : Bytes → Bytes) (h : Header) (s : Bytes) (hs : h.serialize = some s) (h4 : h.bits.length = 4)
    (hexp : 3 ≤ leToNat h.bits / 2 ^ 24) :
    checkPow H h = some (decide (leToNat (H s) < (leToNat h.bits % 2 ^ 24) * 256 ^ (leToNat h.bits / 2 ^ 24 - 3))) :=
  checkPow_eq H h s hs h4 hexp

/-- … which is CheckProofOfWork on in-range bits, except when the hash equals the target -/
theorem check_pow_eq_consensus_of_ne (H : Bytes → Bytes) (h : Header) (s : Bytes) (hs : h.serialize = some s)
    (h4 : h.bits.length = 4) (hexp : 3 ≤ leToNat h.bits / 2 ^ 24) (hsign : (leToNat h.bits / 2 ^ 23) % 2 = 0)
    (hov : (setCompact (leToNat h.bits)).overflow = false) (hnz : (setCompact (leToNat h.bits)).value ≠ 0)
    (limit : Nat) (hlim : (setCompact (leToNat h.bits)).value ≤ limit)
    (hne : leToNat (H s) ≠ (setCompact (leToNat h.bits)).value) :
    checkPow H h = some (checkProofOfWork (leToNat (H s)) (leToNat h.bits) limit) := by
  obtain ⟨hv, hneg⟩ := setCompact_value_of_ok _ hexp hsign hov
  rw [checkPow_eq H h s hs h4 hexp, ← hv]
  unfold checkProofOfWork
  simp only [hneg, hov, hnz, Nat.not_lt.mpr hlim, Bool.false_eq_true, or_self, if_false]
  congr 1
  rw [decide_eq_decide]
  omega

/-- F17e: (a) a hash equal to the target is accepted by consensus and refused by check_pow; (b) bits whose
    target overflows 256 bits make check_pow accept every hash while consensus rejects them -/
theorem F17e_witness :
    (checkPow (fun _ => natToLE' 32 (0xffff * 256 ^ 26)) (f17eHeader [0xff, 0xff, 0x00, 0x1d]) = some false ∧
      leToNat [0xff, 0xff, 0x00, 0x1d] = 0x1d00ffff ∧
      checkProofOfWork (leToNat (natToLE' 32 (0xffff * 256 ^ 26))) 0x1d00ffff powLimitMainnet = true) ∧
    ((∀ hash256 : Bytes → Bytes, (∀ b, (hash256 b).length = 32) →
        checkPow hash256 (f17eHeader [0xff, 0xff, 0x7f, 0x22]) = some true) ∧
      leToNat [0xff, 0xff, 0x7f, 0x22] = 0x227fffff ∧
      (setCompact 0x227fffff).overflow = true ∧
      ∀ hash, checkProofOfWork hash 0x227fffff (2 ^ 256 - 1) = false) :=
  Merkle.F17e_witness

/-- HeadersMessage.is_valid is the fold it should be: true exactly when every header passes check_pow and every
    header's prev_block is the hash of its predecessor -/
theorem headers_valid_iff (H : Bytes → Bytes) (hne : ∀ b, H b ≠ []) (hs : List Header) :
    headersValid H hs = some true ↔
      (∀ h ∈ hs, checkPow H h = some true) ∧
      (∀ i, ∀ a b, hs[i]? = some a → hs[i+1]? = some b → some b.prevBlock = a.hash H) := by
  unfold headersValid
  rw [headersValidFrom_iff H hne hs none]
  simp

/-! ## the hypotheses are satisfiable -/

example : ([0xff, 0xff, 0x00, 0x1d] : Bytes).length = 4 ∧ 3 ≤ leToNat [0xff, 0xff, 0x00, 0x1d] / 2 ^ 24 ∧
    (leToNat [0xff, 0xff, 0x00, 0x1d] / 2 ^ 23) % 2 = 0 := by decide
example : (setCompact 0x1d00ffff).overflow = false ∧ (setCompact 0x1d00ffff).value * 4838400 < 2 ^ 256 ∧
    2 ^ 16 * 1209600 ≤ (setCompact 0x1d00ffff).value * 302400 := by decide
example : IsCeilLog2 5 3 ∧ IsCeilLog2 1 0 := ⟨⟨by decide, Or.inr (by decide)⟩, ⟨by decide, Or.inl rfl⟩⟩
example : ∃ H : Bytes → Bytes, ∀ b, (H b).length = 32 := ⟨fun _ => List.replicate 32 0, fun _ => by simp⟩
example : ([[1], [2], [3]] : List Bytes) ≠ [] ∧ ([true, false, true] : List Bool).length = ([[1], [2], [3]] : List Bytes).length := by decide

end Buidl.Props.C17
