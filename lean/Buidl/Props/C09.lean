/-
  C09 — Address and key text encodings invert exactly and reject what the specs reject.
  Models: Buidl.Model.Base58 / Bech32 / Address (constants from Buidl.Gen.*, re-extracted from
  /repo on every run).  `hash256` is an arbitrary function; where its output length matters the
  hypothesis says so (the real one returns 32 bytes).
-/
import Buidl.Proofs.AddressDispatch
namespace Buidl.Props.C09
open Buidl Buidl.Base58 Buidl.Bech32 Buidl.Address

/-! ## the extracted tables are those of the specifications -/

/-- BIP173 generator and character set, the BIP173 / BIP350 checksum constants on both the
    creating and the verifying side, Bitcoin's Base58 alphabet, the address / WIF version bytes -/
theorem spec_constants :
    Gen.bech32Gen = [0x3b6a57b2, 0x26508e6d, 0x1ea119fa, 0x3d4233dd, 0x2a1462b3] ∧
    Gen.bech32Alphabet = "qpzry9x8gf2tvdw0s3jn54khce6mua7l" ∧
    Gen.b32VerifyConst = 1 ∧ Gen.b32ChkXor = 1 ∧ Gen.b32mVerifyConst = 0x2bc830a3 ∧ Gen.b32mChkXor = 0x2bc830a3 ∧
    Gen.base58Alphabet = "123456789ABCDEFGHJKLMNPQRSTUVWXYZabcdefghijkmnopqrstuvwxyz" ∧
    Gen.p2pkhVersionMain = 0x00 ∧ Gen.p2pkhVersionOther = 0x6f ∧ Gen.p2shVersionMain = 0x05 ∧ Gen.p2shVersionOther = 0xc4 ∧
    Gen.wifVersionMain = 0x80 ∧ Gen.wifVersionOther = 0xef :=
  ⟨rfl, rfl, rfl, rfl, rfl, rfl, rfl, rfl, rfl, rfl, rfl, rfl, rfl⟩

/-! ## Base58 -/

/-- the encoder is defined exactly on non-empty byte strings (`int("", 16)` raises) -/
theorem base58_encode_domain (b : Bytes) : (encodeBase58 b).isSome ↔ b ≠ [] := by
  constructor
  · intro h e; subst e; simp [encodeBase58] at h
  · intro h; rw [encodeBase58_eq b h]; rfl

/-- decoding inverts encoding for every byte string, leading zero bytes included
    (`decodeCombined` is `raw_decode_base58` before its checksum test) -/
theorem base58_decode_encode (b : Bytes) (s : Str) (h : encodeBase58 b = some s) : decodeCombined s = some b :=
  decodeCombined_encodeBase58 b s h

/-- and encoding inverts decoding: a string is the text of exactly one byte string -/
theorem base58_encode_decode (s : Str) (c : Bytes) (h : decodeCombined s = some c) (hc : c ≠ []) :
    encodeBase58 c = some s :=
  encodeBase58_decodeCombined s c h hc

/-- Base58Check round trip -/
theorem base58check_roundtrip (hash256 : Bytes → Bytes) (hh : ∀ b, 4 ≤ (hash256 b).length) (p : Bytes) (s : Str)
    (h : encodeBase58Checksum hash256 p = some s) : rawDecodeBase58 hash256 s = some p :=
  rawDecodeBase58_encodeBase58Checksum hash256 hh p s h

/-- a Base58Check string is accepted, with payload `p`, exactly when it is the Base58 text of
    `p ‖ hash256(p)[:4]` -/
theorem base58check_accept_iff (hash256 : Bytes → Bytes) (hh : ∀ b, 4 ≤ (hash256 b).length) (s : Str) (p : Bytes) :
    rawDecodeBase58 hash256 s = some p ↔ encodeBase58Checksum hash256 p = some s :=
  rawDecodeBase58_eq_some_iff hash256 hh s p

/-- acceptance in terms of the decoded bytes: the last four bytes must be the first four bytes
    of hash256 of the rest; anything else (and any foreign character) is refused -/
theorem base58check_checksum (hash256 : Bytes → Bytes) (s : Str) :
    rawDecodeBase58 hash256 s =
      match decodeCombined s with
      | none => none
      | some c => if (hash256 (pyButLast 4 c)).take 4 = pyLast 4 c then some (pyButLast 4 c) else none := by
  rw [rawDecodeBase58_eq]
  cases decodeCombined s <;> rfl

example : encodeBase58 [0, 0, 1, 2, 3] = some "11Ldp".toList ∧ decodeCombined "11Ldp".toList = some [0, 0, 1, 2, 3] := by
  decide +kernel

/-- a string that gets past the decoding loop consists of Base58 characters only -/
theorem base58_decode_chars (s : Str) (c : Bytes) (h : decodeCombined s = some c) : ∀ x ∈ s, x ∈ Base58.alphabet :=
  decodeCombined_chars h

/-! ## Bech32 / Bech32m -/

/-- the bech32 constant is 1, the bech32m constant 0x2bc830a3 -/
theorem bech32_constants : constOf 0 = 1 ∧ ∀ v, v ≠ 0 → constOf v = 0x2bc830a3 := by
  refine ⟨rfl, fun v hv => ?_⟩
  simp [constOf, hv, Gen.b32mVerifyConst]

/-- polymod is linear over XOR: for words of equal length the checksum of the XOR, started
    from the XOR of the start states, is the XOR of the checksums -/
theorem polymod_affine (vs ws : List Nat) (h : vs.length = ws.length) (a b : Nat) :
    polymodFrom (a ^^^ b) (List.zipWith (· ^^^ ·) vs ws) = polymodFrom a vs ^^^ polymodFrom b ws :=
  checksum.foldl_xor vs ws h a b

/-- the per-step map of the checksum register is injective on the top five bits:
    the low five bits of the generator mix determine them -/
theorem polymod_step_injective : ∀ b < 32, ∀ b' < 32,
    (term b 0 ^^^ term b 1 ^^^ term b 2 ^^^ term b 3 ^^^ term b 4) % 32 =
    (term b' 0 ^^^ term b' 1 ^^^ term b' 2 ^^^ term b' 3 ^^^ term b' 4) % 32 → b = b' := by
  intro b hb b' hb' h
  rw [mix_eq_combo, mix_eq_combo] at h
  refine xor_eq_zero_imp (Shamir.combo_low_indep (w := 5) (gs := Gen.bech32Gen) (by decide) _
    (Nat.xor_lt_two_pow (n := 5) hb hb') ?_)
  rw [Shamir.combo_xor, Nat.xor_mod_two_pow (n := 5), h, Nat.xor_self]

/-- ANY single substituted symbol changes the checksum, whatever the length, prefix and suffix -/
theorem polymod_single_substitution (pre post : List Nat) (x y : Nat) (hx : x < 32) (hy : y < 32) (hxy : x ≠ y) :
    polymod (pre ++ x :: post) ≠ polymod (pre ++ y :: post) :=
  polymodFrom_single _ pre post x y (by omega) (by omega) hxy

/-- any two substituted symbols at distance ≤ 89 change the checksum -/
theorem polymod_double_substitution (pre mid post : List Nat) (x y x' y' : Nat)
    (hx : x < 32) (hy : y < 32) (hx' : x' < 32) (hy' : y' < 32) (hxy : x ≠ y) (hxy' : x' ≠ y') (hmid : mid.length < 89) :
    polymod (pre ++ x :: mid ++ x' :: post) ≠ polymod (pre ++ y :: mid ++ y' :: post) :=
  polymodFrom_double _ pre mid post x y x' y' hx hy hx' hy' hxy hmid

/-- `group_32`: ⌈8L/5⌉ five-bit groups, value = value of the bytes shifted by the padding -/
theorem group32_value (s : Bytes) (hs : s ≠ []) :
    ∃ pad, pad < 5 ∧ (group32 s).length * 5 = 8 * s.length + pad ∧
      valBE 32 (group32 s) = beToNat s * 2 ^ pad ∧ ∀ d ∈ group32 s, d < 32 :=
  group32_spec s hs

/-- Round trip: for every supported network, witness version 0..16 and program of 2..40 bytes,
    `encode_bech32_checksum` succeeds and `decode_bech32` returns the network (signet shares
    the testnet prefix), the version and the program. -/
theorem bech32_roundtrip (net : Str) (hnet : KnownNet net) (v : Nat) (hv : v ≤ 16) (prog : Bytes)
    (hlen : 2 ≤ prog.length ∧ prog.length ≤ 40) :
    ∃ s, encodeBech32Checksum (vbyte v :: UInt8.ofNat prog.length :: prog) net = some s ∧
      decodeBech32 s = some (netBack net, v, prog) :=
  ⟨_, encode_segwit hnet v hv prog (List.ne_nil_of_length_pos (by omega)) (by omega),
    decode_segwit hnet v (by omega) prog hlen⟩

/-- Constant selection on the encoding side: the address written for version `v` is
    `hrp ‖ "1" ‖ data` where the checksum of `hrp_expand(hrp) ‖ data` is the bech32 constant 1
    for version 0 and the bech32m constant for every other version. -/
theorem bech32_encode_constant (net : Str) (hnet : KnownNet net) (v : Nat) (hv : v ≤ 16) (prog : Bytes)
    (hne : prog ≠ []) (hlen : prog.length < 256) :
    ∃ hx data, hrpExpand (hrpOf net) = some hx ∧
      encodeBech32Checksum (vbyte v :: UInt8.ofNat prog.length :: prog) net = some (hrpOf net ++ '1' :: data.map b32char) ∧
      data.head? = some v ∧ polymod (hx ++ data) = constOf v :=
  ⟨_, addrData (hxOf net) v prog, hrpExpand_hrpOf net, encode_segwit hnet v hv prog hne hlen, rfl,
    polymod_addrData (hxOf net) v prog⟩

/-- Constant selection on the decoding side: whatever `decode_bech32` accepts with version `v`
    has, over `hrp_expand(hrp) ‖ data`, the checksum constant of `v` (1 for version 0,
    0x2bc830a3 otherwise), `v` being the first data symbol. -/
theorem bech32_decode_constant (s : Str) (r : Str × Nat × Bytes) (h : decodeBech32 s = some r) :
    ∃ hrp raw hx res, splitHrp s = some (hrp, raw) ∧ hrpExpand hrp = some hx ∧
      raw.mapM (fun c => indexOf? c Bech32.alphabet) = some res ∧ res.head? = some r.2.1 ∧
      polymod (hx ++ res) = constOf r.2.1 := by
  obtain ⟨hrp, raw, hs, hb⟩ := decodeBech32_some h
  obtain ⟨_, _, hx, dtail, hhx, hm, hpm, _⟩ := (decodeBody_eq_some_iff ..).mp hb
  exact ⟨hrp, raw, hx, _, hs, hhx, hm, rfl, hpm⟩

/-- One substituted character in the data part of a valid segwit address: refused, at every
    length.  If the substituted character is the first data character (the witness version) and
    the substitution switches between `q` (version 0) and another character, the checksum
    constant switches too; that case is covered for at most 89 characters after it. -/
theorem bech32_single_substitution (net : Str) (pre post : Str) (x y : Char) (hxy : x ≠ y) (r : Str × Nat × Bytes)
    (h : decodeBech32 (hrpOf net ++ '1' :: (pre ++ x :: post)) = some r)
    (hcase : pre ≠ [] ∨ (x = 'q' ↔ y = 'q') ∨ post.length ≤ 89) :
    decodeBech32 (hrpOf net ++ '1' :: (pre ++ y :: post)) = none := by
  rw [decodeBech32_hrpOf] at h ⊢
  exact decodeBody_single_subst (hrpOf net) pre post x y hxy r h hcase

/-- the same at the level of checksums when the target constant switches: two words differing
    in two symbols never have checksums that differ by `1 ⊕ 0x2bc830a3`, provided the first
    differing symbol is followed by at most 89 symbols (kernel table over the 2790 single-error
    syndromes, `Buidl.Bech32.syndrome_sieve`) -/
theorem polymod_double_substitution_switch (pre mid post : List Nat) (x y x' y' : Nat)
    (hx : x < 32) (hy : y < 32) (hx' : x' < 32) (hy' : y' < 32) (hxy : x ≠ y) (hxy' : x' ≠ y')
    (hlen : mid.length + post.length + 1 ≤ 89) :
    polymod (pre ++ x :: mid ++ x' :: post) ^^^ polymod (pre ++ y :: mid ++ y' :: post) ≠ (1 ^^^ 0x2bc830a3) :=
  polymodFrom_double_switch _ pre mid post x y x' y' hx hy hx' hy' hlen

/-- ANY two substituted characters in the data part of a valid segwit address are refused, when
    the first of them is followed by at most 89 characters — which covers every address of at
    most 90 characters.  This includes the case in which one of the two is the version
    character and the checksum constant switches between 1 and 0x2bc830a3. -/
theorem bech32_double_substitution (net : Str) (pre mid post : Str) (x y x' y' : Char) (hxy : x ≠ y) (hxy' : x' ≠ y')
    (r : Str × Nat × Bytes)
    (h : decodeBech32 (hrpOf net ++ '1' :: (pre ++ x :: mid ++ x' :: post)) = some r)
    (hlen : mid.length + post.length + 1 ≤ 89) :
    decodeBech32 (hrpOf net ++ '1' :: (pre ++ y :: mid ++ y' :: post)) = none := by
  rw [decodeBech32_hrpOf] at h ⊢
  exact decodeBody_double_subst_any (hrpOf net) pre mid post x y x' y' hxy r h hlen

/-- What `decode_bech32` accepts: every data character is in the (lower-case) bech32 alphabet,
    the version is below 32 (observation O09b: versions 17..31 are not refused) and the program
    has 2..40 bytes. -/
theorem bech32_decode_sound (s : Str) (r : Str × Nat × Bytes) (h : decodeBech32 s = some r) :
    ∃ hrp raw, splitHrp s = some (hrp, raw) ∧ (∀ c ∈ raw, c ∈ Bech32.alphabet) ∧
      r.2.1 < 32 ∧ 2 ≤ r.2.2.length ∧ r.2.2.length ≤ 40 := by
  obtain ⟨hrp, raw, hs, hb⟩ := decodeBech32_some h
  exact ⟨hrp, raw, hs, decodeBody_chars hb, decodeBody_bounds hb⟩

/-- The decoder looks characters up in the lower-case alphabet without case folding: a data part
    containing an upper-case letter (or any other foreign character) is refused.  (BIP173 also
    allows the all-upper-case form; this code does not implement it — observation O09c.) -/
theorem bech32_uppercase_rejected (hrp raw : Str) (c : Char) (hc : c ∈ raw) (h1 : 'A' ≤ c) (h2 : c ≤ 'Z') :
    decodeBody hrp raw = none :=
  decodeBody_of_not_mem hc (upper_not_in_alphabet c h1 h2)

/-- the BIP173 test address is accepted, so the hypothesis of the substitution theorems
    (a valid address of the shape `hrp ‖ "1" ‖ data`) is satisfiable -/
example : hrpOf mainnet ++ '1' :: ("qw508d6qejxtdg4y5r3zarvary0c5xw7kv8f3t".toList ++ '4' :: []) =
      "bc1qw508d6qejxtdg4y5r3zarvary0c5xw7kv8f3t4".toList ∧
    (decodeBech32 "bc1qw508d6qejxtdg4y5r3zarvary0c5xw7kv8f3t4".toList).map (fun r => (r.1, r.2.1, r.2.2.length)) =
      some (mainnet, 0, 20) ∧
    decodeBech32 "bc1qw508d6qejxtdg4y5r3zarvary0c5xw7kv8f3t5".toList = none := by
  rw [String.toList_ofList, String.toList_ofList, String.toList_ofList]
  decide +kernel

/-- a hash function as the theorems about Base58Check assume it (32 bytes out) exists -/
example : ∃ h : Bytes → Bytes, ∀ b, (h b).length = 32 := ⟨fun _ => List.replicate 32 0, fun _ => by simp⟩

example : KnownNet mainnet ∧ KnownNet regtest ∧ hrpOf signet = ['t', 'b'] ∧ netBack signet = testnet :=
  ⟨Or.inl rfl, Or.inr (Or.inr (Or.inr rfl)), by decide +kernel, by decide +kernel⟩

/-! ## WIF -/

/-- WIF round trip: for every secret in 1..N-1, compressed or not, on any network name, the
    text parses back to the secret, the compression flag and the network class
    ("mainnet" for mainnet, "testnet" for everything else — the format has two version bytes) -/
theorem wif_roundtrip (hash256 : Bytes → Bytes) (hh : ∀ b, (hash256 b).length = 32) (secret : Nat)
    (hlo : 1 ≤ secret) (hhi : secret ≤ Gen.privMaxSecret) (net : Str) (compressed : Bool) :
    ∃ s, wif hash256 secret net compressed = some s ∧
      wifParse hash256 s = some (secret, if net = mainnet then mainnet else testnet, compressed) := by
  obtain ⟨s, hs⟩ := wif_isSome hash256 secret hlo hhi net compressed
  refine ⟨s, hs, ?_⟩
  have := wif_parse_roundtrip hash256 hh secret hlo hhi net compressed s hs
  rw [this]
  have e1 : Gen.wifMainnetName.toList = mainnet := by decide +kernel
  have e2 : Gen.wifParseMainName.toList = mainnet := by decide +kernel
  have e3 : Gen.wifParseTestName.toList = testnet := by decide +kernel
  rw [e1, e2, e3]

example : (1 : Nat) ≤ Gen.privMaxSecret := by decide

/-! ## scriptPubKey ↔ address, per template and network -/

/-- P2PKH: `address_to_script_pubkey (address spk net) = spk` for every 20-byte hash and network.
    The first-character dispatch is justified: version 0x00 always gives '1', version 0x6f
    always 'm' or 'n' (`base58_first_char`). -/
theorem address_roundtrip_p2pkh (hash256 : Bytes → Bytes) (hh : ∀ b, (hash256 b).length = 32) (net : Str) (h : Bytes)
    (hl : h.length = 20) :
    ∃ s, address hash256 (.p2pkh h) net = some s ∧ addressToScriptPubkey hash256 s = some (.p2pkh h) ∧
      toAddress segPrefixesRepaired hash256 s = some (.p2pkh h) ∧ toAddress segPrefixesAsIs hash256 s = some (.p2pkh h) := by
  obtain ⟨s, hs⟩ := encodeBase58Checksum_isSome hash256 (if net = mainnet then 0x00 else 0x6f) h
  obtain ⟨a, b⟩ := base58_addr hash256 hh _ _ (.inl ⟨ite_eq_or_eq _ _ _, rfl⟩) h hl s hs
  exact ⟨s, (address_p2pkh hash256 h net).trans hs, a, b _ (Or.inr rfl), b _ (Or.inl rfl)⟩

/-- P2SH: version 0x05 always gives '3', version 0xc4 always '2' -/
theorem address_roundtrip_p2sh (hash256 : Bytes → Bytes) (hh : ∀ b, (hash256 b).length = 32) (net : Str) (h : Bytes)
    (hl : h.length = 20) :
    ∃ s, address hash256 (.p2sh h) net = some s ∧ addressToScriptPubkey hash256 s = some (.p2sh h) ∧
      toAddress segPrefixesRepaired hash256 s = some (.p2sh h) ∧ toAddress segPrefixesAsIs hash256 s = some (.p2sh h) := by
  obtain ⟨s, hs⟩ := encodeBase58Checksum_isSome hash256 (if net = mainnet then 0x05 else 0xc4) h
  obtain ⟨a, b⟩ := base58_addr hash256 hh _ _ (.inr ⟨ite_eq_or_eq _ _ _, rfl⟩) h hl s hs
  exact ⟨s, (address_p2sh hash256 h net).trans hs, a, b _ (Or.inr rfl), b _ (Or.inl rfl)⟩

/-- the first character of the Base58Check text of `version ‖ 20 bytes` for the four address
    version bytes: 0x00 → '1', 0x6f → 'm' or 'n', 0x05 → '3', 0xc4 → '2' (from the two endpoints
    of each version byte's range of 25-byte numbers) -/
theorem base58_first_char_dispatch (hash256 : Bytes → Bytes) (hh : ∀ b, (hash256 b).length = 32) (v : UInt8) (h : Bytes)
    (hl : h.length = 20) (s : Str) (he : encodeBase58Checksum hash256 (v :: h) = some s) :
    (v = 0x00 → s.take 1 = ['1']) ∧ (v = 0x6f → s.take 1 = ['m'] ∨ s.take 1 = ['n']) ∧
    (v = 0x05 → s.take 1 = ['3']) ∧ (v = 0xc4 → s.take 1 = ['2']) :=
  base58_first_char hash256 hh v h hl s he

/-- the segwit address of a template with witness version `v` (0 or 1) and a program of `L`
    bytes, through both consumers -/
theorem segwit_template (hash256 : Bytes → Bytes) (net : Str) (hnet : KnownNet net) (spk : Spk) (v : Nat) (prog : Bytes)
    (hprog : spk.rawSerialize = some (vbyte v :: UInt8.ofNat prog.length :: prog))
    (hcase : (v = 0 ∧ prog.length = 20 ∧ spk = .p2wpkh prog) ∨ (v = 0 ∧ prog.length = 32 ∧ spk = .p2wsh prog) ∨
      (v = 1 ∧ prog.length = 32 ∧ spk = .p2tr prog)) :
    ∃ s, address hash256 spk net = some s ∧ addressToScriptPubkey hash256 s = some spk ∧
      toAddress segPrefixesRepaired hash256 s = some spk ∧
      (net ≠ regtest → toAddress segPrefixesAsIs hash256 s = some spk) ∧
      (net = regtest → toAddress segPrefixesAsIs hash256 s = none) := by
  have hv16 : v ≤ 16 := by rcases hcase with h | h | h <;> omega
  have hlen : 2 ≤ prog.length ∧ prog.length ≤ 40 := by rcases hcase with h | h | h <;> omega
  have hne : prog ≠ [] := List.ne_nil_of_length_pos (by omega)
  have henc := encode_segwit hnet v hv16 prog hne (by omega)
  have hdec := decode_segwit hnet v (by omega) prog hlen
  obtain ⟨pad, hpad, hslen, hsge⟩ := segwitAddr_length net v prog hne
  obtain ⟨rest, hrest⟩ := segwitAddr_eq net v prog
  have hto : ∀ segs, segs.any (fun p => p.toList.isPrefixOf (segwitAddr net v prog)) = true →
      toAddress segs hash256 (segwitAddr net v prog) = some spk := fun segs hseg => by
    rw [toAddress_segwit segs hash256 _ hseg, hdec]
    exact (templateOf_eq_some_iff v prog spk).mpr hcase
  -- the last two: `TxOut.to_address` as it is, on networks other than regtest, and F09a
  refine ⟨segwitAddr net v prog, ?_, ?_, hto _ (segPrefixesRepaired_any net _),
    fun hnr => hto _ (segPrefixesAsIs_any hnet hnr _), fun hr => hr ▸ toAddress_asis_regtest hash256 _⟩
  · rcases hcase with ⟨_, _, rfl⟩ | ⟨_, _, rfl⟩ | ⟨_, _, rfl⟩ <;> simp only [address, hprog, henc]
  · -- address_to_script_pubkey: the version character and the length select the template
    obtain ⟨hpkh, hpkh', hsh, htr⟩ := a2s_lens net
    rw [a2s_segwit hash256 hrest, hdec]
    rcases hcase with ⟨rfl, hL, rfl⟩ | ⟨rfl, hL, rfl⟩ | ⟨rfl, hL, rfl⟩
    · rw [b32char_zero, if_pos rfl, show (segwitAddr net 0 prog).length = (hrpOf net).length + 40 by omega,
        if_pos hpkh]
      rfl
    · rw [b32char_zero, if_pos rfl, show (segwitAddr net 0 prog).length = (hrpOf net).length + 60 by omega,
        if_neg (by rw [hpkh']; decide), if_pos hsh]
      rfl
    · rw [b32char_one, if_neg (by decide), if_pos rfl,
        show (segwitAddr net 1 prog).length = (hrpOf net).length + 60 by omega, if_neg (by rw [htr]; decide)]
      rfl

/-- P2WPKH ↔ bech32 address, every network; `TxOut.to_address` with the repaired prefix list -/
theorem address_roundtrip_p2wpkh (hash256 : Bytes → Bytes) (net : Str) (hnet : KnownNet net) (h : Bytes) (hl : h.length = 20) :
    ∃ s, address hash256 (.p2wpkh h) net = some s ∧ addressToScriptPubkey hash256 s = some (.p2wpkh h) ∧
      toAddress segPrefixesRepaired hash256 s = some (.p2wpkh h) := by
  obtain ⟨s, h1, h2, h3, _⟩ := segwit_template hash256 net hnet (.p2wpkh h) 0 h (p2wpkh_program h (by omega))
    (Or.inl ⟨rfl, hl, rfl⟩)
  exact ⟨s, h1, h2, h3⟩

/-- P2WSH ↔ bech32 address -/
theorem address_roundtrip_p2wsh (hash256 : Bytes → Bytes) (net : Str) (hnet : KnownNet net) (h : Bytes) (hl : h.length = 32) :
    ∃ s, address hash256 (.p2wsh h) net = some s ∧ addressToScriptPubkey hash256 s = some (.p2wsh h) ∧
      toAddress segPrefixesRepaired hash256 s = some (.p2wsh h) := by
  obtain ⟨s, h1, h2, h3, _⟩ := segwit_template hash256 net hnet (.p2wsh h) 0 h (p2wsh_program h (by omega))
    (Or.inr (Or.inl ⟨rfl, hl, rfl⟩))
  exact ⟨s, h1, h2, h3⟩

/-- P2TR ↔ bech32m address -/
theorem address_roundtrip_p2tr (hash256 : Bytes → Bytes) (net : Str) (hnet : KnownNet net) (h : Bytes) (hl : h.length = 32) :
    ∃ s, address hash256 (.p2tr h) net = some s ∧ addressToScriptPubkey hash256 s = some (.p2tr h) ∧
      toAddress segPrefixesRepaired hash256 s = some (.p2tr h) := by
  obtain ⟨s, h1, h2, h3, _⟩ := segwit_template hash256 net hnet (.p2tr h) 1 h (p2tr_program h (by omega))
    (Or.inr (Or.inr ⟨rfl, hl, rfl⟩))
  exact ⟨s, h1, h2, h3⟩

/-- `TxOut.to_address` on a segwit address is sound: whatever it accepts decodes (checksum kind
    included) to one of the three (version, length) pairs the library has a script type for, and
    the script is that of THAT version: v0/20 → P2WPKH, v0/32 → P2WSH, v1/32 → P2TR -/
theorem toAddress_segwit_sound (hash256 : Bytes → Bytes) (net : Str) (rest : Str) (spk : Spk)
    (h : toAddress segPrefixesRepaired hash256 (hrpOf net ++ '1' :: rest) = some spk) :
    ∃ n v prog, decodeBech32 (hrpOf net ++ '1' :: rest) = some (n, v, prog) ∧
      ((v = 0 ∧ prog.length = 20 ∧ spk = .p2wpkh prog) ∨ (v = 0 ∧ prog.length = 32 ∧ spk = .p2wsh prog) ∨
       (v = 1 ∧ prog.length = 32 ∧ spk = .p2tr prog)) :=
  Address.toAddress_segwit_sound hash256 net rest spk h

/-- witness versions 2..16 (any version other than 0 and 1) and every other program length are
    refused by `TxOut.to_address`: several addresses never collapse onto one script -/
theorem toAddress_segwit_refuses (hash256 : Bytes → Bytes) (net : Str) (rest : Str) (n : Str) (v : Nat) (prog : Bytes)
    (hd : decodeBech32 (hrpOf net ++ '1' :: rest) = some (n, v, prog))
    (hbad : ¬ ((v = 0 ∧ (prog.length = 20 ∨ prog.length = 32)) ∨ (v = 1 ∧ prog.length = 32))) :
    toAddress segPrefixesRepaired hash256 (hrpOf net ++ '1' :: rest) = none :=
  Address.toAddress_segwit_refuses hash256 net rest n v prog hd hbad

/-- `address_to_script_pubkey` only looks at data parts that start with `q` (version 0) or `p`
    (version 1): an address whose version character is any other character is refused -/
theorem addressToScriptPubkey_other_version (hash256 : Bytes → Bytes) (net : Str) (c : Char) (rest : Str)
    (hq : c ≠ 'q') (hp : c ≠ 'p') :
    addressToScriptPubkey hash256 (hrpOf net ++ '1' :: c :: rest) = none := by
  rw [a2s_segwit hash256 rfl, if_neg hq, if_neg hp]

/-- F09a, what holds for the source as it is today: `TxOut.to_address` inverts `.address` for
    the three segwit templates on every network except regtest.
    Full statement (holds for the repaired prefix list, see the three theorems above):
    the same for every `KnownNet net`. -/
theorem toAddress_roundtrip_partial (hash256 : Bytes → Bytes) (net : Str) (hnet : KnownNet net) (hnr : net ≠ regtest)
    (h : Bytes) :
    (h.length = 20 → ∃ s, address hash256 (.p2wpkh h) net = some s ∧ toAddress segPrefixesAsIs hash256 s = some (.p2wpkh h)) ∧
    (h.length = 32 → ∃ s, address hash256 (.p2wsh h) net = some s ∧ toAddress segPrefixesAsIs hash256 s = some (.p2wsh h)) ∧
    (h.length = 32 → ∃ s, address hash256 (.p2tr h) net = some s ∧ toAddress segPrefixesAsIs hash256 s = some (.p2tr h)) := by
  refine ⟨fun hl => ?_, fun hl => ?_, fun hl => ?_⟩
  · obtain ⟨s, h1, _, _, h4, _⟩ := segwit_template hash256 net hnet (.p2wpkh h) 0 h (p2wpkh_program h (by omega))
      (Or.inl ⟨rfl, hl, rfl⟩)
    exact ⟨s, h1, h4 hnr⟩
  · obtain ⟨s, h1, _, _, h4, _⟩ := segwit_template hash256 net hnet (.p2wsh h) 0 h (p2wsh_program h (by omega))
      (Or.inr (Or.inl ⟨rfl, hl, rfl⟩))
    exact ⟨s, h1, h4 hnr⟩
  · obtain ⟨s, h1, _, _, h4, _⟩ := segwit_template hash256 net hnet (.p2tr h) 1 h (p2tr_program h (by omega))
      (Or.inr (Or.inr ⟨rfl, hl, rfl⟩))
    exact ⟨s, h1, h4 hnr⟩

/-- F09a: with the prefix list of today's source, the regtest address of every P2WPKH script is
    accepted by `address_to_script_pubkey` and refused by `TxOut.to_address` -/
theorem F09a_witness (hash256 : Bytes → Bytes) (h : Bytes) (hl : h.length = 20) :
    ∃ s, address hash256 (.p2wpkh h) regtest = some s ∧ addressToScriptPubkey hash256 s = some (.p2wpkh h) ∧
      toAddress segPrefixesAsIs hash256 s = none := by
  obtain ⟨s, h1, h2, _, _, h5⟩ := segwit_template hash256 regtest (by unfold KnownNet; simp) (.p2wpkh h) 0 h
    (p2wpkh_program h (by omega)) (Or.inl ⟨rfl, hl, rfl⟩)
  exact ⟨s, h1, h2, h5 rfl⟩

/-- the two prefix lists: today's source and the repaired one -/
theorem F09a_lists : segPrefixesAsIs = ["bc1", "tb1"] ∧ segPrefixesRepaired = ["bc1", "tb1", "bcrt1"] := ⟨rfl, rfl⟩

/-! ## unique decodability (corollaries of the round trips) -/

/-- Base58 is injective: one text, one byte string -/
theorem base58_encode_injective (b₁ b₂ : Bytes) (s : Str) (h₁ : encodeBase58 b₁ = some s) (h₂ : encodeBase58 b₂ = some s) :
    b₁ = b₂ :=
  inj_of_roundtrip base58_decode_encode h₁ h₂

/-- Base58Check is injective in the payload -/
theorem base58check_injective (hash256 : Bytes → Bytes) (hh : ∀ b, 4 ≤ (hash256 b).length) (p₁ p₂ : Bytes) (s : Str)
    (h₁ : encodeBase58Checksum hash256 p₁ = some s) (h₂ : encodeBase58Checksum hash256 p₂ = some s) : p₁ = p₂ :=
  inj_of_roundtrip (base58check_roundtrip hash256 hh) h₁ h₂

/-- two different Base58Check texts never decode to the same payload (decoding is injective on
    accepted strings) -/
theorem base58check_decode_injective (hash256 : Bytes → Bytes) (hh : ∀ b, 4 ≤ (hash256 b).length) (s₁ s₂ : Str) (p : Bytes)
    (h₁ : rawDecodeBase58 hash256 s₁ = some p) (h₂ : rawDecodeBase58 hash256 s₂ = some p) : s₁ = s₂ :=
  inj_of_roundtrip (fun s p => (base58check_accept_iff hash256 hh s p).1) h₁ h₂

/-- segwit addresses: the text determines version and program (on one network) -/
theorem bech32_encode_injective (net : Str) (hnet : KnownNet net) (v₁ v₂ : Nat) (hv₁ : v₁ ≤ 16) (hv₂ : v₂ ≤ 16)
    (p₁ p₂ : Bytes) (hl₁ : 2 ≤ p₁.length ∧ p₁.length ≤ 40) (hl₂ : 2 ≤ p₂.length ∧ p₂.length ≤ 40) (s : Str)
    (e₁ : encodeBech32Checksum (vbyte v₁ :: UInt8.ofNat p₁.length :: p₁) net = some s)
    (e₂ : encodeBech32Checksum (vbyte v₂ :: UInt8.ofNat p₂.length :: p₂) net = some s) : v₁ = v₂ ∧ p₁ = p₂ := by
  obtain ⟨t₁, a₁, d₁⟩ := bech32_roundtrip net hnet v₁ hv₁ p₁ hl₁
  obtain ⟨t₂, a₂, d₂⟩ := bech32_roundtrip net hnet v₂ hv₂ p₂ hl₂
  rw [e₁] at a₁; rw [e₂] at a₂; cases a₁; cases a₂
  rw [d₂] at d₁
  have := Option.some.inj d₁
  simp only [Prod.mk.injEq] at this
  exact ⟨this.2.1.symm, this.2.2.symm⟩
end Buidl.Props.C09
