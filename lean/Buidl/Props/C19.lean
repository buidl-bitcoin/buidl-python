/-
  C19 — P2P framing and primitive wire codecs are exact inverses and reject corruption.
  The models are Buidl.Model.Bytes / Buidl.Model.Wire (constants from Buidl.Gen.*,
  re-extracted from /repo on every run).  `hash256` is an arbitrary function.
-/
import Buidl.Proofs.Wire
namespace Buidl.Props.C19
open Buidl Buidl.Wire

/-! ## compact-size integers and variable-length strings -/

/-- every integer below 2^64 is encodable, nothing else is -/
theorem varint_domain (n : Nat) : (encodeVarint n).isSome ↔ n < 2 ^ 64 :=
  encodeVarint_isSome_iff n

/-- decoding inverts encoding, on a stream with any continuation -/
theorem varint_roundtrip (n : Nat) (e rest : Bytes) (h : encodeVarint n = some e) :
    readVarint (e ++ rest) = some (n, rest) :=
  readVarint_encodeVarint n rest e h

/-- protocol layout: 1 / 3 / 5 / 9 bytes, switching exactly at 0xfd, 0x10000, 0x100000000 -/
theorem varint_layout (n : Nat) (e : Bytes) (h : encodeVarint n = some e) :
    e.length = if n < 0xFD then 1 else if n < 0x10000 then 3 else if n < 0x100000000 then 5 else 9 :=
  encodeVarint_length n e h

/-- first byte is the protocol's marker and the tail is the little-endian value -/
theorem varint_bytes (n : Nat) (h : n < 2 ^ 64) :
    encodeVarint n = some (
      if n < 0xFD then [UInt8.ofNat n]
      else if n < 0x10000 then 0xFD :: natToLE' 2 n
      else if n < 0x100000000 then 0xFE :: natToLE' 4 n
      else 0xFF :: natToLE' 8 n) := by
  rw [encodeVarint_eq, if_pos h]
  simp only [apply_ite some]

/-- (a byte string of 2^63 bytes or more cannot exist in memory; `BytesIO.read` refuses such a length) -/
theorem varstr_roundtrip (b e rest : Bytes) (hb : b.length < 2 ^ 63) (h : encodeVarstr b = some e) :
    readVarstr (e ++ rest) = some (b, rest) :=
  readVarstr_encodeVarstr b rest e hb h

example : encodeVarint 0xFC = some [0xFC] ∧ encodeVarint 0xFD = some [0xFD, 0xFD, 0]
    ∧ encodeVarint 0x10000 = some [0xFE, 0, 0, 1, 0] := by decide

/-! ## fixed-width integers -/

theorem le_roundtrip (n w : Nat) (b : Bytes) (h : natToLE n w = some b) :
    b.length = w ∧ leToNat b = n :=
  ⟨natToLE_length h, leToNat_of_natToLE h⟩

theorem le_domain (n w : Nat) : (natToLE n w).isSome ↔ n < 256 ^ w := by
  unfold natToLE; split <;> simp [*]

theorem le_decode_encode (b : Bytes) : natToLE (leToNat b) b.length = some b :=
  natToLE_leToNat b

theorem be_roundtrip (n w : Nat) (b : Bytes) (h : natToBE n w = some b) :
    b.length = w ∧ beToNat b = n := by
  obtain ⟨hlt, rfl⟩ := natToBE_eq_some_iff.mp h
  exact ⟨natToBE'_length w n, beToNat_natToBE' hlt⟩

theorem be_decode_encode (b : Bytes) : natToBE (beToNat b) b.length = some b :=
  natToBE_beToNat b

/-! ## network envelope -/

/-- the wire layout: magic ‖ command padded with NULs to 12 bytes ‖ 4-byte LE length ‖ first four bytes of
    hash256(payload) ‖ payload -/
theorem envelope_serialize (hash256 : Bytes → Bytes) (e : Envelope) (hp : e.payload.length < 2 ^ 32) :
    e.serialize hash256 = some (e.magic ++ e.command ++ List.replicate (12 - e.command.length) 0
      ++ natToLE' 4 e.payload.length ++ (hash256 e.payload).take 4 ++ e.payload) := by
  simp only [Envelope.serialize, Gen.envSerLenWidth, natToLE_some_bits 4 hp]
  rfl

/-- Round trip: an envelope with a well-formed command and a payload shorter than 2^32 bytes
    serialises, and parsing the bytes (followed by anything) returns the same envelope and
    leaves exactly the continuation unread.  `hash256` is arbitrary but must return at least
    4 bytes (the real one returns 32). -/
theorem envelope_roundtrip (hash256 : Bytes → Bytes) (hh : ∀ b, 4 ≤ (hash256 b).length)
    (net : String) (e : Envelope) (rest : Bytes)
    (hm : magicOf net = some e.magic) (hc : CmdWF e.command) (hp : e.payload.length < 2 ^ 32) :
    ∃ s, e.serialize hash256 = some s ∧ Envelope.parse hash256 net (s ++ rest) = some (e, rest) := by
  obtain ⟨s, hs, p⟩ := Envelope.roundTrip hash256 hh net e hm hc hp
  exact ⟨s, hs, p rest⟩

/-- Soundness of parsing ("accepted exactly when"): whatever bytes are parsed successfully are,
    byte for byte, magic ‖ 12-byte command field ‖ 4-byte LE length ‖ first four bytes of
    hash256(payload) ‖ payload ‖ unread rest.  Hence a wrong magic, a wrong checksum or a payload
    shorter than declared is never accepted. -/
theorem envelope_parse_sound (hash256 : Bytes → Bytes) (hh : ∀ b, 4 ≤ (hash256 b).length)
    (net : String) (s : Bytes) (e : Envelope) (rest : Bytes)
    (h : Envelope.parse hash256 net s = some (e, rest)) :
    magicOf net = some e.magic ∧
    ∃ cmdField len : Bytes, cmdField.length = 12 ∧ stripZeros cmdField = e.command ∧
      len.length = 4 ∧ leToNat len = e.payload.length ∧
      s = e.magic ++ cmdField ++ len ++ (hash256 e.payload).take 4 ++ e.payload ++ rest := by
  simp only [Envelope.parse, Gen.envParMagicWidth, Gen.envParCommandWidth, Gen.envParLenWidth, Gen.envParChecksumWidth,
    Gen.envParHashWidth, Option.pure_def, Option.bind_eq_bind, Option.ite_none_left_eq_some, Option.bind_eq_some_iff,
    ne_eq, Decidable.not_not, Option.some.injEq, Prod.mk.injEq] at h
  obtain ⟨_, magic, hm, hmag, hlen, hck, rfl, rfl⟩ := h
  have hcl := congrArg List.length hck
  rw [List.length_take, Nat.min_eq_left (hh _), List.length_take, List.length_drop, List.length_drop, List.length_drop] at hcl
  refine ⟨hm, (s.drop 4).take 12, ((s.drop 4).drop 12).take 4, ?_, rfl, ?_, hlen.symm, ?_⟩
  · rw [List.length_take, List.length_drop]; omega
  · rw [List.length_take, List.length_drop, List.length_drop]; omega
  · show s = magic ++ _ ++ _ ++ _ ++ _ ++ _
    rw [hck, ← hmag]
    simp only [List.append_assoc, List.take_append_drop]

/-- a stream that does not start with the network's magic is rejected -/
theorem envelope_wrong_magic (hash256 : Bytes → Bytes) (net : String) (s : Bytes) (m : Bytes)
    (hm : magicOf net = some m) (hne : s.take 4 ≠ m) : Envelope.parse hash256 net s = none := by
  simp only [Envelope.parse, Gen.envParMagicWidth, Option.bind_eq_bind, hm, Option.bind_some, ne_eq, hne,
    not_false_eq_true, if_true, ite_self]

example : CmdWF [0x76, 0x65, 0x72, 0x61, 0x63, 0x6b] ∧ magicOf "mainnet" = some [0xf9, 0xbe, 0xb4, 0xd9] := by
  decide

/-! ## block header -/

/-- a header whose fields have their protocol widths -/
def HeaderWF (h : Header) : Prop :=
  h.version < 2 ^ 32 ∧ h.timestamp < 2 ^ 32 ∧ h.prevBlock.length = 32 ∧ h.merkleRoot.length = 32 ∧
  h.bits.length = 4 ∧ h.nonce.length = 4

theorem header_serialize (h : Header) (hv : h.version < 2 ^ 32) (ht : h.timestamp < 2 ^ 32) :
    h.serialize = some (natToLE' 4 h.version ++ h.prevBlock.reverse ++ h.merkleRoot.reverse
      ++ natToLE' 4 h.timestamp ++ h.bits ++ h.nonce) := by
  simp only [Header.serialize, natToLE_some_bits 4 hv, natToLE_some_bits 4 ht]; rfl

theorem header_roundtrip (h : Header) (rest : Bytes) (wf : HeaderWF h) :
    ∃ s, h.serialize = some s ∧ s.length = 80 ∧ Header.parse (s ++ rest) = (h, rest) := by
  obtain ⟨hv, ht, hp, hr, hb, hn⟩ := wf
  have l2 : h.prevBlock.reverse.length = 32 := by rw [List.length_reverse, hp]
  have l3 : h.merkleRoot.reverse.length = 32 := by rw [List.length_reverse, hr]
  refine ⟨_, header_serialize h hv ht, ?_, ?_⟩
  · simp [hp, hr, hb, hn]
  · simp only [Header.parse, List.append_assoc, take_drop_append (natToLE'_length 4 _), take_drop_append l2,
      take_drop_append l3, take_drop_append hb, take_drop_append hn, leToNat_natToLE'_bits 4 hv,
      leToNat_natToLE'_bits 4 ht, List.reverse_reverse]

/-- parsing any 80 bytes and re-serialising reproduces them -/
theorem header_parse_serialize (s : Bytes) (hs : 80 ≤ s.length) :
    (Header.parse s).1.serialize = some (s.take 80) :=
  Header.parse_serialize s hs

example : HeaderWF ⟨1, List.replicate 32 0, List.replicate 32 7, 1231006505, [0xff, 0xff, 0, 0x1d], [1, 2, 3, 4]⟩ := by
  unfold HeaderWF; simp

/-! ## fixed-layout messages

Three kinds of class (DESIGN §7 C19): both directions in the library (ping/pong): `parse ∘ serialize`;
parse-only classes: `parse (Spec.encode m) = m`; serialise-only classes: `Spec.decode (serialize m) = m`.
`Buidl.Spec.Wire` is written from the protocol documentation, independently of the model. -/
open Buidl.Spec.Wire

/-- ping / pong: the nonce round-trips (serialize is the identity on the nonce) -/
theorem pingpong_roundtrip (nonce rest : Bytes) (h : nonce.length = 8) :
    pingParse (nonce ++ rest) = (nonce, rest) := by
  simp only [pingParse, take_drop_append h]

/-- `headers`: parsing the protocol encoding of any list of 80-byte headers returns exactly them -/
theorem headers_parse_encode (raw : List Bytes) (rest e : Bytes) (h : ∀ x ∈ raw, x.length = 80)
    (he : encodeHeaders raw = some e) :
    headersParse (e ++ rest) = some (raw.map (fun b => (Header.parse b).1), rest) := by
  obtain ⟨v, hv, he⟩ := Option.bind_eq_some_iff.mp he
  obtain rfl := Option.some.inj he
  simp only [headersParse, List.append_assoc, readVarint_encodeVarint _ _ _ hv, Option.bind_eq_bind, Option.bind_some]
  exact headersParseLoop_encode raw rest h

/-- `headers`: an entry followed by a non-zero transaction count is refused -/
theorem headers_rejects_txcount (b rest : Bytes) (c : UInt8) (k : Nat) (hb : b.length = 80)
    (hc : c ≠ 0) (hc' : c.toNat < 0xFD) :
    headersParseLoop (k + 1) (b ++ c :: rest) = none := by
  have hv : readVarint (c :: rest) = some (c.toNat, rest) := by
    have : c.toNat ≠ 253 ∧ c.toNat ≠ 254 ∧ c.toNat ≠ 255 := by omega
    simp [readVarint, Gen.varintDecM0, Gen.varintDecM1, Gen.varintDecM2, this.1, this.2.1, this.2.2]
  have hne : c.toNat ≠ 0 := by
    intro h; apply hc; exact UInt8.toNat_inj.mp (by simpa using h)
  simp [headersParseLoop, Header.parse_append _ _ hb, hv, hne]

/-- `cfcheckpt` -/
theorem cfcheckpt_parse_encode (ft : UInt8) (stop : Bytes) (hs : List Bytes) (rest e : Bytes)
    (hstop : stop.length = 32) (hh : ∀ x ∈ hs, x.length = 32)
    (he : encodeCfcheckpt ft stop hs = some e) :
    cfcheckptParse (e ++ rest) = some ((ft.toNat, stop, hs), rest) := by
  obtain ⟨v, hv, he⟩ := Option.bind_eq_some_iff.mp he
  obtain rfl := Option.some.inj he
  have l : stop.reverse.length = 32 := by rw [List.length_reverse, hstop]
  simp only [cfcheckptParse, List.cons_append, List.append_assoc, take_drop_append l, readVarint_encodeVarint _ _ _ hv,
    readN32_flatten hs rest hh, Option.pure_def, Option.bind_eq_bind, Option.bind_some, List.reverse_reverse]

/-- `cfheaders` -/
theorem cfheaders_parse_encode (ft : UInt8) (stop prev : Bytes) (hs : List Bytes) (rest e : Bytes)
    (hstop : stop.length = 32) (hprev : prev.length = 32) (hh : ∀ x ∈ hs, x.length = 32)
    (he : encodeCfheaders ft stop prev hs = some e) :
    cfheadersParse (e ++ rest) = some ((ft.toNat, stop, prev, hs), rest) := by
  obtain ⟨v, hv, he⟩ := Option.bind_eq_some_iff.mp he
  obtain rfl := Option.some.inj he
  have l : stop.reverse.length = 32 := by rw [List.length_reverse, hstop]
  simp only [cfheadersParse, List.cons_append, List.append_assoc, take_drop_append l, take_drop_append hprev,
    readVarint_encodeVarint _ _ _ hv, readN32_flatten hs rest hh, Option.pure_def, Option.bind_eq_bind,
    Option.bind_some, List.reverse_reverse]

/-- `cfilter` (field level) -/
theorem cfilter_parse_encode (ft : UInt8) (bh filter : Bytes) (rest e : Bytes)
    (hbh : bh.length = 32) (hf : filter.length < 2 ^ 63) (he : encodeCfilter ft bh filter = some e) :
    cfilterParse (e ++ rest) = some ((ft.toNat, bh, filter), rest) := by
  obtain ⟨v, hv, he⟩ := Option.bind_eq_some_iff.mp he
  obtain rfl := Option.some.inj he
  have l : bh.reverse.length = 32 := by rw [List.length_reverse, hbh]
  simp only [cfilterParse, List.cons_append, List.append_assoc, take_drop_append l,
    readVarstr_encodeVarstr _ _ _ hf hv, Option.pure_def, Option.bind_eq_bind, Option.bind_some, List.reverse_reverse]

/-- `getcfilters` / `getcfheaders`: the documented decoder recovers every field -/
theorem getcfilters_decode_serialize (ft sh : Nat) (stop e : Bytes) (hstop : stop.length = 32)
    (he : getCFiltersSerialize ft sh stop = some e) :
    decodeGetCFilters e = some (ft, sh, stop) := by
  obtain ⟨a, h1, he⟩ := Option.bind_eq_some_iff.mp he
  obtain ⟨b, h2, he⟩ := Option.bind_eq_some_iff.mp he
  obtain rfl := Option.some.inj he
  obtain ⟨x, rfl, rfl⟩ := natToBE_one h1
  obtain ⟨lb, vb⟩ := le_roundtrip _ _ _ h2
  simp [decodeGetCFilters, lb, hstop, take_drop_append lb, vb]

/-- `getcfcheckpt` -/
theorem getcfcheckpt_decode_serialize (ft : Nat) (stop e : Bytes) (hstop : stop.length = 32)
    (he : getCFCheckptSerialize ft stop = some e) :
    decodeGetCFCheckpt e = some (ft, stop) := by
  obtain ⟨a, h1, he⟩ := Option.bind_eq_some_iff.mp he
  obtain rfl := Option.some.inj he
  obtain ⟨x, rfl, rfl⟩ := natToBE_one h1
  simp [decodeGetCFCheckpt, hstop]

/-- `getheaders` with one locator hash -/
theorem getheaders_decode_serialize (v n : Nat) (start stop e : Bytes)
    (hs : start.length = 32) (he' : stop.length = 32)
    (he : getHeadersSerialize v n start stop = some e) :
    decodeGetHeaders1 e = some (v, n, start, stop) := by
  obtain ⟨a, h1, he⟩ := Option.bind_eq_some_iff.mp he
  obtain ⟨b, h2, he⟩ := Option.bind_eq_some_iff.mp he
  obtain rfl := Option.some.inj he
  obtain ⟨la, va⟩ := le_roundtrip _ _ _ h1
  have ls : start.reverse.length = 32 := by rw [List.length_reverse, hs]
  simp only [decodeGetHeaders1, List.append_assoc, take_drop_append la, va,
    readVarint_encodeVarint _ _ _ h2, Option.pure_def, Option.bind_eq_bind, Option.bind_some]
  simp [hs, he', take_drop_append ls]

/-- `getdata`: the documented decoder recovers every (type, identifier) pair -/
theorem getdata_decode_serialize (items : List (Nat × Bytes)) (e rest : Bytes)
    (h : ∀ it ∈ items, it.1 < 2 ^ 32 ∧ it.2.length = 32)
    (he : getDataSerialize items = some e) :
    decodeGetData (e ++ rest) = some (items, rest) := by
  obtain ⟨v, hv, rfl⟩ := getDataSerialize_eq items e (fun it hit => (h it hit).1) he
  simp only [decodeGetData, List.append_assoc, readVarint_encodeVarint _ _ _ hv, Option.bind_eq_bind, Option.bind_some]
  exact decodeInvItems_invBody items rest h

/-- a version message whose fields have their protocol widths -/
def VersionWF (m : Version) : Prop :=
  m.version < 2 ^ 32 ∧ m.services < 2 ^ 64 ∧ m.timestamp < 2 ^ 64 ∧ m.receiverServices < 2 ^ 64 ∧
  m.receiverIp.length = 4 ∧ m.receiverPort < 2 ^ 16 ∧ m.senderServices < 2 ^ 64 ∧ m.senderIp.length = 4 ∧
  m.senderPort < 2 ^ 16 ∧ m.nonce.length = 8 ∧ m.userAgent.length < 2 ^ 63 ∧ m.latestBlock < 2 ^ 32

theorem version_serialize_eq (m : Version) (wf : VersionWF m) :
    ∃ ua, encodeVarstr m.userAgent = some ua ∧
    m.serialize = some (natToLE' 4 m.version ++ natToLE' 8 m.services ++ natToLE' 8 m.timestamp
      ++ natToLE' 8 m.receiverServices ++ ipv4Prefix ++ m.receiverIp ++ natToLE' 2 m.receiverPort
      ++ natToLE' 8 m.senderServices ++ ipv4Prefix ++ m.senderIp ++ natToLE' 2 m.senderPort ++ m.nonce
      ++ ua ++ natToLE' 4 m.latestBlock ++ [if m.relay then 1 else 0]) := by
  obtain ⟨h1, h2, h3, h4, _, h6, h7, _, h9, _, h11, h12⟩ := wf
  obtain ⟨v, hv⟩ := encodeVarint_some (n := m.userAgent.length) (by omega)
  refine ⟨v ++ m.userAgent, by simp [encodeVarstr, hv], ?_⟩
  simp only [Version.serialize, natToLE_some_bits 4 h1, natToLE_some_bits 8 h2, natToLE_some_bits 8 h3,
    natToLE_some_bits 8 h4, natToLE_some_bits 2 h6, natToLE_some_bits 8 h7, natToLE_some_bits 2 h9,
    natToLE_some_bits 4 h12, hv, Option.pure_def, Option.bind_eq_bind, Option.bind_some, List.append_assoc]

/-- `version`: the documented decoder recovers every field of a well-formed message -/
theorem version_decode_serialize (m : Version) (e : Bytes) (wf : VersionWF m) (he : m.serialize = some e) :
    decodeVersion e = some m := by
  obtain ⟨ua, hua, hs⟩ := version_serialize_eq m wf
  obtain ⟨h1, h2, h3, h4, h5, h6, h7, h8, h9, h10, h11, h12⟩ := wf
  obtain rfl := Option.some.inj (hs.symm.trans he)
  simp only [List.append_assoc]
  rw [decodeVersion_layout _ (natToLE'_length 4 _) (natToLE'_length 8 _) (natToLE'_length 8 _) (natToLE'_length 8 _) h5
      (natToLE'_length 2 _) (natToLE'_length 8 _) h8 (natToLE'_length 2 _) h10 h11 hua (natToLE'_length 4 _),
    leToNat_natToLE'_bits 4 h1, leToNat_natToLE'_bits 8 h2, leToNat_natToLE'_bits 8 h3, leToNat_natToLE'_bits 8 h4,
    leToNat_natToLE'_bits 2 h6, leToNat_natToLE'_bits 8 h7, leToNat_natToLE'_bits 2 h9, leToNat_natToLE'_bits 4 h12]
  obtain ⟨_, _, _, _, _, _, _, _, _, _, _, _, relay⟩ := m
  cases relay <;> rfl

example : VersionWF ⟨70015, 0, 1700000000, 0, [127, 0, 0, 1], 8333, 0, [10, 0, 0, 2], 18333,
    [1, 2, 3, 4, 5, 6, 7, 8], [0x2f, 0x62, 0x2f], 800000, true⟩ := by
  unfold VersionWF; simp

/-! ## unique decodability (corollaries of the round trips) -/

/-- compact-size encoding is prefix-free / uniquely decodable -/
theorem varint_prefix_free (n m : Nat) (e₁ e₂ r₁ r₂ : Bytes)
    (h₁ : encodeVarint n = some e₁) (h₂ : encodeVarint m = some e₂) (h : e₁ ++ r₁ = e₂ ++ r₂) :
    n = m ∧ e₁ = e₂ ∧ r₁ = r₂ := by
  obtain ⟨rfl, hr⟩ := RoundTrip.prefix_free (ser := encodeVarint) ⟨e₁, h₁, fun r => varint_roundtrip n e₁ r h₁⟩
    ⟨e₂, h₂, fun r => varint_roundtrip m e₂ r h₂⟩ h₁ h₂ h
  exact ⟨rfl, Option.some.inj (h₁.symm.trans h₂), hr⟩

theorem varint_injective (n m : Nat) (e : Bytes)
    (h₁ : encodeVarint n = some e) (h₂ : encodeVarint m = some e) : n = m :=
  (varint_prefix_free n m e e [] [] h₁ h₂ rfl).1

theorem varstr_prefix_free (a b e₁ e₂ r₁ r₂ : Bytes) (ha : a.length < 2 ^ 63) (hb : b.length < 2 ^ 63)
    (h₁ : encodeVarstr a = some e₁) (h₂ : encodeVarstr b = some e₂) (h : e₁ ++ r₁ = e₂ ++ r₂) :
    a = b ∧ r₁ = r₂ :=
  (varstr_roundTrip ha).prefix_free (varstr_roundTrip hb) h₁ h₂ h

theorem le_injective (n m w : Nat) (b : Bytes) (h₁ : natToLE n w = some b) (h₂ : natToLE m w = some b) :
    n = m := by
  rw [← (le_roundtrip n w b h₁).2, ← (le_roundtrip m w b h₂).2]

theorem be_injective (n m w : Nat) (b : Bytes) (h₁ : natToBE n w = some b) (h₂ : natToBE m w = some b) :
    n = m := by
  rw [← (be_roundtrip n w b h₁).2, ← (be_roundtrip m w b h₂).2]

/-- two well-formed envelopes with the same wire bytes (followed by anything) are the same envelope -/
theorem envelope_prefix_free (hash256 : Bytes → Bytes) (hh : ∀ b, 4 ≤ (hash256 b).length)
    (net : String) (e₁ e₂ : Envelope) (s₁ s₂ r₁ r₂ : Bytes)
    (hm₁ : magicOf net = some e₁.magic) (hc₁ : CmdWF e₁.command) (hp₁ : e₁.payload.length < 2 ^ 32)
    (hm₂ : magicOf net = some e₂.magic) (hc₂ : CmdWF e₂.command) (hp₂ : e₂.payload.length < 2 ^ 32)
    (h₁ : e₁.serialize hash256 = some s₁) (h₂ : e₂.serialize hash256 = some s₂)
    (h : s₁ ++ r₁ = s₂ ++ r₂) : e₁ = e₂ ∧ r₁ = r₂ :=
  (Envelope.roundTrip hash256 hh net e₁ hm₁ hc₁ hp₁).prefix_free (Envelope.roundTrip hash256 hh net e₂ hm₂ hc₂ hp₂) h₁ h₂ h

/-- block headers: serialisation is injective on well-formed headers -/
theorem header_injective (h₁ h₂ : Header) (s : Bytes) (w₁ : HeaderWF h₁) (w₂ : HeaderWF h₂)
    (e₁ : h₁.serialize = some s) (e₂ : h₂.serialize = some s) : h₁ = h₂ := by
  obtain ⟨t₁, ht₁, _, p₁⟩ := header_roundtrip h₁ [] w₁
  obtain ⟨t₂, ht₂, _, p₂⟩ := header_roundtrip h₂ [] w₂
  cases e₁.symm.trans ht₁
  cases e₂.symm.trans ht₂
  rw [p₂] at p₁
  exact (Prod.mk.inj p₁).1.symm

end Buidl.Props.C19
