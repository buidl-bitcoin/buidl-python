/-
  C06 — input verification accepts properly signed spends and nothing unauthorised.

  Model: Buidl.Model.Interp `verifyInput` = the repaired `Tx.verify_input` (structural tests) followed by
  `Script.evaluate` on `script_sig + script_pubkey`, configuration `Cfg.repaired` = /repo with
  work/C06/fix-F06{a,c,d,e,f,g}.diff applied (F06b was repaired by F05f, commit a5beaa1; the bound
  `len(items) >= 2` is re-extracted as Gen.opAnnexMinItems and `sound_p2tr` depends on it).
  Signature verification, key / signature / control-block parsing and the signature hash are ORACLES of
  the environment (`Env.pkErr`, `sigPre`, `ecdsaOK`, `xonlyErr`, `schnorrPre`, `schnorrOK`, `cbErr`,
  `tapCommit`); hash160 / sha256 are arbitrary functions and soundness is stated with collision
  extraction: an accepted spend with another redeem / witness script exhibits two different byte
  strings with the same hash.

  Soundness theorems quantify over EVERY scriptSig (any opcodes, pushes, conditionals), EVERY witness and
  every fuel; completeness theorems are about the scriptSig / witness shapes `finalize_*` builds.
  `parseCommands bytes = some script` hypotheses tie the committed script bytes to their parsed form
  (C04 proves parse ∘ serialize = id).
-/
import Buidl.Proofs.Verify
namespace Buidl.Props.C06
open Buidl Buidl.Script Buidl.Interp

/-- P2PKH, soundness: whatever the scriptSig (any opcodes, any pushes, conditionals) and whatever the
    witness, an accepted spend of `DUP HASH160 <h> EQUALVERIFY CHECKSIG` carries a public key hashing to
    `h` and a signature that verifies for it -/
theorem sound_p2pkh (env : Env) (h : Bytes) (ss : List Cmd) (wit : List Bytes) (fuel : Nat)
    (ha : verifyInput Cfg.repaired env ss (p2pkhCommands h) wit fuel = .accept) :
    ∃ pk tmp, env.hash160 pk = h ∧ EcdsaAuth env pk tmp := by
  obtain ⟨_, ha⟩ := verifyInput_accept ha
  obtain ⟨S, alt, _, ha'⟩ := run_prefix_accept env (p2pkhCommands h) (by simp [p2pkhCommands])
    (by simp [p2pkhCommands]) _ fuel ss [] [] ha
  obtain ⟨pk, tmp, r, _, hh, hauth⟩ := (p2pkh_tail_iff env h S alt _ fuel).mp (run_mono ha' 5)
  exact ⟨pk, tmp, hh, hauth⟩

/-- P2PKH, completeness: the scriptSig `<sig> <pubkey>` that `finalize_p2pkh` builds is accepted when the
    key hashes to `h` and the signature verifies -/
theorem complete_p2pkh (env : Env) (h pk tmp : Bytes) (wit : List Bytes) (hh : env.hash160 pk = h)
    (hauth : EcdsaAuth env pk tmp) (fuel : Nat) (hf : 7 ≤ fuel) :
    verifyInput Cfg.repaired env [.push tmp, .push pk] (p2pkhCommands h) wit fuel = .accept := by
  have hs : structuralReject Cfg.repaired [.push tmp, .push pk] (p2pkhCommands h) = false := by
    simp [structuralReject, p2pkhCommands, isP2sh, isWitnessScript, isP2wpkh, isP2wsh, isP2tr]
  rw [verifyInput_eq hs]
  refine run_of_le (n := 0 + 5 + [tmp, pk].length) ?_ hf
  exact (run_pushes env (p2pkhCommands h) ⟨_, _, rfl, by simp⟩ [tmp, pk] [] [] _ false (0 + 5)).trans
    ((p2pkh_tail_iff env h _ [] _ 0).mpr ⟨pk, tmp, [], rfl, hh, hauth⟩)

/-- native P2WPKH, soundness: for every scriptSig and witness -/
theorem sound_p2wpkh (env : Env) (h : Bytes) (hl : h.length = 20) (ss : List Cmd) (wit : List Bytes) (fuel : Nat)
    (ha : verifyInput Cfg.repaired env ss (p2wpkhSpk h) wit fuel = .accept) :
    ∃ pk tmp, pk ∈ wit ∧ tmp ∈ wit ∧ env.hash160 pk = h ∧ EcdsaAuth env pk tmp := by
  obtain ⟨hs, ha⟩ := verifyInput_accept ha
  obtain rfl := structural_witness_empty (spk := p2wpkhSpk h) (by simp [isWitnessScript, isP2wpkh, p2wpkhSpk, hl]) hs
  exact p2wpkh_program_sound env h hl [] wit fuel ha

/-- native P2WPKH, completeness: empty scriptSig, witness `[sig, pubkey]` -/
theorem complete_p2wpkh (env : Env) (h pk tmp : Bytes) (hl : h.length = 20) (hh : env.hash160 pk = h)
    (hauth : EcdsaAuth env pk tmp) (fuel : Nat) (hf : 9 ≤ fuel) :
    verifyInput Cfg.repaired env [] (p2wpkhSpk h) [tmp, pk] fuel = .accept := by
  rw [verifyInput_eq (by simp [structuralReject, p2wpkhSpk, isP2sh])]
  exact run_of_le (p2wpkh_program_complete env h pk tmp hl hh hauth [] 0) hf

/-- P2SH m-of-n multisig, soundness: for every (push-only, as BIP16 demands) scriptSig an accepted spend
    either exhibits a second preimage of the script hash or carries m signatures that verify, in order,
    for m distinct keys of the redeem script -/
theorem sound_p2sh_multisig (env : Env) (rs : Bytes) (m : Nat) (pks : List Bytes) (hm : 1 ≤ m ∧ m ≤ 16)
    (hn : 1 ≤ pks.length ∧ pks.length ≤ 16) (hparse : parseCommands rs = some (multisigScript m pks))
    (hrs : 1 < rs.length) (hh : (env.hash160 rs).length = 20) (ss : List Cmd) (wit : List Bytes) (fuel : Nat)
    (ha : verifyInput Cfg.repaired env ss (p2shSpk (env.hash160 rs)) wit fuel = .accept) :
    (∃ x, x ≠ rs ∧ env.hash160 x = env.hash160 rs) ∨ MultisigAuth env m pks := by
  rcases p2sh_sound env rs _ hparse (multisigScript_ne_nil m pks) hrs hh ss wit fuel ha with hc | ⟨S, alt, _, ha⟩
  · exact Or.inl hc
  · obtain ⟨hlen, sigs, hsp, hmatch, hpk, hpre⟩ :=
      (multisig_script_iff env m pks hm hn S alt _ fuel).mp (run_mono ha (pks.length + 3))
    exact Or.inr ⟨S.take m, sigs, by simp; omega, hsp, hmatch, hpk, hpre⟩

/-- P2SH m-of-n, completeness: scriptSig `OP_0 <sig_1> … <sig_m> <redeem script>` -/
theorem complete_p2sh_multisig (env : Env) (rs : Bytes) (pks raw : List Bytes) (hm : 1 ≤ raw.length ∧ raw.length ≤ 16)
    (hn : 1 ≤ pks.length ∧ pks.length ≤ 16) (hparse : parseCommands rs = some (multisigScript raw.length pks))
    (hh : (env.hash160 rs).length = 20) (hw : MultisigWitness env pks raw) (wit : List Bytes) (fuel : Nat)
    (hf : raw.length + pks.length + 6 ≤ fuel) :
    verifyInput Cfg.repaired env (.op 0 :: (raw.map .push ++ [.push rs])) (p2shSpk (env.hash160 rs)) wit fuel
      = .accept := by
  obtain ⟨sigs, hsp, hmatch, hpk, hpre⟩ := hw
  have hms : isWitnessScript (multisigScript raw.length pks) = false := by
    cases pks with
    | nil => simp at hn
    | cons a r => simp [multisigScript, isWitnessScript, isP2wpkh, isP2wsh]
  have hs : structuralReject Cfg.repaired (.op 0 :: (raw.map .push ++ [.push rs])) (p2shSpk (env.hash160 rs)) = false := by
    refine (structuralReject_repaired _ _).mpr ⟨fun _ => ⟨by simp [hasOpAbove16], ?_⟩,
      by simp [p2shSpk, isWitnessScript, isP2wpkh, isP2wsh, isP2tr]⟩
    rw [← List.cons_append, nestedWitnessNotAlone_concat _ hparse, hms, Bool.and_false]
  rw [verifyInput_eq hs]
  refine run_of_le (n := ((0 + (pks.length + 3) + 1) + raw.length) + 1) ?_ (by omega)
  rw [List.cons_append, List.append_assoc, List.singleton_append, run_op_ok opIs_0 rfl,
    run_pushes env (.push rs :: p2shSpk (env.hash160 rs)) ⟨_, _, rfl, by simp⟩,
    run_p2sh_push env rs _ hparse (multisigScript_ne_nil _ pks) hh]
  refine (multisig_script_iff env raw.length pks hm hn _ [] _ 0).mpr ⟨by simp, sigs, ?_, hmatch, hpk, hpre⟩
  rw [List.take_left' (by simp)]
  exact hsp

/-- P2SH-P2WPKH, soundness: for every scriptSig and witness -/
theorem sound_p2sh_p2wpkh (env : Env) (rs kh : Bytes) (hkh : kh.length = 20)
    (hparse : parseCommands rs = some (p2wpkhSpk kh)) (hrs : 1 < rs.length)
    (hh : (env.hash160 rs).length = 20) (ss : List Cmd) (wit : List Bytes) (fuel : Nat)
    (ha : verifyInput Cfg.repaired env ss (p2shSpk (env.hash160 rs)) wit fuel = .accept) :
    (∃ x, x ≠ rs ∧ env.hash160 x = env.hash160 rs) ∨
    (∃ pk tmp, pk ∈ wit ∧ tmp ∈ wit ∧ env.hash160 pk = kh ∧ EcdsaAuth env pk tmp) := by
  rcases p2sh_sound env rs _ hparse (by simp [p2wpkhSpk]) hrs hh ss wit fuel ha with hc | ⟨S, alt, he, ha⟩
  · exact Or.inl hc
  · obtain ⟨rfl, rfl⟩ := he (by simp [isWitnessScript, isP2wpkh, p2wpkhSpk, hkh])
    exact Or.inr (p2wpkh_program_sound env kh hkh [] wit fuel ha)

/-- P2SH-P2WPKH, completeness: scriptSig `[redeem script]`, witness `[sig, pubkey]` -/
theorem complete_p2sh_p2wpkh (env : Env) (rs kh pk tmp : Bytes) (hkh : kh.length = 20)
    (hparse : parseCommands rs = some (p2wpkhSpk kh)) (hh : (env.hash160 rs).length = 20)
    (hk : env.hash160 pk = kh) (hauth : EcdsaAuth env pk tmp) (fuel : Nat) (hf : 10 ≤ fuel) :
    verifyInput Cfg.repaired env [.push rs] (p2shSpk (env.hash160 rs)) [tmp, pk] fuel = .accept := by
  rw [verifyInput_eq (structural_p2sh_single env rs hh)]
  refine run_of_le (n := 0 + 9 + 1) ?_ hf
  exact (run_p2sh_push env rs _ hparse (by simp [p2wpkhSpk]) hh _ [] [] _ false).trans
    (p2wpkh_program_complete env kh pk tmp hkh hk hauth [] 0)

/-- native P2WSH m-of-n multisig, soundness: for every scriptSig and witness -/
theorem sound_p2wsh_multisig (env : Env) (ws : Bytes) (m : Nat) (pks : List Bytes) (hm : 1 ≤ m ∧ m ≤ 16)
    (hn : 1 ≤ pks.length ∧ pks.length ≤ 16) (hparse : parseCommands ws = some (multisigScript m pks))
    (hh : (env.sha256 ws).length = 32) (ss : List Cmd) (wit : List Bytes) (fuel : Nat)
    (ha : verifyInput Cfg.repaired env ss (p2wshSpk (env.sha256 ws)) wit fuel = .accept) :
    (∃ x, x ≠ ws ∧ env.sha256 x = env.sha256 ws) ∨ MultisigAuth env m pks := by
  obtain ⟨hs, ha⟩ := verifyInput_accept ha
  obtain rfl := structural_witness_empty (spk := p2wshSpk (env.sha256 ws))
    (by simp [isWitnessScript, isP2wsh, p2wshSpk, hh]) hs
  exact p2wsh_multisig_sound env ws m pks hm hn hparse hh [] _ fuel ha

/-- native P2WSH m-of-n, completeness: witness `<> <sig_1> … <sig_m> <witness script>` -/
theorem complete_p2wsh_multisig (env : Env) (ws : Bytes) (pks raw : List Bytes)
    (hm : 1 ≤ raw.length ∧ raw.length ≤ 16) (hn : 1 ≤ pks.length ∧ pks.length ≤ 16)
    (hparse : parseCommands ws = some (multisigScript raw.length pks)) (hh : (env.sha256 ws).length = 32)
    (hw : MultisigWitness env pks raw) (fuel : Nat) (hf : raw.length + pks.length + 7 ≤ fuel) :
    verifyInput Cfg.repaired env [] (p2wshSpk (env.sha256 ws)) ([] :: raw ++ [ws]) fuel = .accept := by
  rw [verifyInput_eq (by simp [structuralReject, p2wshSpk, isP2sh])]
  exact run_of_le (p2wsh_multisig_complete env ws pks raw hm hn hparse hh hw [] 0) (by omega)

/-- P2SH-P2WSH m-of-n multisig, soundness: for every scriptSig and witness -/
theorem sound_p2sh_p2wsh_multisig (env : Env) (rs ws : Bytes) (m : Nat) (pks : List Bytes) (hm : 1 ≤ m ∧ m ≤ 16)
    (hn : 1 ≤ pks.length ∧ pks.length ≤ 16) (hparseW : parseCommands ws = some (multisigScript m pks))
    (hw32 : (env.sha256 ws).length = 32) (hparseR : parseCommands rs = some (p2wshSpk (env.sha256 ws)))
    (hrs : 1 < rs.length) (hh : (env.hash160 rs).length = 20) (ss : List Cmd) (wit : List Bytes) (fuel : Nat)
    (ha : verifyInput Cfg.repaired env ss (p2shSpk (env.hash160 rs)) wit fuel = .accept) :
    (∃ x, x ≠ rs ∧ env.hash160 x = env.hash160 rs) ∨ (∃ x, x ≠ ws ∧ env.sha256 x = env.sha256 ws) ∨
    MultisigAuth env m pks := by
  rcases p2sh_sound env rs _ hparseR (by simp [p2wshSpk]) hrs hh ss wit fuel ha with hc | ⟨S, alt, he, ha⟩
  · exact Or.inl hc
  · obtain ⟨rfl, rfl⟩ := he (by simp [isWitnessScript, isP2wsh, p2wshSpk, hw32])
    exact Or.inr (p2wsh_multisig_sound env ws m pks hm hn hparseW hw32 [] _ fuel ha)

/-- P2SH-P2WSH m-of-n, completeness: scriptSig `[redeem script]`, witness `<> <sig_1> … <sig_m> <witness script>` -/
theorem complete_p2sh_p2wsh_multisig (env : Env) (rs ws : Bytes) (pks raw : List Bytes)
    (hm : 1 ≤ raw.length ∧ raw.length ≤ 16) (hn : 1 ≤ pks.length ∧ pks.length ≤ 16)
    (hparseW : parseCommands ws = some (multisigScript raw.length pks)) (hw32 : (env.sha256 ws).length = 32)
    (hparseR : parseCommands rs = some (p2wshSpk (env.sha256 ws))) (hh : (env.hash160 rs).length = 20)
    (hw : MultisigWitness env pks raw) (fuel : Nat) (hf : raw.length + pks.length + 8 ≤ fuel) :
    verifyInput Cfg.repaired env [.push rs] (p2shSpk (env.hash160 rs)) ([] :: raw ++ [ws]) fuel = .accept := by
  rw [verifyInput_eq (structural_p2sh_single env rs hh)]
  refine run_of_le (n := 0 + (raw.length + pks.length + 6) + 1) ?_ (by omega)
  exact (run_p2sh_push env rs _ hparseR (by simp [p2wshSpk]) hh _ [] [] _ false).trans
    (p2wsh_multisig_complete env ws pks raw hm hn hparseW hw32 hw [] 0)

/-- P2TR, soundness: for every scriptSig and witness an accepted spend of `OP_1 <x>` is a key-path spend
    with a Schnorr signature that verifies for the output key `x`, or a script-path spend whose control
    block commits the executed script BYTES to `x` (`tapCommit` = taproot tweak of the leaf/branch hashes)
    and whose script (run with the tapscript table on the remaining witness items) accepts -/
theorem sound_p2tr (env : Env) (x : Bytes) (hl : x.length = 32) (ss : List Cmd) (wit : List Bytes) (fuel : Nat)
    (ha : verifyInput Cfg.repaired env ss (p2trSpk x) wit fuel = .accept) :
    ∃ items, (items = wit ∨ items = wit.dropLast) ∧
      ((∃ sig, items = [sig] ∧ schnorrCheck env x sig = .ok (some true)) ∨ ScriptPath env x [] items) := by
  obtain ⟨hs, ha⟩ := verifyInput_accept ha
  obtain rfl := structural_witness_empty (spk := p2trSpk x) (by simp [isP2tr, p2trSpk, hl]) hs
  obtain ⟨items0, items, hw, hor, hcase⟩ := run_p2tr_accept env x hl [] _ fuel ha
  obtain rfl := witOpt_eq_some hw
  exact ⟨items, hor, hcase⟩

/-- P2TR key path, completeness: witness `[sig]` with a signature the output key verifies -/
theorem complete_p2tr_keypath (env : Env) (x sig : Bytes) (hl : x.length = 32)
    (hv : schnorrCheck env x sig = .ok (some true)) (fuel : Nat) (hf : 2 ≤ fuel) :
    verifyInput Cfg.repaired env [] (p2trSpk x) [sig] fuel = .accept := by
  rw [verifyInput_eq (by simp [structuralReject, p2trSpk, isP2sh])]
  exact run_of_le (run_p2tr_keypath env x sig hl hv [] 0) hf

/-- a single-key tapscript leaf `<x> CHECKSIG` (P2PKTapScript, 1-of-1 MultiSigTapScript, MuSigTapScript)
    accepts only with a non-empty signature on top that verifies for `x` -/
theorem tapleaf_single_sound (env : Env) (x0 : Bytes) (items : List Bytes) (alt : Stack)
    (wit : Option (List Bytes)) (fuel : Nat)
    (ha : run Cfg.repaired env fuel ⟨items.map .push ++ [.push x0, .op 0xAC], [], alt, wit, true⟩ = .accept) :
    ∃ sig rest, items.reverse = sig :: rest ∧ schnorrCheck env x0 sig = .ok (some true) := by
  have ha1 := run_pushes_accept env [.push x0, .op 0xAC] ⟨_, _, rfl, by simp⟩ items [] alt wit true fuel ha
  rw [List.append_nil] at ha1
  exact (tapleaf_single_iff env x0 _ alt wit fuel).mp (run_mono ha1 2)

/-- a k-of-n MultiSigTapScript leaf (n ≥ 2) executed on the witness items of a script-path spend accepts
    only if exactly `k` of the signatures, one per key in script order, verify -/
theorem tapleaf_multisig_sound (env : Env) (x0 : Bytes) (xs : List Bytes) (k : Nat) (hk : 1 ≤ k ∧ k ≤ 16)
    (hxs : xs ≠ []) (items : List Bytes) (alt : Stack) (wit : Option (List Bytes)) (fuel : Nat)
    (ha : run Cfg.repaired env fuel ⟨items.map .push ++ tapMultisigScript x0 xs k, [], alt, wit, true⟩ = .accept) :
    ∃ sigs rest, items.reverse = sigs ++ rest ∧ sigs.length = xs.length + 1 ∧
      countValid env (x0 :: xs) sigs = k := by
  have ha1 := run_pushes_accept env (tapMultisigScript x0 xs k) ⟨_, _, rfl, by simp⟩ items [] alt wit true fuel ha
  rw [List.append_nil] at ha1
  obtain ⟨sigs, rest, hS, hok, hcnt⟩ := (tapMultisig_iff env x0 xs k hk _ alt wit fuel).mp (run_mono ha1 _)
  exact ⟨sigs, rest, hS, hok.length_eq, hcnt⟩

/-- P2TR script path with a k-of-n MultiSigTapScript leaf (n ≥ 2), completeness: witness
    `<sig_{n-1}|empty> … <sig_0|empty> <script> <control block>` where the control block commits the script
    bytes to the output key and exactly `k` of the signatures verify for their key -/
theorem complete_p2tr_scriptpath (env : Env) (x : Bytes) (hl : x.length = 32) (w : List Bytes)
    (rawTap cb v rest : Bytes) (tapScript : Script.Script) (b0 : UInt8) (r0 : Bytes) (hcb : cb = b0 :: r0)
    (hb0 : b0.toNat ≠ 80) (hcbe : env.cbErr cb = none) (hv : encodeVarstr rawTap = some v)
    (hparse : Script.parse v = some (tapScript, rest)) (hraw : rawTap ≠ [])
    (htc : env.tapCommit cb rawTap = .ok (x, true))
    (x0 : Bytes) (xs : List Bytes) (k : Nat) (hk : 1 ≤ k ∧ k ≤ 16) (hxs : xs ≠ [])
    (hscript : tapScript.cmds = tapMultisigScript x0 xs k)
    (hok : ChecksOK env (x0 :: xs) w.reverse) (hcnt : countValid env (x0 :: xs) w.reverse = k)
    (fuel : Nat) (hf : w.length + 2 * xs.length + 6 ≤ fuel) :
    verifyInput Cfg.repaired env [] (p2trSpk x) (w ++ [rawTap, cb]) fuel = .accept := by
  obtain ⟨f, rfl⟩ : ∃ f, fuel = f + (2 * xs.length + 4) + w.length + 2 := ⟨fuel - (w.length + 2 * xs.length + 6), by omega⟩
  rw [verifyInput_p2tr_scriptpath ⟨⟨b0, r0, hcb, hb0⟩, hcbe, ⟨v, rest, hv, hparse⟩, hraw, htc⟩ hl
    (hscript ▸ ⟨_, _, rfl, nofun⟩), hscript]
  exact (tapMultisig_iff env x0 xs k hk _ [] _ f).mpr ⟨w.reverse, [], (List.append_nil _).symm, hok, hcnt⟩

/-! ## the repairs are needed: today's code (Cfg.preC06 = /repo at a5beaa1) on concrete inputs -/

/-- F06a: 1-of-1 CHECKMULTISIG with a signature that the key does not verify: today's loop falls through
    and pushes 1; repaired it fails -/
theorem F06a_witness :
    op_checkmultisig Cfg.preC06 wEnv [[1], victimPk, [1], [0x30, 1], []] = .ok [[1]] ∧
    op_checkmultisig Cfg.repaired wEnv [[1], victimPk, [1], [0x30, 1], []] = .fail := by decide

/-- F06c: a native P2WPKH output, scriptSig `<01>`, no witness: no rule fires, the 20-byte program is the
    (true) top of the stack -/
theorem F06c_witness :
    verifyInput Cfg.preC06 wEnv [.push [1]] (p2wpkhSpk (List.replicate 20 2)) [] 50 = .accept ∧
    verifyInput Cfg.repaired wEnv [.push [1]] (p2wpkhSpk (List.replicate 20 2)) [] 50 = .reject := by decide

/-- F06d: P2SH, scriptSig `<redeem> OP_NOP`: the BIP16 rule needs the redeem script to be the last
    command, so the redeem script is hashed and compared but never run -/
theorem F06d_witness :
    verifyInput Cfg.preC06 wEnv [.push (List.replicate 20 0x6a), .op 0x61] (p2shSpk (List.replicate 20 0x6a)) [] 50
      = .accept ∧
    verifyInput Cfg.repaired wEnv [.push (List.replicate 20 0x6a), .op 0x61] (p2shSpk (List.replicate 20 0x6a)) [] 50
      = .reject := by decide +kernel

/-- F06e: P2SH-P2WPKH, scriptSig `<01> <redeem>`, no witness: the junk element keeps the stack from having
    the two-element shape of a witness program, nothing is checked -/
theorem F06e_witness :
    verifyInput Cfg.preC06 wEnv [.push [1], .push ([0x00, 0x14] ++ List.replicate 20 2)]
      (p2shSpk (List.take 20 ([0x00, 0x14] ++ List.replicate 20 2))) [] 50 = .accept ∧
    verifyInput Cfg.repaired wEnv [.push [1], .push ([0x00, 0x14] ++ List.replicate 20 2)]
      (p2shSpk (List.take 20 ([0x00, 0x14] ++ List.replicate 20 2))) [] 50 = .reject := by decide

/-- F06f: P2PKH of the victim's key, scriptSig `OP_0 <h_att> <bad sig> <victim pk>` and the attacker's
    `[sig, pk]` as witness: the P2WPKH rule fires inside the scriptSig, the victim's CHECKSIG only pushes 0
    and the attacker's own P2PKH commands, appended last, decide -/
theorem F06f_witness :
    verifyInput Cfg.preC06 wEnv
      [.op 0, .push (List.replicate 20 3), .push [0x30, 1], .push victimPk] (p2pkhCommands (List.replicate 20 2))
      [[0x31, 1], attackerPk] 50 = .accept ∧
    verifyInput Cfg.repaired wEnv
      [.op 0, .push (List.replicate 20 3), .push [0x30, 1], .push victimPk] (p2pkhCommands (List.replicate 20 2))
      [[0x31, 1], attackerPk] 50 = .reject := by decide +kernel

/-- F06g: the output commits to the leaf script bytes `01 aa 75 51`; the witness carries `4c 01 aa 75 51`
    (same commands, non-minimal push): today the parsed script is re-serialised before hashing, so the
    commitment check passes -/
theorem F06g_witness :
    verifyInput Cfg.preC06 wEnv [] (p2trSpk (List.replicate 32 7)) [[0x4c, 0x01, 0xaa, 0x75, 0x51], 0xc0 :: List.replicate 32 9] 50
      = .accept ∧
    verifyInput Cfg.repaired wEnv [] (p2trSpk (List.replicate 32 7)) [[0x4c, 0x01, 0xaa, 0x75, 0x51], 0xc0 :: List.replicate 32 9] 50
      = .err .valueError ∧
    verifyInput Cfg.repaired wEnv [] (p2trSpk (List.replicate 32 7)) [[0x01, 0xaa, 0x75, 0x51], 0xc0 :: List.replicate 32 9] 50
      = .accept := by decide +kernel

/-- F06b (repaired by F05f, a5beaa1): a lone `50…` element is not an annex; it is taken as a key-path
    signature and fails -/
theorem F06b_fixed :
    hasAnnex [[0x50]] = .ok false ∧ hasAnnex [[1], [0x50, 1]] = .ok true ∧
    verifyInput Cfg.repaired wEnv [] (p2trSpk (List.replicate 32 7)) [[0x50]] 50 = .reject := by decide

end Buidl.Props.C06
